/- WD.Rst: no call of the trick blocks for ever.  In a reachable state in which nothing can run and no timed wait is
   pending, every thread has ended - except the debouncer, which may be waiting for a first event while nobody has
   stopped it.  In particular no thread is inside `start()`, `dispatch()` or `stop()`. -/
import WD.Proofs.Restart.Step
namespace WD.ProofsRst
open WD.Rst

/-- waits that end by themselves when the clock advances -/
def timedPc : Pc → Bool
  | .sleeping _ | .spSleep _ _ _ | .wWait _ | .dWaitMore _ => true
  | _ => false

/-- nothing can run and no deadline is pending: the state will never change again -/
def Stuck (s : State) : Prop :=
  (∀ i, enabled s i = false) ∧ (∀ (i : Nat) (t : Thread), s.threads[i]? = some t → timedPc t.pc = false)

theorem Stuck.noMove {s : State} (h : Stuck s) (hm : CanMove s) : False := by
  rcases hm with ⟨i, hi⟩ | ⟨i, ti, kt, dl, a, hti, hpc⟩
  · rw [h.1 i] at hi; cases hi
  · have := h.2 i ti hti; rw [hpc] at this; cases this

theorem Stuck.notEnabled {s : State} (h : Stuck s) {i : Nat} {t : Thread} (ht : s.threads[i]? = some t)
    (he : enabledT s t = true) : False := by
  have := h.1 i
  simp only [enabled, ht] at this
  rw [he] at this; cases this

theorem Stuck.condFree {s : State} (r : Reach s) (h : Stuck s) : s.condHeld = false := by
  cases hh : s.condHeld with
  | false => rfl
  | true =>
    obtain ⟨d, k, pc, _, hkd, _, hcb⟩ := r.ch.held hh
    obtain ⟨td, htd, _, rfl⟩ := kp_some hkd
    exact (h.noMove (cb_progress r.inv d td htd hcb)).elim

/-- the pcs a stuck state can leave a thread at: every other one can be left by a step, is a timed wait, or is a wait for
    a lock whose holder can move -/
theorem Stuck.idlePc {s : State} (r : Reach s) (h : Stuck s) {i : Nat} {t : Thread} (ht : s.threads[i]? = some t) :
    t.pc = .done ∨ t.pc = .dWaitFirst ∨ (∃ ws, t.pc = .stJoinDeb ws) ∨ (∃ w rest, t.pc = .stJoinW w rest) := by
  have timed : timedPc t.pc = true → False := fun e => by rw [h.2 i t ht] at e; cases e
  have lockS : waitsS t.pc = true → False := fun e => h.noMove (Or.inl (waitS_progress s i t ht e))
  have lockR : waitsR t.pc = true → False := fun e => h.noMove (waitR_progress r.inv i t ht e)
  cases hpc : t.pc with
  | done => exact Or.inl rfl
  | dWaitFirst => exact Or.inr (Or.inl rfl)
  | stJoinDeb ws => exact Or.inr (Or.inr (Or.inl ⟨ws, rfl⟩))
  | stJoinW w rest => exact Or.inr (Or.inr (Or.inr ⟨w, rest, rfl⟩))
  | sleeping dl => exact (timed (by rw [hpc]; rfl)).elim
  | spSleep kt dl a => exact (timed (by rw [hpc]; rfl)).elim
  | wWait dl => exact (timed (by rw [hpc]; rfl)).elim
  | dWaitMore dl => exact (timed (by rw [hpc]; rfl)).elim
  | saSAcq => exact (lockS (by rw [hpc]; rfl)).elim
  | stAcq => exact (lockS (by rw [hpc]; rfl)).elim
  | spAcq a => exact (lockS (by rw [hpc]; rfl)).elim
  | saRAcq => exact (lockR (by rw [hpc]; rfl)).elim
  | rAcq => exact (lockR (by rw [hpc]; rfl)).elim
  | stRAcq => exact (lockR (by rw [hpc]; rfl)).elim
  | begin => exact (h.notEnabled ht (by simp [enabledT, hpc])).elim
  | saDebStarted => exact (h.notEnabled ht (by simp [enabledT, hpc])).elim
  | saStarted => exact (h.notEnabled ht (by simp [enabledT, hpc])).elim
  | rStarted => exact (h.notEnabled ht (by simp [enabledT, hpc])).elim
  | evCond => exact (h.notEnabled ht (by simp [enabledT, hpc, h.condFree r])).elim
  | stCond => exact (h.notEnabled ht (by simp [enabledT, hpc, h.condFree r])).elim
  | dAcq => exact (h.notEnabled ht (by simp [enabledT, hpc, h.condFree r])).elim

theorem Stuck.flaggedDebMoves {s : State} (r : Reach s) (h : Stuck s) {d : Nat} {td : Thread} (htd : s.threads[d]? = some td)
    (hk : td.kind = .deb) (hp : td.pc = .dWaitFirst) (hf : s.stopFlagOf d = true) : False := by
  have hkp : kp s d = some (Kind.deb, Pc.dWaitFirst) := by simp [kp, htd, hk, hp]
  have hn := r.fi.c2 d (by simp) hkp hf
  exact h.notEnabled htd (by simp [enabledT, hp, hn, h.condFree r])

/-- **no deadlock**: in a reachable stuck state every thread has ended, or is the debouncer waiting for a first event
    with its stop flag down -/
theorem stuck_idle {s : State} (r : Reach s) (h : Stuck s) (i : Nat) (t : Thread) (ht : s.threads[i]? = some t) :
    t.pc = .done ∨ (t.pc = .dWaitFirst ∧ t.kind = .deb ∧ t.stopFlag = false) := by
  have hme : kp s i = some (t.kind, t.pc) := by simp [kp, ht]
  rcases h.idlePc r ht with hpc | hpc | ⟨ws, hpc⟩ | ⟨w, rest, hpc⟩
  · exact Or.inl hpc
  · have hk : t.kind = .deb := by
      have := r.ch.dty i _ _ (by simp) hme (by rw [hpc]; rfl)
      cases hk : t.kind <;> rw [hk] at this <;> first | rfl | cases this
    refine Or.inr ⟨hpc, hk, ?_⟩
    cases hf : t.stopFlag with
    | false => rfl
    | true => exact (h.flaggedDebMoves r ht hk hpc (by simp [State.stopFlagOf, ht, hf])).elim
  · exfalso
    -- the join waits for the debouncer thread, which cannot be where a stuck state would leave it
    have hts : s.trickStopping = true := (r.inv.pcs i t.pc (pcOf_eq s i t ht)).2.2.1 (by rw [hpc]; rfl)
    cases hdt : s.debTid with
    | none => exact h.notEnabled ht (by simp [enabledT, hpc, hdt])
    | some d =>
      obtain ⟨pcd, hkd⟩ := r.fi.dk d hdt
      obtain ⟨td, htd, hkk, rfl⟩ := kp_some hkd
      have htyp : debPc td.pc = true := r.deb.typed d _ _ (by simp) hkd rfl
      rcases h.idlePc r htd with hpd | hpd | ⟨_, hpd⟩ | ⟨_, _, hpd⟩
      · exact h.notEnabled ht (by simp [enabledT, hpc, hdt, State.isDone, htd, hpd])
      · -- its flag is up, or the stopping thread is still at `event_debouncer.stop()`, which can run
        rcases r.fi.c3 hts d hdt with hf | ⟨j, k', _, hkj⟩
        · exact h.flaggedDebMoves r htd hkk hpd hf
        · obtain ⟨tj, htj, _, hpj⟩ := kp_some hkj
          exact h.notEnabled htj (by simp [enabledT, hpj, h.condFree r])
      · rw [hpd] at htyp; cases htyp
      · rw [hpd] at htyp; cases htyp
  · exfalso
    obtain ⟨pid, pcw, hkw⟩ := r.wi.wk i _ _ w (by simp) hme (by rw [hpc]; exact List.mem_cons_self)
    obtain ⟨tw, htw, hkk, rfl⟩ := kp_some hkw
    have htyp : wPc tw.pc = true := r.wi.ty w _ _ (by simp) hkw rfl
    rcases h.idlePc r htw with hpw | hpw | ⟨_, hpw⟩ | ⟨_, _, hpw⟩
    · exact h.notEnabled ht (by simp [enabledT, hpc, State.isDone, htw, hpw])
    · rw [hpw] at htyp; cases htyp
    · rw [hpw] at htyp; cases htyp
    · rw [hpw] at htyp; cases htyp

/-- once the working `stop()` has returned, a stuck state is one in which every thread has ended -/
theorem stuck_all_done_after_stop {s : State} (r : Reach s) (h : Stuck s) (hs : ∃ o ∈ s.hist, isStopRet o = true)
    (i : Nat) (t : Thread) (ht : s.threads[i]? = some t) : t.pc = .done := by
  rcases stuck_idle r h i t ht with hd | ⟨hp, hk, _⟩
  · exact hd
  · exact r.deb.gone (Or.inr hs) i t.kind t.pc (by simp) (by simp [kp, ht]) (by rw [hk]; rfl)

def stuckB (s : State) : Bool :=
  (List.range s.threads.length).all (fun i => !enabled s i) && s.threads.all (fun t => !timedPc t.pc)

theorem stuck_of_stuckB {s : State} (h : stuckB s = true) : Stuck s := by
  simp only [stuckB, Bool.and_eq_true, List.all_eq_true, List.mem_range, Bool.not_eq_true'] at h
  refine ⟨fun i => ?_, fun i t ht => ?_⟩
  · by_cases hi : i < s.threads.length
    · exact h.1 i hi
    · simp [enabled, List.getElem?_eq_none (Nat.le_of_not_lt hi)]
  · exact h.2 t (List.mem_of_getElem? ht)

end WD.ProofsRst
