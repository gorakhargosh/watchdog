/- WD.Rst: the helper threads.  Every watcher thread other than the current `process_watcher` has been told to stop;
   when there is no current child there is no current watcher; hence once the working stop() has returned every
   watcher thread has been told to stop (or has ended) - none keeps polling a child for ever. -/
import WD.Proofs.Restart.Inv
namespace WD.ProofsRst
open WD.Rst

def isWatcher : Kind → Bool
  | .watcher _ => true
  | _ => false

/-- `x`: a thread whose pc is about to be overwritten (its own "sleeping ⇒ no current watcher" is not required) -/
structure WatX (s : State) (x : Option Nat) : Prop where
  flag : ∀ j t, s.threads[j]? = some t → isWatcher t.kind = true → s.watcher = some j ∨ t.stopFlag = true
  pnone : s.process = none → s.watcher = none
  sleep : ∀ j pc, some j ≠ x → pcOf s j = some pc → isSleep pc = true → s.watcher = none

abbrev Wat (s : State) : Prop := WatX s none

theorem Wat.toX {s : State} (h : Wat s) (x : Option Nat) : WatX s x :=
  ⟨h.flag, h.pnone, fun j pc _ hpc hs => h.sleep j pc (by simp) hpc hs⟩

theorem WatX_congr' {s s' : State} {x : Option Nat} (h : WatX s x) (h1 : s'.threads = s.threads) (h2 : s'.watcher = s.watcher)
    (h3 : s'.process = none → s.process = none ∨ s.watcher = none) : WatX s' x :=
  ⟨fun j t ht hk => by rw [h2]; exact h.flag j t (by rwa [h1] at ht) hk,
   fun hp => by rw [h2]; rcases h3 hp with e | e; exact h.pnone e; exact e,
   fun j pc hx hpc hs => by rw [h2]; exact h.sleep j pc hx (by simpa [pcOf, h1] using hpc) hs⟩

theorem WatX_congr {s s' : State} {x : Option Nat} (h : WatX s x) (h1 : s'.threads = s.threads) (h2 : s'.watcher = s.watcher)
    (h3 : s'.process = s.process) : WatX s' x :=
  WatX_congr' h h1 h2 (fun hp => Or.inl (by rwa [h3] at hp))

theorem threads_setThread_get {s : State} {i j : Nat} {t t' : Thread} (h : (s.setThread i t).threads[j]? = some t') :
    (j = i ∧ t' = t ∧ i < s.threads.length) ∨ (j ≠ i ∧ s.threads[j]? = some t') := by
  simp only [setThread_threads, List.getElem?_set] at h
  by_cases hij : i = j
  · subst hij
    by_cases hl : i < s.threads.length
    · simp [hl] at h; exact Or.inl ⟨rfl, h.symm, hl⟩
    · simp [hl] at h
  · simp [hij] at h; exact Or.inr ⟨fun e => hij e.symm, h⟩

theorem WatX_setThread {s : State} {i : Nat} {t0 t : Thread} (h : WatX s (some i)) (h0 : s.threads[i]? = some t0)
    (hk : t.kind = t0.kind) (hf : t.stopFlag = t0.stopFlag) (hs : isSleep t.pc = false ∨ s.watcher = none) :
    Wat (s.setThread i t) := by
  refine ⟨?_, by simpa using h.pnone, ?_⟩
  · intro j t' ht' hw
    rcases threads_setThread_get ht' with ⟨rfl, rfl, _⟩ | ⟨_, hj⟩
    · have := h.flag j t0 h0 (by rwa [hk] at hw)
      simpa [hf] using this
    · simpa using h.flag j t' hj hw
  · intro j pc _ hpc hsl
    rw [pcOf_setThread] at hpc
    split at hpc
    · cases hpc
      rcases hs with e | e
      · rw [e] at hsl; cases hsl
      · simpa using e
    · next hne =>
      have hji : some j ≠ some i := by
        intro e
        have e' : j = i := by cases e; rfl
        by_cases hl : j < s.threads.length
        · exact hne ⟨e'.symm, e' ▸ hl⟩
        · rw [pcOf, List.getElem?_eq_none (by omega)] at hpc; cases hpc
      simpa using h.sleep j pc hji hpc hsl

theorem WatX_setPc {s : State} {i : Nat} (h : WatX s (some i)) (pc : Pc) (hs : isSleep pc = false ∨ s.watcher = none) :
    Wat (s.setPc i pc) := by
  unfold State.setPc
  split
  · next t ht => exact WatX_setThread h ht rfl rfl hs
  · next hn =>
    refine ⟨h.flag, h.pnone, ?_⟩
    intro j pc' _ hpc hsl
    refine h.sleep j pc' ?_ hpc hsl
    intro e; cases e
    rw [pcOf, hn] at hpc; cases hpc

theorem WatX_setStopFlag {s : State} {x : Option Nat} (h : WatX s x) (w : Nat) : WatX (s.setStopFlag w) x := by
  refine ⟨?_, by simpa using h.pnone, fun j pc hx hpc hs => by simpa using h.sleep j pc hx (by rwa [pcOf_setStopFlag] at hpc) hs⟩
  intro j t' ht' hk
  unfold State.setStopFlag at ht'
  split at ht'
  · next t ht =>
    rcases threads_setThread_get ht' with ⟨rfl, rfl, _⟩ | ⟨_, hj⟩
    · right; rfl
    · simpa using h.flag j t' hj hk
  · simpa using h.flag j t' ht' hk

/-- `process_watcher.stop(); process_watcher = None` -/
theorem WatX_stopWatcher {s : State} {x : Option Nat} (h : WatX s x) : WatX s.stopWatcher x ∧ s.stopWatcher.watcher = none := by
  unfold State.stopWatcher
  split
  · next w hw =>
    refine ⟨⟨?_, fun _ => rfl, fun _ _ _ _ _ => rfl⟩, rfl⟩
    intro j t' ht' hk
    right
    have ht'' : (s.setStopFlag w).threads[j]? = some t' := ht'
    unfold State.setStopFlag at ht''
    split at ht''
    · next t ht =>
      rcases threads_setThread_get ht'' with ⟨rfl, rfl, _⟩ | ⟨hne, hj⟩
      · rfl
      · rcases h.flag j t' hj hk with e | e
        · rw [hw] at e; cases e; exact absurd rfl hne
        · exact e
    · next hn =>
      rcases h.flag j t' ht'' hk with e | e
      · rw [hw] at e; cases e; rw [ht''] at hn; cases hn
      · exact e
  · next hw => exact ⟨h, hw⟩

theorem WatX_append_other {s s' : State} {x : Option Nat} (h : WatX s x) (t0 : Thread) (hk : isWatcher t0.kind = false)
    (hp : t0.pc = .begin) (h1 : s'.threads = s.threads ++ [t0]) (h2 : s'.watcher = s.watcher) (h3 : s'.process = s.process) :
    WatX s' x := by
  refine ⟨?_, fun hp => by rw [h2]; exact h.pnone (by rwa [h3] at hp), ?_⟩
  · intro j t ht hw
    rw [h1, List.getElem?_append] at ht
    split at ht
    · rw [h2]; exact h.flag j t ht hw
    · next hl =>
      cases hk' : j - s.threads.length with
      | zero => simp [hk'] at ht; subst ht; rw [hk] at hw; cases hw
      | succ n => simp [hk'] at ht
  · intro j pc hx hpc hs
    rw [pcOf_append t0 h1] at hpc
    split at hpc
    · rw [h2]; exact h.sleep j pc hx hpc hs
    · split at hpc
      · cases hpc; rw [hp] at hs; cases hs
      · cases hpc

theorem WatX_append_watcher {s s' : State} {x : Option Nat} (h : WatX s x) (hwn : s.watcher = none) (pid : Nat)
    (h1 : s'.threads = s.threads ++ [{ kind := .watcher pid, pc := .begin }]) (h2 : s'.watcher = some s.threads.length)
    (h3 : s'.process ≠ none) (hns : ∀ j pc, some j ≠ x → pcOf s j = some pc → isSleep pc = false) : WatX s' x := by
  refine ⟨?_, fun hp => absurd hp h3, ?_⟩
  · intro j t ht hw
    rw [h1, List.getElem?_append] at ht
    split at ht
    · next hl =>
      right
      rcases h.flag j t ht hw with e | e
      · rw [hwn] at e; cases e
      · exact e
    · next hl =>
      cases hk' : j - s.threads.length with
      | zero => left; rw [h2]; congr 1; omega
      | succ n => simp [hk'] at ht
  · intro j pc hx hpc hs
    rw [pcOf_append _ h1] at hpc
    split at hpc
    · rw [hns j pc hx hpc] at hs; cases hs
    · split at hpc
      · cases hpc; cases hs
      · cases hpc

def NoOtherSleep (s : State) (i : Nat) : Prop := ∀ j pc, some j ≠ some i → pcOf s j = some pc → isSleep pc = false

theorem kill_wat {s : State} {x : Option Nat} (h : WatX s x) (pid sig : Nat) : WatX (s.kill pid sig) x := by
  refine WatX_congr h (by simp) ?_ (by simp)
  unfold State.kill; split <;> rfl

theorem notify_wat {s : State} {x : Option Nat} (h : WatX s x) : WatX s.notify x := by
  rcases notify_eq s with e | e <;> rw [e]
  · exact h
  · exact WatX_congr h rfl rfl rfl

theorem init_wat (cfg : Cfg) (lifetimes : List (Option Nat)) (scripts : List (List Op)) : Wat (init cfg lifetimes scripts) := by
  refine ⟨?_, fun _ => rfl, fun _ _ _ _ _ => rfl⟩
  intro j t ht hk
  simp only [init, List.getElem?_map] at ht
  cases hx : scripts[j]? <;> simp [hx] at ht
  subst ht; cases hk

/-- a watcher that has been told to stop is never blocked in its poll loop: it can take its next step, which ends it -/
theorem stopped_watcher_ends (s : State) (j : Nat) (th : Thread) (hth : s.threads[j]? = some th) (hf : th.stopFlag = true)
    (dl : Nat) (hpc : th.pc = .wWait dl) :
    enabled s j = true ∧ ∃ s', step s j = some s' ∧ pcOf s' j = some .done := by
  have hl := lt_of_getElem? hth
  have hen : enabledT s th = true := by simp [enabledT, hpc, hf]
  refine ⟨by simp [enabled, hth, hen], stepT s j th, by simp [step, hth, hen], ?_⟩
  simp only [stepT, hpc, hf, if_true]
  rw [pcOf_setPc]; simp [hl]

end WD.ProofsRst
