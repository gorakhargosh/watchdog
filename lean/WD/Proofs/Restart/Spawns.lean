/- WD.Rst: where children are spawned.  A step spawns at most one child, and only the step that completes `_stop_process`
   inside a `_restart_process` (or the locked part of `start()`) can spawn; after it the thread has left `_stop_process`,
   so one invocation of `_restart_process` spawns at most once. -/
import WD.Proofs.Restart.Inv
namespace WD.ProofsRst
open WD.Rst

/-- only three kinds of step can spawn: the locked part of `start()`, and the completion of `_stop_process` inside a
    `_restart_process` (directly, or at the end of the kill loop) -/
def spawnSite : Pc → Bool
  | .saRAcq => true
  | .spAcq .restart => true
  | .spSleep _ _ .restart => true
  | _ => false

section lengths
variable (s : State) (i : Nat)

@[simp] theorem setThread_plen (t : Thread) : (s.setThread i t).procs.length = s.procs.length := rfl
@[simp] theorem setPc_plen (pc : Pc) : (s.setPc i pc).procs.length = s.procs.length := by simp
@[simp] theorem log_plen (o : Obs) : (s.log o).procs.length = s.procs.length := rfl
@[simp] theorem spawn_plen : s.spawn.procs.length = s.procs.length + 1 := by simp [State.spawn, State.log]
@[simp] theorem kill_plen (pid sig : Nat) : (s.kill pid sig).procs.length = s.procs.length := by
  unfold State.kill; split <;> simp [State.log]
@[simp] theorem stopWatcher_plen : s.stopWatcher.procs.length = s.procs.length := by simp
@[simp] theorem notify_plen : s.notify.procs.length = s.procs.length := by
  rcases notify_eq s with e | e <;> rw [e]

theorem arrive_plen : (arrive s i).procs.length = s.procs.length := by
  unfold arrive
  split
  · rfl
  · split <;> (try split) <;> simp

theorem startBody_plen : (startBody s i).procs.length = s.procs.length := by
  unfold startBody
  split
  · rw [arrive_plen]; simp
  · split <;> simp

theorem debHead_plen : (debHead s i).procs.length = s.procs.length := by
  unfold debHead; split <;> (try split) <;> simp

theorem debDeliver_plen : (debDeliver s i).procs.length = s.procs.length := by
  unfold debDeliver; split <;> simp

theorem afterRestart_plen : (afterRestart s i).procs.length = s.procs.length := by
  unfold afterRestart
  split
  · rfl
  · split
    · rw [arrive_plen]; simp
    · simp
    · exact debHead_plen s i

theorem restartFinish_plen : (restartFinish s i).procs.length = s.procs.length := by
  unfold restartFinish; rw [afterRestart_plen]

theorem stopFinish_plen : (stopFinish s i).procs.length = s.procs.length := by
  unfold stopFinish; rw [arrive_plen]; simp

theorem watcherLoop_plen (pid : Nat) : (watcherLoop s i pid).procs.length = s.procs.length := by
  unfold watcherLoop; split <;> (try split) <;> simp

theorem startProcess_plen (b : Bool) : (startProcess s i b).procs.length ≤ s.procs.length + 1 := by
  unfold startProcess
  simp only
  split
  · split
    · rw [arrive_plen]; simp
    · rw [restartFinish_plen]; omega
  · split
    · simp
    · split
      · rw [arrive_plen]; simp
      · rw [restartFinish_plen]; simp

theorem afterStopProc_plen (a : After) :
    (afterStopProc s i a).procs.length ≤ s.procs.length + (if afterIsStop a = true then 0 else 1) := by
  cases a with
  | restart => exact startProcess_plen s i false
  | stop w =>
    unfold afterStopProc
    simp only
    split
    · simp
    · split
      · simp
      · rw [stopFinish_plen]; simp

theorem stopProcDone_plen (a : After) :
    (stopProcDone s i a).procs.length ≤ s.procs.length + (if afterIsStop a = true then 0 else 1) := by
  unfold stopProcDone; exact afterStopProc_plen _ i a

theorem killLoop_plen (kt : Nat) (a : After) :
    (killLoop s i kt a).procs.length ≤ s.procs.length + (if afterIsStop a = true then 0 else 1) := by
  unfold killLoop
  split
  · exact stopProcDone_plen s i a
  · split
    · split
      · exact stopProcDone_plen s i a
      · simp
    · split
      · have := stopProcDone_plen (s.kill ‹Nat› 9) i a; simpa using this
      · exact stopProcDone_plen s i a

theorem stopProcBody_plen (a : After) :
    (stopProcBody s i a).procs.length ≤ s.procs.length + (if afterIsStop a = true then 0 else 1) := by
  unfold stopProcBody
  split
  · exact afterStopProc_plen s i a
  · simp only
    split
    · have := afterStopProc_plen ({ ({ s with procStopping := true } : State).stopWatcher with procStopping := false }) i a
      simpa using this
    · split
      · have := stopProcDone_plen (({ s with procStopping := true } : State).stopWatcher) i a
        simpa using this
      · have := killLoop_plen ((({ s with procStopping := true } : State).stopWatcher).kill ‹Nat› 2) i
          ((({ s with procStopping := true } : State).stopWatcher).clock + (({ s with procStopping := true } : State).stopWatcher).cfg.killAfter) a
        simpa using this

end lengths

theorem stepT_plen (s : State) (i : Nat) (t : Thread) :
    (stepT s i t).procs.length ≤ s.procs.length + (if spawnSite t.pc = true then 1 else 0) := by
  unfold stepT
  split
  · simp
  · split
    · rw [arrive_plen]; simp
    · simp
    · rw [watcherLoop_plen]; simp
  · rw [arrive_plen]; simp
  · rw [startBody_plen]; simp
  · simp
  · next hb =>
    rw [hb]
    simp only
    split
    · exact startProcess_plen ({ s with restartOwner := some i } : State) i true
    · rw [arrive_plen]; simp
  · rw [arrive_plen]; simp
  · rw [arrive_plen]; simp
  · split
    · rw [afterRestart_plen]; simp
    · simp
  · next a hb => rw [hb]; cases a <;> exact stopProcBody_plen s i _
  · next kt dl a hb => rw [hb]; cases a <;> exact killLoop_plen s i _ _
  · rw [restartFinish_plen]; simp
  · split
    · rw [arrive_plen]; simp
    · simp
  · split <;> simp
  · simp
  · split
    · simp
    · rw [stopFinish_plen]; simp
  · split
    · simp
    · rw [stopFinish_plen]; simp
  · split
    · simp
    · split
      · rw [watcherLoop_plen]; simp
      · simp
  · rw [debHead_plen]; simp
  · rw [debHead_plen]; simp
  · simp only
    split
    · split
      · simp
      · rw [debDeliver_plen]; simp
    · rw [debDeliver_plen]; simp

theorem stepT_spawns_le_one (s : State) (i : Nat) (t : Thread) : (stepT s i t).procs.length ≤ s.procs.length + 1 := by
  have := stepT_plen s i t
  split at this <;> omega

theorem stepT_spawn_site (s : State) (i : Nat) (t : Thread) (h : s.procs.length < (stepT s i t).procs.length) :
    spawnSite t.pc = true := by
  have := stepT_plen s i t
  split at this
  · assumption
  · omega

end WD.ProofsRst
