/- WD.Rst: every step keeps the invariants.  The seven invariants are carried together: one context for the middle of
   a step of thread `i` (each invariant minus what it says about thread `i`), one walk through the helper call tree of
   the model, and at every place where the step ends one bundle of what the invariants ask of thread `i`'s new pc. -/
import WD.Proofs.Restart.JoinAll
import WD.Proofs.Restart.StopFlag
namespace WD.ProofsRst
open WD.Rst

structure Reach (s : State) : Prop where
  inv : Inv s
  wat : Wat s
  deb : Deb s
  ch : CH s
  wi : WI s
  fi : FI s
  ji : JI s

structure Mid (s : State) (i : Nat) (k : Kind) : Prop where
  wat : WatX s (some i)
  deb : DCtx s i k
  ch : HCtx s i k
  wi : WCtx s i k
  fi : FCtx s i k
  ji : JCtx s i k

structure CtxN (s : State) (i : Nat) (k : Kind) : Prop where
  n : MidN s i
  m : Mid s i k

structure CtxH (s : State) (i : Nat) (k : Kind) : Prop where
  h : MidH s i
  m : Mid s i k

theorem Mid.lt {s : State} {i : Nat} {k : Kind} (c : Mid s i k) : i < s.threads.length := by
  obtain ⟨pc, h⟩ := c.deb.me; exact kp_lt h

/-- what the invariants ask of the pc at which thread `i`, of kind `k`, ends its step -/
structure Leaf (s : State) (i : Nat) (k : Kind) (pc : Pc) : Prop where
  sleep : isSleep pc = false ∨ s.watcher = none
  dty : isDeb k = true → debPc pc = true
  joinW : isJoinW pc = true → isDeb k = false ∧ OthersDone s (some i)
  cb : isDeb k = true → s.condHeld = true → cbPc pc = true
  dpc : dpcB pc = true → isDeb k = true
  car : ∀ w, w ∈ carried pc → isWat s w
  wty : isWatcher k = true → wPc pc = true
  flag : k = .deb → pc = .dWaitFirst → s.stopFlagOf i = true → s.notified = true
  ts : inStop pc = true → s.trickStopping = true
  cc : carries pc = true → ∀ u, liveW s u → u ∈ carried pc

theorem carried_of_not_inStop {pc : Pc} (h : inStop pc = false) : carried pc = [] := by
  cases pc with
  | spAcq a => cases a <;> first | rfl | cases h
  | spSleep _ _ a => cases a <;> first | rfl | cases h
  | _ => first | rfl | cases h

theorem isJoinW_inStop {pc : Pc} (h : isJoinW pc = true) : inStop pc = true := by
  cases pc <;> first | rfl | cases h

theorem holds_not_pastStop {pc : Pc} (h : holds pc = true) : pastStop pc = false := by
  cases pc <;> first | rfl | cases h

/-- the pcs of `_restart_process` are pcs of the debouncer and of the watchers, outside `stop()` and the debouncer's loop -/
theorem cbPc_kinds {pc : Pc} (h : cbPc pc = true) :
    debPc pc = true ∧ wPc pc = true ∧ inStop pc = false ∧ dpcB pc = false := by
  cases pc with
  | spAcq a => cases a <;> first | exact ⟨rfl, rfl, rfl, rfl⟩ | cases h
  | spSleep _ _ a => cases a <;> first | exact ⟨rfl, rfl, rfl, rfl⟩ | cases h
  | _ => first | exact ⟨rfl, rfl, rfl, rfl⟩ | cases h

theorem Leaf.outside {s : State} {i : Nat} {k : Kind} {pc : Pc} (h : inStop pc = false)
    (hs : isSleep pc = false ∨ s.watcher = none) (dty : isDeb k = true → debPc pc = true)
    (cb : isDeb k = true → s.condHeld = true → cbPc pc = true) (dpc : dpcB pc = true → isDeb k = true)
    (wty : isWatcher k = true → wPc pc = true)
    (flag : k = .deb → pc = .dWaitFirst → s.stopFlagOf i = true → s.notified = true) : Leaf s i k pc where
  sleep := hs
  dty := dty
  joinW hj := by have := isJoinW_inStop hj; rw [h] at this; cases this
  cb := cb
  dpc := dpc
  car w hw := by rw [carried_of_not_inStop h] at hw; cases hw
  wty := wty
  flag := flag
  ts hi := by rw [h] at hi; cases hi
  cc hc := by have := inStop_of_carries hc; rw [h] at this; cases this

theorem Leaf.restart {s : State} {i : Nat} {k : Kind} {pc : Pc} (h : cbPc pc = true)
    (hs : isSleep pc = false ∨ s.watcher = none) : Leaf s i k pc :=
  .outside (cbPc_kinds h).2.2.1 hs (fun _ => (cbPc_kinds h).1) (fun _ _ => h)
    (fun hd => by rw [(cbPc_kinds h).2.2.2] at hd; cases hd) (fun _ => (cbPc_kinds h).2.1) (fun _ e => by rw [e] at h; cases h)

theorem Leaf.client {s : State} {i : Nat} {pc : Pc} (h1 : inStop pc = false) (h2 : dpcB pc = false)
    (h3 : isSleep pc = false) : Leaf s i .client pc :=
  .outside h1 (Or.inl h3) (fun h => by cases h) (fun h => by cases h) (fun h => by rw [h2] at h; cases h)
    (fun h => by cases h) (fun h => by cases h)

theorem Leaf.watcher {s : State} {i pid : Nat} {pc : Pc} (h1 : wPc pc = true) (h2 : inStop pc = false)
    (h3 : isSleep pc = false) (h4 : dpcB pc = false) : Leaf s i (.watcher pid) pc :=
  .outside h2 (Or.inl h3) (fun h => by cases h) (fun h => by cases h) (fun h => by rw [h4] at h; cases h) (fun _ => h1)
    (fun h => by cases h)

theorem Leaf.done {s : State} {i : Nat} {k : Kind} (hk : isDeb k = false) : Leaf s i k .done :=
  .outside rfl (Or.inl rfl) (fun h => by rw [hk] at h; cases h) (fun h => by rw [hk] at h; cases h) (fun h => by cases h)
    (fun _ => rfl) (fun h => by rw [h] at hk; cases hk)

theorem Leaf.deb {s : State} {i : Nat} {pc : Pc} (h1 : debPc pc = true) (h2 : inStop pc = false) (h3 : isSleep pc = false)
    (hcb : s.condHeld = true → cbPc pc = true)
    (hfl : pc = .dWaitFirst → s.stopFlagOf i = true → s.notified = true) : Leaf s i .deb pc :=
  .outside h2 (Or.inl h3) (fun _ => h1) (fun _ => hcb) (fun _ => rfl) (fun h => by cases h) (fun _ => hfl)

theorem Leaf.stop {s : State} {i : Nat} {pc : Pc} (h1 : dpcB pc = false) (hs : isSleep pc = false ∨ s.watcher = none)
    (hj : isJoinW pc = true → OthersDone s (some i)) (hts : s.trickStopping = true) (hcar : ∀ w, w ∈ carried pc → isWat s w)
    (hcc : carries pc = true → ∀ u, liveW s u → u ∈ carried pc) : Leaf s i .client pc where
  sleep := hs
  dty h := by cases h
  joinW h := ⟨rfl, hj h⟩
  cb h := by cases h
  dpc h := by rw [h1] at h; cases h
  car := hcar
  wty h := by cases h
  flag h := by cases h
  ts _ := hts
  cc := hcc

theorem MidN.setPc_close {s : State} {i : Nat} (n : MidN s i) (hi : i < s.threads.length) (pc : Pc)
    (h1 : holds pc = false) (h2 : inStop pc = true → s.trickStopping = true) (h3 : pastStop pc = true → s.process = none) :
    Inv (s.setPc i pc) := by
  refine (n.setPc pc).close ?_
  intro pc' e
  rw [pcOf_setPc_self pc hi] at e; cases e
  exact ⟨h1, by simpa using h2, by simpa using h3⟩

theorem MidH.setPc_close {s : State} {i : Nat} (h : MidH s i) (hi : i < s.threads.length) (pc : Pc)
    (h1 : holds pc = true) (h2 : isSleep pc = true → s.process ≠ none) (h3 : inStop pc = true → s.trickStopping = true)
    (h4 : s.procStopping = true → isSleep pc = true) : Inv (s.setPc i pc) := by
  refine (h.setPc pc).close (pc := pc) (pcOf_setPc_self pc hi) ⟨fun _ => by simpa using h.own, by simpa using h2,
    by simpa using h3, fun x => ?_⟩ h1 (by simpa using h4)
  rw [holds_not_pastStop h1] at x; cases x

theorem Mid.setPc_close {s : State} {i : Nat} {k : Kind} (c : Mid s i k) (pc : Pc) (l : Leaf s i k pc) (inv : Inv (s.setPc i pc)) :
    Reach (s.setPc i pc) :=
  ⟨inv, WatX_setPc c.wat pc l.sleep, c.deb.setPc_close pc l.dty l.joinW, c.ch.setPc_close pc l.cb l.dpc,
   c.wi.setPc_close pc l.car l.wty, c.fi.setPc_close pc l.flag, c.ji.setPc_close pc l.ts l.cc⟩

theorem CtxN.close {s : State} {i : Nat} {k : Kind} (c : CtxN s i k) (pc : Pc) (h1 : holds pc = false)
    (h3 : pastStop pc = true → s.process = none) (l : Leaf s i k pc) : Reach (s.setPc i pc) :=
  c.m.setPc_close pc l (c.n.setPc_close c.m.lt pc h1 l.ts h3)

theorem CtxH.close {s : State} {i : Nat} {k : Kind} (c : CtxH s i k) (pc : Pc) (h1 : holds pc = true)
    (h2 : isSleep pc = true → s.process ≠ none) (h4 : s.procStopping = true → isSleep pc = true) (l : Leaf s i k pc) :
    Reach (s.setPc i pc) :=
  c.m.setPc_close pc l (c.h.setPc_close c.m.lt pc h1 h2 l.ts h4)

section edges
variable {s s' : State} {i : Nat} {k : Kind}

/-- an update that leaves the kinds, pcs and stop flags of all threads alone, and the fields the invariants read as far
    as each of them needs it; what `Wat` needs is said by `wat` -/
theorem Mid.same (c : Mid s i k) (wat : WatX s' (some i)) (hkp : ∀ j, kp s' j = kp s j)
    (hw : s'.watcher = s.watcher ∨ s'.watcher = none) (hd : s'.debTid = s.debTid) (hh : retd s' → retd s)
    (hl : s'.watchers = s.watchers) (ht : s'.trickStopping = s.trickStopping) (hf : ∀ d, s'.stopFlagOf d = s.stopFlagOf d)
    (hc : isDeb k = false → s'.condHeld = s.condHeld) (hn : k ≠ .deb → s.notified = true → s'.notified = true) :
    Mid s' i k :=
  ⟨wat, c.deb.same hkp hd hh, c.ch.same hkp hc, c.wi.same hkp hw hl, c.fi.same hkp hd hf hn ht,
   c.ji.same hkp hl hh (fun h => by rw [ht]; exact h)⟩

/-- The equations default to `rfl`: for a `{ s with … }` update only what it touches has to be said.  Three are
    weaker than equations: the debouncer may take or release its condition lock and lower `notified`, and the child may be
    forgotten once there is no watcher. -/
theorem Mid.congr (c : Mid s i k) (h1 : s'.threads = s.threads) (h2 : s'.watcher = s.watcher := by rfl)
    (h3 : s'.process = none → s.process = none ∨ s.watcher = none := by intro h; exact Or.inl h)
    (h4 : s'.debTid = s.debTid := by rfl) (h5 : s'.hist = s.hist := by rfl) (h6 : s'.watchers = s.watchers := by rfl)
    (h7 : s'.trickStopping = s.trickStopping := by rfl)
    (hc : isDeb k = false → s'.condHeld = s.condHeld := by intro _; rfl)
    (hn : k ≠ .deb → s.notified = true → s'.notified = true := by intro _ h; exact h) : Mid s' i k :=
  c.same (WatX_congr' c.wat h1 h2 h3) (kp_congr h1) (Or.inl h2) h4 (fun h => by rwa [retd, h5] at h) h6 h7 (stopFlagOf_congr h1)
    hc hn

theorem CtxN.congr (c : CtxN s i k) (h1 : s'.threads = s.threads) (ho : s'.restartOwner = s.restartOwner := by rfl)
    (hp : s'.process = s.process := by rfl) (hts : s'.trickStopping = s.trickStopping := by rfl)
    (hpr : s'.procs = s.procs := by rfl) (hcl : s'.clock = s.clock := by rfl) (hh : s'.hist = s.hist := by rfl)
    (hps : s'.procStopping = s.procStopping := by rfl) (hw : s'.watcher = s.watcher := by rfl)
    (hd : s'.debTid = s.debTid := by rfl) (hws : s'.watchers = s.watchers := by rfl)
    (hc : isDeb k = false → s'.condHeld = s.condHeld := by intro _; rfl)
    (hn : k ≠ .deb → s.notified = true → s'.notified = true := by intro _ h; exact h) : CtxN s' i k :=
  ⟨c.n.congr h1 ho hp hts hpr hcl hh hps, c.m.congr h1 hw (fun h => Or.inl (by rwa [hp] at h)) hd hh hws hts hc hn⟩

theorem CtxH.congr (c : CtxH s i k) (h1 : s'.threads = s.threads) (ho : s'.restartOwner = s.restartOwner := by rfl)
    (hp : s'.process = s.process := by rfl) (hts : s'.trickStopping = s.trickStopping := by rfl)
    (hpr : s'.procs = s.procs := by rfl) (hcl : s'.clock = s.clock := by rfl) (hh : s'.hist = s.hist := by rfl)
    (hw : s'.watcher = s.watcher := by rfl) (hd : s'.debTid = s.debTid := by rfl)
    (hws : s'.watchers = s.watchers := by rfl)
    (hc : isDeb k = false → s'.condHeld = s.condHeld := by intro _; rfl)
    (hn : k ≠ .deb → s.notified = true → s'.notified = true := by intro _ h; exact h) : CtxH s' i k :=
  ⟨c.h.congr h1 ho hp hts hpr hcl hh, c.m.congr h1 hw (fun h => Or.inl (by rwa [hp] at h)) hd hh hws hts hc hn⟩

theorem Mid.log (c : Mid s i k) (o : Obs) (ho : isStopRet o = false) : Mid (s.log o) i k :=
  c.same (WatX_congr c.wat rfl rfl rfl) (fun _ => rfl) (Or.inl rfl) rfl (retd_log ho) rfl rfl (fun _ => rfl) (fun _ => rfl)
    (fun _ h => h)

theorem CtxN.log (c : CtxN s i k) (o : Obs) (h1 : isSpawn o = false) (h2 : isStopRet o = false) : CtxN (s.log o) i k :=
  ⟨c.n.log o h1 h2, c.m.log o h2⟩

theorem CtxN.notify (c : CtxN s i k) : CtxN s.notify i k := by
  rcases notify_eq s with e | e <;> rw [e]
  · exact c
  · exact c.congr rfl (hn := fun _ _ => rfl)

theorem CtxH.kill (c : CtxH s i k) (pid sig : Nat) : CtxH (s.kill pid sig) i k :=
  ⟨c.h.kill pid sig, c.m.same (kill_wat c.m.wat pid sig) (kp_kill s pid sig) (Or.inl (kill_watcher s pid sig)) (by simp)
    retd_kill (by simp) (by simp) (stopFlagOf_congr (by simp)) (fun _ => kill_condHeld s pid sig)
    (fun _ h => by rw [kill_notified]; exact h)⟩

theorem CtxH.stopWatcher (c : CtxH s i k) : CtxH s.stopWatcher i k ∧ s.stopWatcher.watcher = none :=
  ⟨⟨c.h.stopWatcher, (WatX_stopWatcher c.m.wat).1, c.m.deb.same (kp_stopWatcher s) (by simp) (fun h => by simpa [retd] using h),
    c.m.ch.same (kp_stopWatcher s) (fun _ => stopWatcher_condHeld s),
    c.m.wi.same (kp_stopWatcher s) (stopWatcher_watcher s) (by simp), c.m.fi.stopWatcher c.m.wi.x.wr,
    c.m.ji.same (kp_stopWatcher s) (by simp) (fun h => by simpa [retd] using h) (fun h => by simpa using h)⟩,
   (WatX_stopWatcher c.m.wat).2⟩

theorem MidH.noOtherSleep (h : MidH s i) : NoOtherSleep s i := by
  intro j pc hj hpc
  cases hs : isSleep pc
  · rfl
  · have hji : j ≠ i := fun e => hj (by rw [e])
    have := (h.oth j pc hji hpc).1 (isSleep_holds hs)
    rw [h.own] at this; cases this; exact absurd rfl hji

theorem CtxH.spawn (c : CtxH s i k) (hp : s.process = none) (ht : s.trickStopping = false) : CtxH s.spawn i k :=
  ⟨c.h.spawn hp ht, c.m.same (WatX_congr' c.m.wat rfl rfl (fun _ => Or.inr (c.m.wat.pnone hp))) (fun _ => rfl) (Or.inl rfl)
    rfl (fun h => retd_log (s := { s.spawn with hist := s.hist }) (o := .spawn s.procs.length s.clock) rfl h) rfl rfl
    (fun _ => rfl) (fun _ => rfl) (fun _ h => h)⟩

theorem CtxH.spawnWatcher (c : CtxH s i k) (hp : s.process = none) (ht : s.trickStopping = false) :
    CtxH (withWatcher s.spawn s.procs.length) i k := by
  have hwn : s.watcher = none := c.m.wat.pnone hp
  have c1 := c.spawn hp ht
  refine ⟨c1.h.append { kind := .watcher s.procs.length, pc := .begin } rfl rfl rfl rfl rfl rfl rfl rfl,
    WatX_append_watcher c1.m.wat hwn s.procs.length rfl rfl (by simp [withWatcher, State.spawn, State.log]) c.h.noOtherSleep,
    c1.m.deb.appendWatcher s.procs.length rfl rfl rfl, c1.m.ch.append _ rfl rfl rfl, ?_,
    c1.m.fi.append { kind := .watcher s.procs.length, pc := .begin } rfl (fun h => by cases h) rfl rfl rfl rfl,
    c1.m.ji.appendWatcher _ ht⟩
  refine c1.m.wi.append { kind := .watcher s.procs.length, pc := .begin } rfl rfl (Or.inr ⟨rfl, rfl⟩) ?_
  intro w hw
  simp only [withWatcher, List.mem_append, List.mem_filter, List.mem_singleton] at hw
  rcases hw with hw | hw
  · exact Or.inl hw.1
  · exact Or.inr ⟨hw, rfl⟩

theorem CtxN.acquire (c : CtxN s i k) (hfree : s.restartOwner = none) :
    CtxH ({ s with restartOwner := some i } : State) i k :=
  ⟨c.n.acquire hfree rfl rfl rfl rfl rfl rfl rfl, c.m.congr rfl⟩

theorem CtxH.release (c : CtxH s i k) (hps : s.procStopping = false) (h1 : s'.threads = s.threads)
    (ho : s'.restartOwner = none) (hp : s'.process = s.process := by rfl)
    (hts : s'.trickStopping = s.trickStopping := by rfl) (hpr : s'.procs = s.procs := by rfl)
    (hcl : s'.clock = s.clock := by rfl) (hh : s'.hist = s.hist := by rfl)
    (hps' : s'.procStopping = s.procStopping := by rfl) (hw : s'.watcher = s.watcher := by rfl)
    (hd : s'.debTid = s.debTid := by rfl) (hws : s'.watchers = s.watchers := by rfl)
    (hc : isDeb k = false → s'.condHeld = s.condHeld := by intro _; rfl)
    (hn : k ≠ .deb → s.notified = true → s'.notified = true := by intro _ h; exact h) : CtxN s' i k :=
  ⟨c.h.release hps h1 ho hp hts hpr hcl hh hps', c.m.congr h1 hw (fun h => Or.inl (by rwa [hp] at h)) hd hh hws hts hc hn⟩

theorem CtxH.clearProcess (c : CtxH s i k) (hd : ∀ pid, s.process = some pid → s.aliveP pid = false)
    (hw : s.watcher = none) : CtxH ({ s with process := none, procStopping := false } : State) i k := by
  refine ⟨⟨⟨?_, c.h.glob.nsas, fun hx => ⟨(c.h.glob.ret hx).1, rfl⟩⟩,
    Oth_update c.h.oth (fun j _ pc e => Or.inl e) (by simp) (Or.inl rfl) (Or.inr ⟨Or.inl c.h.own, Or.inl rfl⟩), c.h.own⟩,
    c.m.congr rfl rfl (fun _ => Or.inr hw)⟩
  intro q _
  by_cases hq : s.process = some q
  · exact hd q hq
  · exact c.h.glob.dead q hq

theorem CtxN.logRet (c : CtxN s i k) (hk : isDeb k = false) (ht : s.trickStopping = true) (hp : s.process = none)
    (hod : OthersDone s (some i)) (hall : ∀ u, ¬ liveW s u) : CtxN (s.log (.stopRet i s.clock)) i k := by
  refine ⟨⟨⟨?_, ?_, fun _ => ⟨ht, hp⟩⟩, Oth_congr c.n.oth rfl rfl rfl rfl, c.n.own,
      Stopping_congr c.n.stopping c.n.own rfl rfl (fun _ _ _ e => e)⟩,
    WatX_congr c.m.wat rfl rfl rfl, ⟨⟨c.m.deb.x.uniq, c.m.deb.x.typed, fun _ => hod⟩, c.m.deb.me, fun h => by rw [hk] at h; cases h⟩,
    c.m.ch.same (fun _ => rfl) (fun _ => rfl), c.m.wi.same (fun _ => rfl) (Or.inl rfl) rfl,
    c.m.fi.same (fun _ => rfl) rfl (fun _ => rfl) (fun _ h => h) rfl, c.m.ji.logRet _ hall ht⟩
  · simpa [State.aliveP] using c.n.glob.dead
  · simpa using NSAS_snoc_nonspawn c.n.glob.nsas (o := .stopRet i s.clock) rfl

end edges

section walk
variable {s : State} {i : Nat} {k : Kind}

theorem Mid.kind (c : Mid s i k) {t : Thread} (ht : s.threads[i]? = some t) : t.kind = k := by
  obtain ⟨pc, h⟩ := c.deb.me
  simp [kp, ht] at h; exact h.1

theorem CtxN.setThread_close (c : CtxN s i k) {t t' : Thread} (ht : s.threads[i]? = some t) (hk : t'.kind = t.kind)
    (hf : t'.stopFlag = t.stopFlag) (h1 : holds t'.pc = false) (h3 : pastStop t'.pc = true → s.process = none)
    (l : Leaf s i k t'.pc) : Reach (s.setThread i t') := by
  have hil := c.m.lt
  have htk := c.m.kind ht
  have hkp : ∀ j, j ≠ i → kp (s.setThread i t') j = kp s j := fun j hj => by rw [kp_setThread]; simp [Ne.symm hj]
  have hme : kp (s.setThread i t') i = some (k, t'.pc) := by rw [kp_setThread]; simp [hil, hk, htk]
  have hfs : ∀ d, (s.setThread i t').stopFlagOf d = s.stopFlagOf d := by
    intro d
    rw [stopFlagOf_setThread]
    split
    · next h => obtain ⟨rfl, _⟩ := h; simp [State.stopFlagOf, ht, hf]
    · rfl
  refine ⟨(c.n.setThread t').close ?_, WatX_setThread c.m.wat ht hk hf l.sleep, ?_, ?_, ?_, ?_, ?_⟩
  · intro pc e
    rw [pcOf_setThread_self t' hil] at e; cases e
    exact ⟨h1, by simpa using l.ts, by simpa using h3⟩
  · exact (c.m.deb.transfer hkp ⟨_, hme⟩ (by simp) (fun o ho hr => ⟨o, by simpa using ho, hr⟩)).close _ hme l.dty
      (fun hw => ⟨(l.joinW hw).1, OthersDone_transfer (l.joinW hw).2 hkp⟩)
  · exact (c.m.ch.transfer hkp ⟨_, hme⟩ (fun _ h => by simpa using h)).close _ hme
      (fun hd hh => l.cb hd (by simpa using hh)) l.dpc
  · exact (c.m.wi.transfer hkp ⟨_, hme⟩ (Or.inl rfl)).close _ hme
      (fun w h => isWat_transfer c.m.wi.me hkp ⟨_, hme⟩ (l.car w h)) l.wty
  · exact (c.m.fi.transfer hkp ⟨_, hme⟩ rfl (fun d _ h => by rwa [hfs] at h) (fun d h => by rwa [hfs]) (fun _ h => h) rfl).close
      _ hme (fun hk' hp hfl => by rw [hfs] at hfl; exact l.flag hk' hp hfl)
  · exact c.m.ji.finish t'.pc hkp hme rfl (fun h => h) rfl l.ts l.cc

theorem arrive_all (c : CtxN s i .client) : Reach (arrive s i) := by
  have hil := c.m.lt
  unfold arrive
  split
  · next hn => rw [List.getElem?_eq_getElem hil] at hn; cases hn
  · next t ht =>
    split
    · exact c.setThread_close ht rfl rfl rfl (fun h => by cases h) (.client rfl rfl rfl)
    · exact c.setThread_close ht rfl rfl rfl (fun h => by cases h) (.client rfl rfl rfl)
    · exact c.setThread_close ht rfl rfl rfl (fun h => by cases h) (.client rfl rfl rfl)
    · exact c.setThread_close ht rfl rfl (by simp only; split <;> rfl) (fun h => by simp only at h; split at h <;> cases h)
        (.client (by simp only; split <;> rfl) (by simp only; split <;> rfl) (by simp only; split <;> rfl))
    · exact c.setThread_close ht rfl rfl rfl (fun h => by cases h) (.client rfl rfl rfl)

theorem debHead_all (c : CtxN s i .deb) : Reach (debHead s i) := by
  have hme := c.m.fi.debIsMe rfl
  unfold debHead
  split
  · next hcond =>
    simp only [Bool.and_eq_true] at hcond
    have hfl := debRunning_true_flag hme hcond.2
    refine (c.congr (s' := { s with condHeld := false, notified := false }) rfl (hc := fun h => by cases h)
      (hn := fun h => absurd rfl h)).close _ rfl (fun h => by cases h) (.deb rfl rfl rfl (fun h => by cases h) ?_)
    intro _ hf
    have : ({ s with condHeld := false, notified := false } : State).stopFlagOf i = s.stopFlagOf i := stopFlagOf_congr rfl i
    rw [this, hfl] at hf; cases hf
  · split
    · exact (c.congr (s' := { s with condHeld := false, notified := false }) rfl (hc := fun h => by cases h)
        (hn := fun h => absurd rfl h)).close _ rfl (fun h => by cases h)
        (.deb rfl rfl rfl (fun h => by cases h) (fun h => by cases h))
    · exact (c.congr (s' := { s with condHeld := false }) rfl (hc := fun h => by cases h)).close _ rfl (fun h => by cases h)
        (.deb rfl rfl rfl (fun h => by cases h) (fun h => by cases h))

theorem debDeliver_all (c : CtxN s i .deb) : Reach (debDeliver s i) := by
  unfold debDeliver
  split
  · exact (c.congr (s' := { s with condHeld := false }) rfl (hc := fun h => by cases h)).close _ rfl (fun h => by cases h)
      (.deb rfl rfl rfl (fun h => by cases h) (fun h => by cases h))
  · exact (c.congr (s' := { s with events := 0 }) rfl).close _ rfl (fun h => by cases h) (.restart rfl (Or.inl rfl))

theorem afterRestart_all (c : CtxN s i k) : Reach (afterRestart s i) := by
  have hil := c.m.lt
  unfold afterRestart
  split
  · next hn => rw [List.getElem?_eq_getElem hil] at hn; cases hn
  · next t ht =>
    have htk := c.m.kind ht
    split
    · next hk => rw [hk] at htk; subst htk; exact arrive_all (c.log _ rfl rfl)
    · next pid hk =>
      rw [hk] at htk; subst htk
      exact c.close _ rfl (fun h => by cases h) (.watcher rfl rfl rfl rfl)
    · next hk => rw [hk] at htk; subst htk; exact debHead_all c

theorem restartFinish_all (c : CtxH s i k) (hps : s.procStopping = false) : Reach (restartFinish s i) :=
  afterRestart_all (c.release hps (s' := { s with restartCount := s.restartCount + 1, restartOwner := none }) rfl rfl)

theorem startedFinish_all (c : CtxH s i .client) (hps : s.procStopping = false) :
    Reach (arrive (({ s with restartOwner := none } : State).log (.started i s.clock)) i) :=
  arrive_all ((c.release hps (s' := { s with restartOwner := none }) rfl rfl).log _ rfl rfl)

theorem stopFinish_all (c : CtxN s i .client) (ht : s.trickStopping = true) (hp : s.process = none)
    (hod : OthersDone s (some i)) (hall : ∀ u, ¬ liveW s u) : Reach (stopFinish s i) :=
  arrive_all (c.logRet rfl ht hp hod hall)

/-- the join loop of `stop()`: on to the next watcher of the list (every debouncer thread has ended), or `stop()` returns -/
theorem joinNext_all (c : CtxN s i .client) (ht : s.trickStopping = true) (hp : s.process = none)
    (hod : OthersDone s (some i)) (ws : List Nat) (hcar : ∀ w, w ∈ ws → isWat s w) (hcc : ∀ u, liveW s u → u ∈ ws) :
    Reach (match (motive := List Nat → State) ws with | w :: rest => s.setPc i (.stJoinW w rest) | [] => stopFinish s i) := by
  split
  · next w rest =>
    exact c.close (.stJoinW w rest) rfl (fun _ => hp) (.stop rfl (Or.inl rfl) (fun _ => hod) ht hcar (fun _ => hcc))
  · exact stopFinish_all c ht hp hod (fun u hu => by have := hcc u hu; cases this)

theorem watcherLoop_all (pid : Nat) (c : CtxN s i (.watcher pid)) : Reach (watcherLoop s i pid) := by
  unfold watcherLoop
  split
  · exact c.close _ rfl (fun h => by cases h) (.watcher rfl rfl rfl rfl)
  · split
    · exact c.close _ rfl (fun h => by cases h) (.watcher rfl rfl rfl rfl)
    · exact c.close _ rfl (fun h => by cases h) (.watcher rfl rfl rfl rfl)

theorem startProcess_all (inStart : Bool) (c : CtxH s i k) (hps : s.procStopping = false) (hp : s.process = none)
    (hk : inStart = true → k = .client) : Reach (startProcess s i inStart) := by
  have fin : ∀ s' : State, CtxH s' i k → s'.procStopping = false →
      Reach (if inStart = true then arrive (({ s' with restartOwner := none } : State).log (.started i s'.clock)) i
           else restartFinish s' i) := by
    intro s' c' hps'
    split
    · next h => have := hk h; subst this; exact startedFinish_all c' hps'
    · exact restartFinish_all c' hps'
  unfold startProcess
  simp only
  split
  · exact fin s c hps
  · next ht =>
    have ht' : s.trickStopping = false := by simpa using ht
    split
    · refine (c.spawnWatcher hp ht').close (if inStart = true then Pc.saStarted else Pc.rStarted) (by split <;> rfl)
        (fun h => by split at h <;> cases h) (fun x => ?_) ?_
      · rw [show (withWatcher s.spawn s.procs.length).procStopping = s.procStopping from rfl, hps] at x; cases x
      · split
        · next h => have := hk h; subst this; exact .client rfl rfl rfl
        · exact .restart rfl (Or.inl rfl)
    · exact fin s.spawn (c.spawn hp ht') hps

/-- what a thread inside `_stop_process` knows when it is there on behalf of `stop()` -/
def StopK (s : State) (k : Kind) : After → Prop
  | .restart => True
  | .stop ws => k = .client ∧ s.trickStopping = true ∧ (∀ w, w ∈ ws → isWat s w) ∧ (∀ u, liveW s u → u ∈ ws)

theorem StopK.frame {s' : State} {a : After} (h : StopK s k a) (hkp : ∀ j, kp s' j = kp s j)
    (hts : s'.trickStopping = s.trickStopping) : StopK s' k a := by
  cases a with
  | restart => trivial
  | stop ws =>
    obtain ⟨h1, h2, h3, h4⟩ := h
    refine ⟨h1, by rw [hts]; exact h2, fun w hw => ?_, fun u hu => h4 u ?_⟩
    · obtain ⟨pid, pc, e⟩ := h3 w hw; exact ⟨pid, pc, by rw [hkp]; exact e⟩
    · obtain ⟨pid, pc, e, hn⟩ := hu; exact ⟨pid, pc, by rw [← hkp]; exact e, hn⟩

theorem afterStopProc_all (a : After) (c : CtxH s i k) (hps : s.procStopping = false) (hp : s.process = none)
    (sk : StopK s k a) : Reach (afterStopProc s i a) := by
  cases a with
  | restart => exact startProcess_all false c hps hp (fun h => by cases h)
  | stop ws =>
    obtain ⟨rfl, hts, hcar, hcc⟩ := sk
    have hn : CtxN ({ s with restartOwner := none } : State) i .client := c.release hps rfl rfl
    unfold afterStopProc
    simp only
    split
    · exact hn.close (.stJoinDeb ws) rfl (fun _ => hp) (.stop rfl (Or.inl rfl) (fun h => by cases h) hts hcar (fun _ => hcc))
    · next hnone =>
      -- no debouncer was ever created: nothing to wait for
      have hod : OthersDone ({ s with restartOwner := none } : State) (some i) := by
        intro j k' pc _ hkp hd
        have h2 : s.debTid = some j := hn.m.deb.x.uniq j k' pc hkp hd
        exfalso; apply hnone
        show s.debTid.isSome = true
        rw [h2]; rfl
      exact joinNext_all hn hts hp hod ws hcar hcc

theorem stopProcDone_all (a : After) (c : CtxH s i k) (hd : ∀ pid, s.process = some pid → s.aliveP pid = false)
    (hw : s.watcher = none) (sk : StopK s k a) : Reach (stopProcDone s i a) := by
  unfold stopProcDone
  exact afterStopProc_all a (c.clearProcess hd hw) rfl rfl (sk.frame (fun _ => rfl) rfl)

theorem killLoop_all (kt : Nat) (a : After) (c : CtxH s i k) (hw : s.watcher = none) (sk : StopK s k a) :
    Reach (killLoop s i kt a) := by
  unfold killLoop
  split
  · next hn => exact stopProcDone_all a c (by simp [hn]) hw sk
  · next pid hpid =>
    have dead : s.aliveP pid = false → ∀ q, s.process = some q → s.aliveP q = false := by
      intro h q hq; rw [hpid] at hq; cases hq; exact h
    split
    · split
      · next hdead => exact stopProcDone_all a c (dead (by simpa using hdead)) hw sk
      · refine c.close (.spSleep kt (s.clock + 250) a) rfl (fun _ => by simp [hpid]) (fun _ => rfl) ?_
        cases a with
        | restart => exact .restart rfl (Or.inr hw)
        | stop ws =>
          obtain ⟨rfl, hts, hcar, hcc⟩ := sk
          exact .stop rfl (Or.inr hw) (fun h => by cases h) hts hcar (fun _ => hcc)
    · split
      · refine stopProcDone_all a (c.kill pid 9) ?_ (by rw [kill_watcher]; exact hw) (sk.frame (kp_kill s pid 9) (by simp))
        intro q hq; simp [hpid] at hq; subst hq; exact aliveP_kill9 s pid
      · next hdead => exact stopProcDone_all a c (dead (by simpa using hdead)) hw sk

theorem stopProcBody_all (a : After) (c : CtxH s i k) (hps : s.procStopping = false) (sk : StopK s k a) :
    Reach (stopProcBody s i a) := by
  unfold stopProcBody
  simp only [hps, Bool.false_eq_true, if_false]
  obtain ⟨c2, hw2⟩ := (c.congr (s' := { s with procStopping := true }) rfl).stopWatcher
  have sk2 : StopK (({ s with procStopping := true } : State).stopWatcher) k a :=
    sk.frame (fun j => by rw [kp_stopWatcher]; rfl) (by simp)
  split
  · next hn => exact afterStopProc_all a (c2.congr rfl) rfl hn (sk2.frame (fun _ => rfl) rfl)
  · next pid hpid =>
    split
    · next hdead =>
      refine stopProcDone_all a c2 ?_ hw2 sk2
      intro q hq; rw [hpid] at hq; cases hq; simpa using hdead
    · exact killLoop_all _ a (c2.kill pid 2) (by rw [kill_watcher]; exact hw2) (sk2.frame (kp_kill _ pid 2) (by simp))

theorem createDeb_all (c : CtxN s i .client) (hts : s.trickStopping = false) (hnone : s.debTid = none) :
    Reach (withDeb (s.setPc i Pc.saDebStarted) s.threads.length) := by
  have hi := c.m.lt
  obtain ⟨pc0, h0⟩ := c.m.deb.me
  have hkp : ∀ j, j ≠ i → kp (s.setPc i Pc.saDebStarted) j = kp s j := fun j hj => by rw [kp_setPc]; simp [Ne.symm hj]
  have hme : kp (s.setPc i Pc.saDebStarted) i = some (Kind.client, Pc.saDebStarted) := by rw [kp_setPc]; simp [h0]
  have hme2 : kp (withDeb (s.setPc i Pc.saDebStarted) s.threads.length) i = some (Kind.client, Pc.saDebStarted) := by
    rw [kp_append (s := s.setPc i Pc.saDebStarted) { kind := .deb, pc := .begin } rfl i]
    simp [hi, hme]
  refine ⟨?_, ?_, ?_, ?_, ?_, ?_, ?_⟩
  · refine MidN.close_plain (i := i) ((c.n.setPc Pc.saDebStarted).append { kind := .deb, pc := .begin } rfl
      rfl rfl rfl rfl rfl rfl rfl rfl) ?_
    intro pc e
    rw [pcOf_append { kind := .deb, pc := .begin } rfl] at e
    simp only [setPc_length, hi, if_true, pcOf_setPc, and_self] at e
    cases e; simp [holds, inStop]
  · exact WatX_append_other (WatX_setPc c.m.wat _ (Or.inl rfl)) { kind := .deb, pc := .begin } rfl rfl rfl rfl rfl
  ·
    have hnp : ¬ Prem (s.setPc i Pc.saDebStarted) (some i) := by
      rintro (⟨j, k', pc, hj, hkj, hw⟩ | ⟨o, ho, hr⟩)
      · have hji : j ≠ i := fun e => hj (by rw [e])
        rw [kp_setPc, if_neg (Ne.symm hji)] at hkj
        have := (c.n.oth j pc hji (kp_pcOf hkj)).2.2.1 (isJoinW_inStop hw)
        rw [hts] at this; cases this
      · have := (c.n.glob.ret ⟨o, by simpa using ho, hr⟩).1
        rw [hts] at this; cases this
    have c2 : DCtx (withDeb (s.setPc i Pc.saDebStarted) s.threads.length) i .client :=
      (c.m.deb.setPc _).appendDeb rfl (by simpa using hnone) hnp rfl (by simp [withDeb]) rfl
    exact c2.close Pc.saDebStarted hme2 (fun h => by cases h) (fun h => by cases h)
  · have c1 : HCtx (s.setPc i Pc.saDebStarted) i .client := c.m.ch.transfer hkp ⟨_, hme⟩ (fun _ h => by simpa using h)
    have c2 : HCtx (withDeb (s.setPc i Pc.saDebStarted) s.threads.length) i .client := c1.append _ rfl rfl rfl
    exact c2.close _ hme2 (fun h => by cases h) (fun h => by cases h)
  · have c1 : WCtx (s.setPc i Pc.saDebStarted) i .client := c.m.wi.transfer hkp ⟨_, hme⟩ (Or.inl (by simp))
    have c2 : WCtx (withDeb (s.setPc i Pc.saDebStarted) s.threads.length) i .client :=
      c1.append { kind := .deb, pc := .begin } rfl rfl (Or.inl rfl) (fun w hw => Or.inl (by simpa [withDeb] using hw))
    exact c2.close _ hme2 (fun w h => by cases h) (fun h => by cases h)
  · have c2 : FCtx (withDeb (s.setPc i Pc.saDebStarted) s.threads.length) i .client :=
      (c.m.fi.setPc _).appendDeb (by simpa using hnone) (by simpa [withDeb] using hts) rfl (by simp [withDeb])
    exact c2.close _ hme2 (fun h => by cases h)
  · have c1 : JCtx (s.setPc i Pc.saDebStarted) i .client := c.m.ji.transfer hkp ⟨_, hme, by simp⟩
    have c2 : JCtx (withDeb (s.setPc i Pc.saDebStarted) s.threads.length) i .client :=
      c1.append { kind := .deb, pc := .begin } rfl rfl rfl rfl rfl rfl
    exact c2.close _ hme2 (fun h => by cases h) (fun h => by cases h)

theorem startBody_all (c : CtxN s i .client) : Reach (startBody s i) := by
  unfold startBody
  split
  · exact arrive_all (c.log _ rfl rfl)
  · next hts =>
    split
    · next hcond =>
      simp only [Bool.and_eq_true, Option.isNone_iff_eq_none] at hcond
      exact createDeb_all c (by simpa using hts) hcond.2
    · exact c.close _ rfl (fun h => by cases h) (.client rfl rfl rfl)

theorem MidN.setStopFlag (n : MidN s i) (w : Nat) : MidN (s.setStopFlag w) i :=
  ⟨Glob_congr n.glob (by simp) (by simp) (by simp) (by simp) (by simp), Oth_setStopFlag _ n.oth, by simpa using n.own,
   Stopping_congr n.stopping n.own (by simp) (by simp) (fun j pc _ e => by rwa [pcOf_setStopFlag])⟩

theorem stAcq_all (c : CtxN s i .client) (hts : s.trickStopping = false) :
    Reach (({ s with trickStopping := true } : State).setPc i
      (if ({ s with trickStopping := true } : State).debTid.isSome = true then Pc.stCond else Pc.stRAcq)) := by
  have hn1 : MidN ({ s with trickStopping := true } : State) i := by
    refine ⟨⟨by simpa [State.aliveP] using c.n.glob.dead, c.n.glob.nsas, ?_⟩,
      Oth_update c.n.oth (fun j _ pc e => Or.inl e) (by simp) (Or.inl rfl) (Or.inl rfl), c.n.own,
      Stopping_congr c.n.stopping c.n.own rfl rfl (fun _ _ _ e => e)⟩
    intro hx; have := (c.n.glob.ret hx).1; rw [hts] at this; cases this
  exact ⟨hn1.setPc_close c.m.lt _ (by split <;> rfl) (fun _ => rfl) (fun h => by split at h <;> cases h),
    WatX_setPc (WatX_congr (s' := { s with trickStopping := true }) c.m.wat rfl rfl rfl) _ (Or.inl (by split <;> rfl)),
    (c.m.deb.same (s' := { s with trickStopping := true }) (fun _ => rfl) rfl (fun h => h)).setPc_close _ (fun h => by cases h)
      (fun h => by split at h <;> cases h),
    (c.m.ch.same (s' := { s with trickStopping := true }) (fun _ => rfl) (fun _ => rfl)).setPc_close _ (fun h => by cases h)
      (fun h => by split at h <;> cases h),
    (c.m.wi.same (s' := { s with trickStopping := true }) (fun _ => rfl) (Or.inl rfl) rfl).setPc_close _
      (fun w h => by split at h <;> cases h) (fun h => by cases h),
    stAcq_fi c.m.fi (fun h => by cases h),
    (c.m.ji.transfer (s' := { s with trickStopping := true }) (fun j _ => rfl) c.m.ji.me rfl (fun h => h)
      (fun _ => rfl)).setPc_close _ (fun _ => rfl) (fun hc => by split at hc <;> cases hc)⟩

/-- `event_debouncer.stop()` touches stop flags and `notified` only -/
theorem stopDeb_same (s : State) :
    (∀ j, kp ((match s.debTid with | some d => s.setStopFlag d | none => s).notify) j = kp s j) ∧
    ((match s.debTid with | some d => s.setStopFlag d | none => s).notify).debTid = s.debTid ∧
    ((match s.debTid with | some d => s.setStopFlag d | none => s).notify).hist = s.hist ∧
    ((match s.debTid with | some d => s.setStopFlag d | none => s).notify).condHeld = s.condHeld ∧
    ((match s.debTid with | some d => s.setStopFlag d | none => s).notify).watcher = s.watcher ∧
    ((match s.debTid with | some d => s.setStopFlag d | none => s).notify).watchers = s.watchers ∧
    ((match s.debTid with | some d => s.setStopFlag d | none => s).notify).trickStopping = s.trickStopping := by
  cases h : s.debTid <;> simp [h, kp_notify, kp_setStopFlag, setStopFlag_condHeld]

theorem stepT_all {t : Thread} (r : Reach s) (ht : s.threads[i]? = some t) (hen : enabledT s t = true) :
    Reach (stepT s i t) := by
  by_cases hdone : t.pc = .done
  · unfold stepT; rw [hdone]; exact r
  have hpc : pcOf s i = some t.pc := pcOf_eq s i t ht
  have hme : kp s i = some (t.kind, t.pc) := by simp [kp, ht]
  have ok := r.inv.pcs i t.pc hpc
  have notOwner : holds t.pc = false → s.restartOwner ≠ some i := by
    intro hh e
    obtain ⟨pc, a, b, _⟩ := r.inv.stopping.1 i e
    rw [hpc] at a; cases a; simp [hh] at b
  have notStopping : holds t.pc = true → isSleep t.pc = false → s.procStopping = false := by
    intro hh hs
    cases hps : s.procStopping
    · rfl
    · obtain ⟨pc, a, _, c⟩ := r.inv.stopping.1 i (ok.1 hh)
      rw [hpc] at a; cases a; simp [hs] at c; exact absurd hps (by simp [c])
  have notDeb : debPc t.pc = false → isDeb t.kind = false := by
    intro hp
    cases hd : isDeb t.kind with
    | false => rfl
    | true => rw [r.deb.typed i _ _ (by simp) hme hd] at hp; cases hp
  have client : debPc t.pc = false → wPc t.pc = false → t.kind = .client := by
    intro h1 h2
    cases hk : t.kind with
    | client => rfl
    | deb => have := notDeb h1; rw [hk] at this; cases this
    | watcher pid => have := r.wi.ty i _ _ (by simp) hme (by rw [hk]; rfl); rw [h2] at this; cases this
  have isD : dpcB t.pc = true → t.kind = .deb := by
    intro hp
    have := r.ch.dty i _ _ (by simp) hme hp
    cases hk : t.kind <;> rw [hk] at this <;> first | rfl | cases this
  by_cases hst : t.pc = .stCond
  ·
    have hk : t.kind = .client := client (by rw [hst]; rfl) (by rw [hst]; rfl)
    have hn := r.inv.midN i (notOwner (by rw [hst]; rfl))
    have htr : s.trickStopping = true := ok.2.2.1 (by rw [hst]; rfl)
    unfold stepT; rw [hst]
    simp only
    have n1 : MidN (match s.debTid with | some d => s.setStopFlag d | none => s) i := by
      split
      · exact hn.setStopFlag _
      · exact hn
    have w1 : WatX (match s.debTid with | some d => s.setStopFlag d | none => s) (some i) := by
      split
      · exact WatX_setStopFlag (r.wat.toX _) _
      · exact r.wat.toX _
    obtain ⟨hkp, e1, e2, e3, e4, e5, e6⟩ := stopDeb_same s
    have ht1 : (match s.debTid with | some d => s.setStopFlag d | none => s).trickStopping = true := by
      split <;> simpa using htr
    have c1 : CtxN ((match s.debTid with | some d => s.setStopFlag d | none => s).notify) i t.kind :=
      ⟨n1.notify, notify_wat w1, (r.deb.open ht hdone).1.same hkp e1 (fun h => by rwa [retd, e2] at h),
       (r.ch.open r.deb ht).1.same hkp (fun _ => e3), (r.wi.open ht).same hkp (Or.inl e4) e5,
       stCond_fctx r.fi ht,
       (r.ji.open ht hdone).same hkp e5 (fun h => by rwa [retd, e2] at h) (fun h => by rw [e6]; exact h)⟩
    refine c1.close .stRAcq rfl (fun h => by cases h) ?_
    rw [hk]
    exact .stop rfl (Or.inl rfl) (fun h => by cases h) (by simpa using ht1) (fun w h => by cases h) (fun h => by cases h)
  have m : Mid s i t.kind :=
    ⟨r.wat.toX _, (r.deb.open ht hdone).1, (r.ch.open r.deb ht).1, r.wi.open ht, r.fi.open ht hst, r.ji.open ht hdone⟩
  have cN : ∀ k, t.kind = k → holds t.pc = false → CtxN s i k := fun k e hh => e ▸ ⟨r.inv.midN i (notOwner hh), m⟩
  have cH : ∀ k, t.kind = k → holds t.pc = true → CtxH s i k := fun k e hh => e ▸ ⟨r.inv.midH i (ok.1 hh), m⟩
  have cC : ∀ {pc}, t.pc = pc → debPc pc = false → wPc pc = false → holds pc = false → CtxN s i .client :=
    fun e h1 h2 h3 => cN _ (client (e ▸ h1) (e ▸ h2)) (e ▸ h3)
  have sk : ∀ a, (t.pc = .spAcq a ∨ ∃ kt dl, t.pc = .spSleep kt dl a) → StopK s t.kind a := by
    intro a h
    cases a with
    | restart => trivial
    | stop ws =>
      have hc : carried t.pc = ws ∧ carries t.pc = true ∧ inStop t.pc = true ∧ debPc t.pc = false ∧ wPc t.pc = false := by
        rcases h with e | ⟨kt, dl, e⟩ <;> rw [e] <;> exact ⟨rfl, rfl, rfl, rfl, rfl⟩
      refine ⟨client hc.2.2.2.1 hc.2.2.2.2, ok.2.2.1 hc.2.2.1, fun w hw => r.wi.wk i _ _ w (by simp) hme (by rw [hc.1]; exact hw),
        fun u hu => ?_⟩
      have := r.ji.cc i _ _ (by simp) hme hc.2.1 u hu
      rwa [hc.1] at this
  unfold stepT
  split
  · exact r
  · -- begin
    next hb =>
    split
    · next hk => exact arrive_all (cN _ hk (by rw [hb]; rfl))
    · next hk =>
      have hf := (r.ch.open r.deb ht).2 (by rw [hk]; rfl) (by rw [hb]; rfl)
      exact (cN _ hk (by rw [hb]; rfl)).close .dAcq rfl (fun h => by cases h)
        (.deb rfl rfl rfl (fun hh => by rw [hf] at hh; cases hh) (fun h => by cases h))
    · next pid hk => exact watcherLoop_all pid (cN _ hk (by rw [hb]; rfl))
  · next hb => exact arrive_all (cC hb rfl rfl rfl)
  · next hb => exact startBody_all (cC hb rfl rfl rfl)
  · next hb =>
    exact (cC hb rfl rfl rfl).close .saRAcq rfl (fun h => by cases h)
      (.client rfl rfl rfl)
  · -- saRAcq
    next hb =>
    have c := cC hb rfl rfl rfl
    have hfree : s.restartOwner = none := by simpa [enabledT, hb] using hen
    have hps := c.n.stopping.2 hfree
    simp only
    split
    · next hp => exact startProcess_all true (c.acquire hfree) hps (by simpa using hp) (fun _ => rfl)
    · exact startedFinish_all (s := { s with restartOwner := some i }) (c.acquire hfree) hps
  · next hb =>
    exact startedFinish_all (cH _ (client (by rw [hb]; rfl) (by rw [hb]; rfl)) (by rw [hb]; rfl))
      (notStopping (by rw [hb]; rfl) (by rw [hb]; rfl))
  · -- evCond
    next hb =>
    exact arrive_all (((cC hb rfl rfl rfl).congr
      (s' := { s with events := s.events + 1 }) rfl).notify.log _ rfl rfl)
  · -- rAcq
    next hb =>
    have c := cN t.kind rfl (by rw [hb]; rfl)
    have hfree : s.restartOwner = none := by simpa [enabledT, hb] using hen
    split
    · exact afterRestart_all c
    · exact (c.acquire hfree).close (.spAcq .restart) rfl (fun h => by cases h)
        (fun x => by simp [c.n.stopping.2 hfree] at x) (.restart rfl (Or.inl rfl))
  · next a hb =>
    exact stopProcBody_all a (cH t.kind rfl (by rw [hb]; rfl)) (notStopping (by rw [hb]; rfl) (by rw [hb]; rfl))
      (sk a (Or.inl hb))
  · next kt dl a hb =>
    exact killLoop_all kt a (cH t.kind rfl (by rw [hb]; rfl)) (r.wat.sleep i t.pc (by simp) hpc (by rw [hb]; rfl))
      (sk a (Or.inr ⟨kt, dl, hb⟩))
  · next hb =>
    exact restartFinish_all (cH t.kind rfl (by rw [hb]; rfl)) (notStopping (by rw [hb]; rfl) (by rw [hb]; rfl))
  · -- stAcq
    next hb =>
    have hk := client (by rw [hb]; rfl) (by rw [hb]; rfl)
    have c := cN _ hk (by rw [hb]; rfl)
    split
    · exact arrive_all (c.log _ rfl rfl)
    · next hts => exact stAcq_all c (by simpa using hts)
  · exact absurd (by assumption) hst
  · -- stRAcq: the list of watchers is captured
    next hb =>
    have c := cC hb rfl rfl rfl
    have htr : s.trickStopping = true := ok.2.2.1 (by rw [hb]; rfl)
    have hfree : s.restartOwner = none := by simpa [enabledT, hb] using hen
    exact (c.acquire hfree).close (.spAcq (.stop s.watchers)) rfl (fun h => by cases h)
      (fun x => by simp [c.n.stopping.2 hfree] at x)
      (.stop rfl (Or.inl rfl) (fun h => by cases h) htr (fun w hw => r.wi.wl w hw) (fun _ u hu => r.ji.live u hu))
  · -- stJoinDeb: the join has returned
    next ws hb =>
    have c := cC hb rfl rfl rfl
    have htr : s.trickStopping = true := ok.2.2.1 (by rw [hb]; rfl)
    have hp : s.process = none := ok.2.2.2 (by rw [hb]; rfl)
    have hcc := r.ji.cc i _ _ (by simp) hme (by rw [hb]; rfl)
    rw [hb] at hcc
    have hcar : ∀ w, w ∈ ws → isWat s w := fun w hw => r.wi.wk i _ _ w (by simp) hme (by rw [hb]; exact hw)
    have hod : OthersDone s (some i) := by
      intro j k' pc _ hkp hd
      have h2 : s.debTid = some j := r.deb.uniq j k' pc hkp hd
      have hen' : s.isDone j = true := by simpa [enabledT, hb, h2] using hen
      unfold State.isDone at hen'
      unfold kp at hkp
      cases htj : s.threads[j]? with
      | none => rw [htj] at hkp; cases hkp
      | some tj =>
        rw [htj] at hkp hen'
        simp only [Option.map_some, Option.some.injEq, Prod.mk.injEq] at hkp
        rw [← hkp.2]; simpa using hen'
    exact joinNext_all c htr hp hod ws hcar hcc
  · -- stJoinW: the join has returned, the thread joined has ended
    next w rest hb =>
    have c := cC hb rfl rfl rfl
    have htr : s.trickStopping = true := ok.2.2.1 (by rw [hb]; rfl)
    have hp : s.process = none := ok.2.2.2 (by rw [hb]; rfl)
    have hcc := r.ji.cc i _ _ (by simp) hme (by rw [hb]; rfl)
    rw [hb] at hcc
    have hcar : ∀ v, v ∈ rest → isWat s v :=
      fun v hv => r.wi.wk i _ _ v (by simp) hme (by rw [hb]; exact List.mem_cons_of_mem _ hv)
    have hod : OthersDone s (some i) := fun j k' pc _ hkp hd =>
      r.deb.gone (Or.inl ⟨i, t.kind, t.pc, by simp, hme, by rw [hb]; rfl⟩) j k' pc (by simp) hkp hd
    have hwd : s.isDone w = true := by simpa [enabledT, hb] using hen
    have hrest : ∀ u, liveW s u → u ∈ rest := by
      intro u hu
      have := hcc u hu
      simp only [carried, List.mem_cons] at this
      rcases this with e | e
      · rw [e] at hu; exact absurd hu (not_liveW_of_isDone hwd)
      · exact e
    exact joinNext_all c htr hp hod rest hcar hrest
  · -- wWait
    next hb =>
    have c := cN t.kind rfl (by rw [hb]; rfl)
    have hnd : isDeb t.kind = false := notDeb (by rw [hb]; rfl)
    split
    · exact c.close .done rfl (fun h => by cases h) (.done hnd)
    · split
      · next pid hk => exact watcherLoop_all pid (cN _ hk (by rw [hb]; rfl))
      · exact c.close .done rfl (fun h => by cases h) (.done hnd)
  · next hb =>
    exact debHead_all ((cN _ (isD (by rw [hb]; rfl)) (by rw [hb]; rfl)).congr (s' := { s with condHeld := true }) rfl
      (hc := fun h => by cases h))
  · next hb =>
    exact debHead_all ((cN _ (isD (by rw [hb]; rfl)) (by rw [hb]; rfl)).congr
      (s' := { s with condHeld := true, notified := false }) rfl (hc := fun h => by cases h) (hn := fun h => absurd rfl h))
  · -- dWaitMore
    next dl hb =>
    have c1 : CtxN ({ s with condHeld := true, notified := false } : State) i .deb :=
      (cN _ (isD (by rw [hb]; rfl)) (by rw [hb]; rfl)).congr rfl (hc := fun h => by cases h) (hn := fun h => absurd rfl h)
    simp only
    split
    · split
      · exact (c1.congr (s' := { s with condHeld := false, notified := false }) rfl (hc := fun h => by cases h)).close _ rfl
          (fun h => by cases h) (.deb rfl rfl rfl (fun h => by cases h) (fun h => by cases h))
      · exact debDeliver_all c1
    · exact debDeliver_all c1

theorem init_all (cfg : Cfg) (lifetimes : List (Option Nat)) (scripts : List (List Op)) :
    Reach (init cfg lifetimes scripts) :=
  ⟨init_inv cfg lifetimes scripts, init_wat cfg lifetimes scripts, init_deb cfg lifetimes scripts,
   init_ch cfg lifetimes scripts, init_wi cfg lifetimes scripts, init_fi cfg lifetimes scripts, init_ji cfg lifetimes scripts⟩

theorem act_all (r : Reach s) (a : Action) : Reach (act s a) := by
  cases a with
  | tick d =>
    exact ⟨tick_inv r.inv d, WatX_congr (s' := { s with clock := s.clock + d }) r.wat rfl rfl rfl,
      ⟨r.deb.uniq, r.deb.typed, r.deb.gone⟩, ⟨r.ch.held, r.ch.dty⟩, ⟨r.wi.wr, r.wi.wl, r.wi.wk, r.wi.ty⟩,
      ⟨r.fi.dk, r.fi.uq, r.fi.c2, r.fi.c3⟩, ⟨r.ji.live, r.ji.cc, r.ji.ret, r.ji.tsc, r.ji.tsr⟩⟩
  | step tid =>
    simp only [act, step]
    split
    · next t ht =>
      split
      · next hen => exact stepT_all r ht hen
      · exact r
    · exact r

theorem run_all (r : Reach s) (as : List Action) : Reach (run s as) := by
  induction as generalizing s with
  | nil => exact r
  | cons a as ih => exact ih (act_all r a)

theorem reach_run (cfg : Cfg) (lifetimes : List (Option Nat)) (scripts : List (List Op)) (as : List Action) :
    Reach (run (init cfg lifetimes scripts) as) :=
  run_all (init_all cfg lifetimes scripts) as

end walk

end WD.ProofsRst
