/- WD.Rst: projections of the state-update helpers (simp set), pc classification, history predicates -/
import WD.Model.Restart
import WD.Base.Assoc
namespace WD.ProofsRst
open WD.Rst

/-- pcs at which the thread holds `_restart_lock` -/
def holds : Pc → Bool
  | .saStarted | .spAcq _ | .spSleep _ _ _ | .rStarted => true
  | _ => false

def isSleep : Pc → Bool
  | .spSleep _ _ _ => true
  | _ => false

def afterIsStop : After → Bool
  | .stop _ => true
  | .restart => false

/-- pcs inside the working part of `stop()` (the flag is up) -/
def inStop : Pc → Bool
  | .stCond | .stRAcq | .stJoinDeb _ | .stJoinW _ _ => true
  | .spAcq a | .spSleep _ _ a => afterIsStop a
  | _ => false

/-- pcs of `stop()` after its `_stop_process` -/
def pastStop : Pc → Bool
  | .stJoinDeb _ | .stJoinW _ _ => true
  | _ => false

def pcOf (s : State) (j : Nat) : Option Pc := (s.threads[j]?).map (·.pc)

def isSpawn : Obs → Bool | .spawn _ _ => true | _ => false
def isStopRet : Obs → Bool | .stopRet _ _ => true | _ => false

/-- nothing is spawned after the working `stop()` returned -/
def NSAS (h : List Obs) : Prop :=
  ∀ p q o, h = p ++ o :: q → isStopRet o = true → ∀ o' ∈ q, isSpawn o' = false

theorem NSAS_nil : NSAS [] := by
  intro p q o e; simp at e

theorem NSAS_snoc_nonspawn {h : List Obs} {o : Obs} (H : NSAS h) (ho : isSpawn o = false) : NSAS (h ++ [o]) := by
  intro p q x e hx o' hm
  rcases snoc_split e with ⟨rfl, _, _⟩ | ⟨q', rfl, e'⟩
  · simp at hm
  · rcases List.mem_append.1 hm with hm | hm
    · exact H p q' x e' hx o' hm
    · simp at hm; subst hm; exact ho

theorem NSAS_snoc_nostop {h : List Obs} {o : Obs} (H : ∀ x ∈ h, isStopRet x = false) : NSAS (h ++ [o]) := by
  intro p q x e hx o' hm
  rcases snoc_split e with ⟨rfl, _, _⟩ | ⟨q', rfl, e'⟩
  · simp at hm
  · have := H x (by rw [e']; simp)
    simp [this] at hx

/-- the working `stop()` has returned -/
def retd (s : State) : Prop := ∃ o ∈ s.hist, isStopRet o = true

section proj
variable (s : State) (i : Nat) (t : Thread) (pc : Pc) (o : Obs)

@[simp] theorem log_threads : (s.log o).threads = s.threads := rfl
@[simp] theorem log_process : (s.log o).process = s.process := rfl
@[simp] theorem log_procs : (s.log o).procs = s.procs := rfl
@[simp] theorem log_clock : (s.log o).clock = s.clock := rfl
@[simp] theorem log_owner : (s.log o).restartOwner = s.restartOwner := rfl
@[simp] theorem log_procStopping : (s.log o).procStopping = s.procStopping := rfl
@[simp] theorem log_trickStopping : (s.log o).trickStopping = s.trickStopping := rfl
@[simp] theorem log_hist : (s.log o).hist = s.hist ++ [o] := rfl
@[simp] theorem log_debTid : (s.log o).debTid = s.debTid := rfl
@[simp] theorem log_watcher : (s.log o).watcher = s.watcher := rfl
@[simp] theorem log_watchers : (s.log o).watchers = s.watchers := rfl
@[simp] theorem log_cfg : (s.log o).cfg = s.cfg := rfl

@[simp] theorem setThread_threads : (s.setThread i t).threads = s.threads.set i t := rfl
@[simp] theorem setThread_process : (s.setThread i t).process = s.process := rfl
@[simp] theorem setThread_procs : (s.setThread i t).procs = s.procs := rfl
@[simp] theorem setThread_clock : (s.setThread i t).clock = s.clock := rfl
@[simp] theorem setThread_owner : (s.setThread i t).restartOwner = s.restartOwner := rfl
@[simp] theorem setThread_procStopping : (s.setThread i t).procStopping = s.procStopping := rfl
@[simp] theorem setThread_trickStopping : (s.setThread i t).trickStopping = s.trickStopping := rfl
@[simp] theorem setThread_hist : (s.setThread i t).hist = s.hist := rfl
@[simp] theorem setThread_debTid : (s.setThread i t).debTid = s.debTid := rfl
@[simp] theorem setThread_watcher : (s.setThread i t).watcher = s.watcher := rfl
@[simp] theorem setThread_watchers : (s.setThread i t).watchers = s.watchers := rfl
@[simp] theorem setThread_cfg : (s.setThread i t).cfg = s.cfg := rfl

@[simp] theorem setPc_process : (s.setPc i pc).process = s.process := by unfold State.setPc; split <;> rfl
@[simp] theorem setPc_procs : (s.setPc i pc).procs = s.procs := by unfold State.setPc; split <;> rfl
@[simp] theorem setPc_clock : (s.setPc i pc).clock = s.clock := by unfold State.setPc; split <;> rfl
@[simp] theorem setPc_owner : (s.setPc i pc).restartOwner = s.restartOwner := by unfold State.setPc; split <;> rfl
@[simp] theorem setPc_procStopping : (s.setPc i pc).procStopping = s.procStopping := by unfold State.setPc; split <;> rfl
@[simp] theorem setPc_trickStopping : (s.setPc i pc).trickStopping = s.trickStopping := by unfold State.setPc; split <;> rfl
@[simp] theorem setPc_hist : (s.setPc i pc).hist = s.hist := by unfold State.setPc; split <;> rfl
@[simp] theorem setPc_debTid : (s.setPc i pc).debTid = s.debTid := by unfold State.setPc; split <;> rfl
@[simp] theorem setPc_watcher : (s.setPc i pc).watcher = s.watcher := by unfold State.setPc; split <;> rfl
@[simp] theorem setPc_watchers : (s.setPc i pc).watchers = s.watchers := by unfold State.setPc; split <;> rfl
@[simp] theorem setPc_cfg : (s.setPc i pc).cfg = s.cfg := by unfold State.setPc; split <;> rfl
@[simp] theorem setPc_length : (s.setPc i pc).threads.length = s.threads.length := by
  unfold State.setPc; split <;> simp

@[simp] theorem setStopFlag_process : (s.setStopFlag i).process = s.process := by unfold State.setStopFlag; split <;> rfl
@[simp] theorem setStopFlag_procs : (s.setStopFlag i).procs = s.procs := by unfold State.setStopFlag; split <;> rfl
@[simp] theorem setStopFlag_clock : (s.setStopFlag i).clock = s.clock := by unfold State.setStopFlag; split <;> rfl
@[simp] theorem setStopFlag_owner : (s.setStopFlag i).restartOwner = s.restartOwner := by unfold State.setStopFlag; split <;> rfl
@[simp] theorem setStopFlag_procStopping : (s.setStopFlag i).procStopping = s.procStopping := by unfold State.setStopFlag; split <;> rfl
@[simp] theorem setStopFlag_trickStopping : (s.setStopFlag i).trickStopping = s.trickStopping := by unfold State.setStopFlag; split <;> rfl
@[simp] theorem setStopFlag_hist : (s.setStopFlag i).hist = s.hist := by unfold State.setStopFlag; split <;> rfl
@[simp] theorem setStopFlag_debTid : (s.setStopFlag i).debTid = s.debTid := by unfold State.setStopFlag; split <;> rfl
@[simp] theorem setStopFlag_watcher : (s.setStopFlag i).watcher = s.watcher := by unfold State.setStopFlag; split <;> rfl
@[simp] theorem setStopFlag_watchers : (s.setStopFlag i).watchers = s.watchers := by unfold State.setStopFlag; split <;> rfl
@[simp] theorem setStopFlag_cfg : (s.setStopFlag i).cfg = s.cfg := by unfold State.setStopFlag; split <;> rfl
@[simp] theorem setStopFlag_length : (s.setStopFlag i).threads.length = s.threads.length := by
  unfold State.setStopFlag; split <;> simp

end proj

theorem lt_of_getElem? {α : Type} {l : List α} {i : Nat} {a : α} (h : l[i]? = some a) : i < l.length := by
  obtain ⟨h, _⟩ := List.getElem?_eq_some_iff.1 h; exact h

def kp (s : State) (j : Nat) : Option (Kind × Pc) := (s.threads[j]?).map (fun t => (t.kind, t.pc))

theorem pcOf_kp (s : State) (j : Nat) : pcOf s j = (kp s j).map Prod.snd := by
  unfold pcOf kp; cases s.threads[j]? <;> rfl

theorem kp_congr {s s' : State} (h : s'.threads = s.threads) (j : Nat) : kp s' j = kp s j := by
  simp [kp, h]

theorem kp_lt {s : State} {j : Nat} {x : Kind × Pc} (h : kp s j = some x) : j < s.threads.length := by
  unfold kp at h
  cases ht : s.threads[j]? with
  | none => rw [ht] at h; cases h
  | some t => exact lt_of_getElem? ht

theorem kp_some {s : State} {j : Nat} {k : Kind} {pc : Pc} (h : kp s j = some (k, pc)) :
    ∃ t, s.threads[j]? = some t ∧ t.kind = k ∧ t.pc = pc := by
  unfold kp at h
  cases ht : s.threads[j]? with
  | none => rw [ht] at h; cases h
  | some t =>
    rw [ht] at h
    simp only [Option.map_some, Option.some.injEq, Prod.mk.injEq] at h
    exact ⟨t, rfl, h.1, h.2⟩

theorem kp_pcOf {s : State} {j : Nat} {k : Kind} {pc : Pc} (h : kp s j = some (k, pc)) : pcOf s j = some pc := by
  rw [pcOf_kp, h]; rfl

theorem kp_setThread (s : State) (i j : Nat) (t : Thread) :
    kp (s.setThread i t) j = if i = j ∧ i < s.threads.length then some (t.kind, t.pc) else kp s j := by
  unfold kp
  simp only [setThread_threads, List.getElem?_set]
  by_cases h : i = j
  · subst h
    by_cases hl : i < s.threads.length
    · simp [hl]
    · simp [hl]
  · simp [h]

theorem kp_setPc (s : State) (i j : Nat) (pc : Pc) :
    kp (s.setPc i pc) j = if i = j then (kp s i).map (fun x => (x.1, pc)) else kp s j := by
  unfold State.setPc
  split
  · next t ht =>
    rw [kp_setThread]
    have hl := lt_of_getElem? ht
    by_cases h : i = j
    · subst h
      have hg : s.threads[i] = t := by
        have := List.getElem?_eq_getElem hl; rw [this] at ht; exact Option.some.inj ht
      simp [hl, kp, hg]
    · simp [h]
  · next hn =>
    by_cases h : i = j
    · subst h; simp [kp, hn]
    · simp [h]

theorem kp_setStopFlag (s : State) (w j : Nat) : kp (s.setStopFlag w) j = kp s j := by
  unfold State.setStopFlag
  split
  · next t ht =>
    rw [kp_setThread]
    split
    · next h => obtain ⟨rfl, _⟩ := h; simp [kp, ht]
    · rfl
  · rfl

theorem kp_append {s s' : State} (t0 : Thread) (h1 : s'.threads = s.threads ++ [t0]) (j : Nat) :
    kp s' j = if j < s.threads.length then kp s j else if j = s.threads.length then some (t0.kind, t0.pc) else none := by
  unfold kp
  rw [h1, List.getElem?_append]
  by_cases hj : j < s.threads.length
  · simp [hj]
  · simp only [hj, if_false]
    by_cases he : j = s.threads.length
    · simp [he]
    · have : j - s.threads.length ≠ 0 := by omega
      cases hk : j - s.threads.length with
      | zero => exact absurd hk this
      | succ n => simp [he]

theorem kp_append_old {s s' : State} (t0 : Thread) (h1 : s'.threads = s.threads ++ [t0]) {j : Nat}
    (hj : j < s.threads.length) : kp s' j = kp s j := by
  rw [kp_append t0 h1, if_pos hj]

theorem kp_append_new {s s' : State} (t0 : Thread) (h1 : s'.threads = s.threads ++ [t0]) {j : Nat} {x : Kind × Pc}
    (hj : ¬ j < s.threads.length) (h : kp s' j = some x) : j = s.threads.length ∧ x = (t0.kind, t0.pc) := by
  rw [kp_append t0 h1, if_neg hj] at h
  split at h
  · next e => exact ⟨e, (Option.some.inj h).symm⟩
  · cases h

theorem pcOf_setThread (s : State) (i j : Nat) (t : Thread) :
    pcOf (s.setThread i t) j = if i = j ∧ i < s.threads.length then some t.pc else pcOf s j := by
  rw [pcOf_kp, kp_setThread, pcOf_kp]; split <;> rfl

theorem pcOf_setPc (s : State) (i j : Nat) (pc : Pc) :
    pcOf (s.setPc i pc) j = if i = j ∧ i < s.threads.length then some pc else pcOf s j := by
  unfold State.setPc
  split
  · next t ht =>
    rw [pcOf_setThread]
  · next hn =>
    have : ¬ i < s.threads.length := by
      intro hl; rw [List.getElem?_eq_getElem hl] at hn; cases hn
    simp [this]

theorem pcOf_setPc_ne (s : State) (i j : Nat) (pc : Pc) (h : j ≠ i) : pcOf (s.setPc i pc) j = pcOf s j := by
  rw [pcOf_setPc]; simp [Ne.symm h]

theorem pcOf_setStopFlag (s : State) (i j : Nat) : pcOf (s.setStopFlag i) j = pcOf s j := by
  rw [pcOf_kp, kp_setStopFlag, pcOf_kp]

theorem pcOf_append {s s' : State} (t0 : Thread) (h1 : s'.threads = s.threads ++ [t0]) (j : Nat) :
    pcOf s' j = if j < s.threads.length then pcOf s j else if j = s.threads.length then some t0.pc else none := by
  rw [pcOf_kp, kp_append t0 h1, pcOf_kp]; split
  · rfl
  · split <;> rfl

theorem pcOf_lt (s : State) (j : Nat) (pc : Pc) (h : pcOf s j = some pc) : j < s.threads.length := by
  rw [pcOf_kp] at h
  cases hk : kp s j with
  | none => rw [hk] at h; cases h
  | some x => exact kp_lt hk

theorem pcOf_eq (s : State) (j : Nat) (t : Thread) (h : s.threads[j]? = some t) : pcOf s j = some t.pc := by
  simp [pcOf, h]

theorem kp_init {cfg : Cfg} {lifetimes : List (Option Nat)} {scripts : List (List Op)} {j : Nat} {k : Kind} {pc : Pc}
    (h : kp (init cfg lifetimes scripts) j = some (k, pc)) : k = .client ∧ pc = .begin := by
  simp only [kp, init, List.getElem?_map] at h
  cases hs : scripts[j]? with
  | none => rw [hs] at h; cases h
  | some x => rw [hs] at h; simp at h; exact ⟨h.1.symm, h.2.symm⟩

theorem retd_log {s : State} {o : Obs} (ho : isStopRet o = false) (h : retd (s.log o)) : retd s := by
  obtain ⟨x, hx, hr⟩ := h
  simp only [State.log, List.mem_append, List.mem_singleton] at hx
  rcases hx with hx | hx
  · exact ⟨x, hx, hr⟩
  · rw [hx, ho] at hr; cases hr

end WD.ProofsRst
