/- WD.Rst: nobody waits for `_restart_lock` or `_stopping_lock` in vain - whenever a thread is waiting for one of the two
   locks, some thread can take a step, or the lock's holder is asleep in the kill loop (a pending deadline) -/
import WD.Proofs.Restart.Inv
namespace WD.ProofsRst
open WD.Rst

/-- pcs at which a thread waits for `_stopping_lock` -/
def waitsS : Pc → Bool
  | .saSAcq | .stAcq | .spAcq _ => true
  | _ => false

/-- pcs at which a thread waits for `_restart_lock` -/
def waitsR : Pc → Bool
  | .saRAcq | .rAcq | .stRAcq => true
  | _ => false

/-- some thread can step now, or one sleeps in the kill loop (and will be able to once the clock has advanced) -/
def CanMove (s : State) : Prop :=
  (∃ i, enabled s i = true) ∨ (∃ (i : Nat) (ti : Thread) (kt dl : Nat) (a : After), s.threads[i]? = some ti ∧ ti.pc = Pc.spSleep kt dl a)

theorem startHolds_witness {s : State} (h : s.startHolds = true) : ∃ i, enabled s i = true := by
  unfold State.startHolds at h
  obtain ⟨t, ht, hpc⟩ := List.any_eq_true.mp h
  obtain ⟨i, hi, hget⟩ := List.getElem_of_mem ht
  refine ⟨i, ?_⟩
  have : s.threads[i]? = some t := by rw [List.getElem?_eq_getElem hi, hget]
  have hp : t.pc = .saDebStarted := by simpa using hpc
  simp [enabled, this, enabledT, hp]

/-- a thread waiting for `_stopping_lock`: the lock is free (the thread itself can step), or `start()` holds it - and the
    starting thread can always step -/
theorem waitS_progress (s : State) (j : Nat) (t : Thread) (ht : s.threads[j]? = some t) (hw : waitsS t.pc = true) :
    ∃ i, enabled s i = true := by
  cases hs : s.startHolds with
  | true => exact startHolds_witness hs
  | false =>
    refine ⟨j, ?_⟩
    simp only [enabled, ht]
    cases hpc : t.pc <;> simp [waitsS, hpc] at hw <;> simp [enabledT, hpc, hs]

theorem waitR_progress {s : State} (inv : Inv s) (j : Nat) (t : Thread) (ht : s.threads[j]? = some t)
    (hw : waitsR t.pc = true) : CanMove s := by
  cases ho : s.restartOwner with
  | none =>
    refine Or.inl ⟨j, ?_⟩
    simp only [enabled, ht]
    cases hpc : t.pc <;> simp [waitsR, hpc] at hw <;> simp [enabledT, hpc, ho]
  | some o =>
    obtain ⟨pc, hpo, hh, _⟩ := inv.stopping.1 o ho
    unfold pcOf at hpo
    cases hto : s.threads[o]? with
    | none => rw [hto] at hpo; cases hpo
    | some to =>
      rw [hto] at hpo
      simp only [Option.map_some, Option.some.injEq] at hpo
      cases hpc : to.pc <;> rw [hpc] at hpo <;> subst hpo <;> simp [holds] at hh
      · exact Or.inl ⟨o, by simp [enabled, hto, enabledT, hpc]⟩
      · exact Or.inl (waitS_progress s o to hto (by simp [waitsS, hpc]))
      · exact Or.inr ⟨o, to, _, _, _, hto, hpc⟩
      · exact Or.inl ⟨o, by simp [enabled, hto, enabledT, hpc]⟩

end WD.ProofsRst
