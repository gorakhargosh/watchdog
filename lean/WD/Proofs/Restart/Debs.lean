/- WD.Rst: the debouncer thread.  There is at most one, it is `event_debouncer`, it only ever sits at pcs of the
   debouncer's loop or of a restart, and once a `stop()` is past its `event_debouncer.join()` - in particular once the
   working `stop()` has returned - it has ended. -/
import WD.Proofs.Restart.Helpers
namespace WD.ProofsRst
open WD.Rst

def isDeb : Kind → Bool
  | .deb => true
  | _ => false

/-- the pcs a debouncer thread can be at: its own loop, and the restart it runs as its callback -/
def debPc : Pc → Bool
  | .begin | .done | .dAcq | .dWaitFirst | .dWaitMore _ | .rAcq | .spAcq .restart | .spSleep _ _ .restart | .rStarted => true
  | _ => false

def isJoinW : Pc → Bool
  | .stJoinW _ _ => true
  | _ => false

/-- some `stop()` is past its `event_debouncer.join()`, or the working `stop()` has returned -/
def Prem (s : State) (x : Option Nat) : Prop :=
  (∃ j k pc, some j ≠ x ∧ kp s j = some (k, pc) ∧ isJoinW pc = true) ∨ (∃ o ∈ s.hist, isStopRet o = true)

def OthersDone (s : State) (x : Option Nat) : Prop :=
  ∀ j k pc, some j ≠ x → kp s j = some (k, pc) → isDeb k = true → pc = .done

structure DebX (s : State) (x : Option Nat) : Prop where
  uniq : ∀ j k pc, kp s j = some (k, pc) → isDeb k = true → s.debTid = some j
  typed : ∀ j k pc, some j ≠ x → kp s j = some (k, pc) → isDeb k = true → debPc pc = true
  gone : Prem s x → OthersDone s x

abbrev Deb (s : State) : Prop := DebX s none

/-- in the middle of a step of thread `i`, of kind `k` -/
structure DCtx (s : State) (i : Nat) (k : Kind) : Prop where
  x : DebX s (some i)
  me : ∃ pc, kp s i = some (k, pc)
  np : isDeb k = true → ¬ Prem s (some i)

theorem DCtx.transfer {s s' : State} {i : Nat} {k : Kind} (c : DCtx s i k)
    (hkp : ∀ j, j ≠ i → kp s' j = kp s j) (hme : ∃ pc, kp s' i = some (k, pc)) (hd : s'.debTid = s.debTid)
    (hh : ∀ o ∈ s'.hist, isStopRet o = true → ∃ o' ∈ s.hist, isStopRet o' = true) : DCtx s' i k := by
  have hprem : Prem s' (some i) → Prem s (some i) := by
    rintro (⟨j, k', pc, hj, hk, hw⟩ | ⟨o, ho, hr⟩)
    · have hji : j ≠ i := fun e => hj (by rw [e])
      exact Or.inl ⟨j, k', pc, hj, by rw [← hkp j hji]; exact hk, hw⟩
    · exact Or.inr (hh o ho hr)
  refine ⟨⟨?_, ?_, ?_⟩, hme, fun hk hp => c.np hk (hprem hp)⟩
  · intro j k' pc hk hdk
    rw [hd]
    by_cases hji : j = i
    · subst hji
      obtain ⟨pc1, h1⟩ := hme
      rw [h1] at hk; cases hk
      obtain ⟨pc0, h0⟩ := c.me
      exact c.x.uniq j k pc0 h0 hdk
    · exact c.x.uniq j k' pc (by rw [← hkp j hji]; exact hk) hdk
  · intro j k' pc hj hk hdk
    have hji : j ≠ i := fun e => hj (by rw [e])
    exact c.x.typed j k' pc hj (by rw [← hkp j hji]; exact hk) hdk
  · intro hp j k' pc hj hk hdk
    have hji : j ≠ i := fun e => hj (by rw [e])
    exact c.x.gone (hprem hp) j k' pc hj (by rw [← hkp j hji]; exact hk) hdk

theorem DCtx.close {s : State} {i : Nat} {k : Kind} (c : DCtx s i k) (pc : Pc) (hme : kp s i = some (k, pc))
    (h1 : isDeb k = true → debPc pc = true) (h2 : isJoinW pc = true → isDeb k = false ∧ OthersDone s (some i)) : Deb s := by
  refine ⟨c.x.uniq, ?_, ?_⟩
  · intro j k' pc' _ hk hdk
    by_cases hji : j = i
    · subst hji; rw [hme] at hk; cases hk; exact h1 hdk
    · exact c.x.typed j k' pc' (by simp [hji]) hk hdk
  · intro hp
    have key : isDeb k = false ∧ OthersDone s (some i) := by
      rcases hp with ⟨j, k', pc', _, hk, hw⟩ | ⟨o, ho, hr⟩
      · by_cases hji : j = i
        · subst hji; rw [hme] at hk; cases hk; exact h2 hw
        · have hp' : Prem s (some i) := Or.inl ⟨j, k', pc', by simp [hji], hk, hw⟩
          cases hdk : isDeb k with
          | false => exact ⟨rfl, c.x.gone hp'⟩
          | true => exact absurd hp' (c.np hdk)
      · have hp' : Prem s (some i) := Or.inr ⟨o, ho, hr⟩
        cases hdk : isDeb k with
        | false => exact ⟨rfl, c.x.gone hp'⟩
        | true => exact absurd hp' (c.np hdk)
    intro j k' pc' _ hk hdk
    by_cases hji : j = i
    · subst hji; rw [hme] at hk; cases hk; rw [key.1] at hdk; cases hdk
    · exact key.2 j k' pc' (by simp [hji]) hk hdk

theorem Deb.open {s : State} {i : Nat} {t : Thread} (h : Deb s) (ht : s.threads[i]? = some t) (hnd : t.pc ≠ .done) :
    DCtx s i t.kind ∧ (isDeb t.kind = true → debPc t.pc = true) := by
  have hme : kp s i = some (t.kind, t.pc) := by simp [kp, ht]
  have hprem : Prem s (some i) → Prem s none := by
    rintro (⟨j, k', pc, _, hk, hw⟩ | hr)
    · exact Or.inl ⟨j, k', pc, by simp, hk, hw⟩
    · exact Or.inr hr
  refine ⟨⟨⟨h.uniq, fun j k pc _ hk hd => h.typed j k pc (by simp) hk hd,
    fun hp j k pc _ hk hd => h.gone (hprem hp) j k pc (by simp) hk hd⟩, ⟨_, hme⟩, ?_⟩, fun hd => h.typed i _ _ (by simp) hme hd⟩
  intro hd hp
  exact hnd (h.gone (hprem hp) i _ _ (by simp) hme hd)

theorem OthersDone_transfer {s s' : State} {i : Nat} (h : OthersDone s (some i)) (hkp : ∀ j, j ≠ i → kp s' j = kp s j) :
    OthersDone s' (some i) := by
  intro j k pc hj hk hd
  have hji : j ≠ i := fun e => hj (by rw [e])
  exact h j k pc hj (by rw [← hkp j hji]; exact hk) hd

/-- an update that leaves the kinds and pcs of all threads, the debouncer reference and the working `stop()`s of the
    history alone -/
theorem DCtx.same {s s' : State} {i : Nat} {k : Kind} (c : DCtx s i k) (hkp : ∀ j, kp s' j = kp s j)
    (hd : s'.debTid = s.debTid) (hh : retd s' → retd s) : DCtx s' i k :=
  c.transfer (fun j _ => hkp j) (by rw [hkp]; exact c.me) hd (fun o ho hr => hh ⟨o, ho, hr⟩)

theorem DCtx.setPc_close {s : State} {i : Nat} {k : Kind} (c : DCtx s i k) (pc : Pc)
    (h1 : isDeb k = true → debPc pc = true) (h2 : isJoinW pc = true → isDeb k = false ∧ OthersDone s (some i)) :
    Deb (s.setPc i pc) := by
  obtain ⟨pc0, h0⟩ := c.me
  have hkp : ∀ j, j ≠ i → kp (s.setPc i pc) j = kp s j := fun j hj => by rw [kp_setPc]; simp [Ne.symm hj]
  have hme : kp (s.setPc i pc) i = some (k, pc) := by rw [kp_setPc]; simp [h0]
  have c' := c.transfer (s' := s.setPc i pc) hkp ⟨pc, hme⟩ (by simp) (fun o ho hr => ⟨o, by simpa using ho, hr⟩)
  exact c'.close pc hme h1 (fun hj => ⟨(h2 hj).1, OthersDone_transfer (h2 hj).2 hkp⟩)

theorem DCtx.appendWatcher {s s' : State} {i : Nat} {k : Kind} (c : DCtx s i k) (pid : Nat)
    (h1 : s'.threads = s.threads ++ [{ kind := .watcher pid, pc := .begin }]) (h2 : s'.debTid = s.debTid)
    (h3 : s'.hist = s.hist) : DCtx s' i k := by
  obtain ⟨pc0, h0⟩ := c.me
  have hil := kp_lt h0
  have hold : ∀ j, j < s.threads.length → kp s' j = kp s j := fun j hj => kp_append_old _ h1 hj
  have hnew : ∀ j x, ¬ j < s.threads.length → kp s' j = some x → x = (Kind.watcher pid, Pc.begin) :=
    fun j x hj hk => (kp_append_new _ h1 hj hk).2
  have hprem : Prem s' (some i) → Prem s (some i) := by
    rintro (⟨j, k', pc, hj, hk, hw⟩ | ⟨o, ho, hr⟩)
    · by_cases hl : j < s.threads.length
      · exact Or.inl ⟨j, k', pc, hj, by rw [← hold j hl]; exact hk, hw⟩
      · have := hnew j _ hl hk; cases this; cases hw
    · exact Or.inr ⟨o, by rwa [h3] at ho, hr⟩
  refine ⟨⟨?_, ?_, ?_⟩, ⟨pc0, by rw [hold i hil]; exact h0⟩, fun hk hp => c.np hk (hprem hp)⟩
  · intro j k' pc hk hdk
    rw [h2]
    by_cases hl : j < s.threads.length
    · exact c.x.uniq j k' pc (by rw [← hold j hl]; exact hk) hdk
    · have := hnew j _ hl hk; cases this; cases hdk
  · intro j k' pc hj hk hdk
    by_cases hl : j < s.threads.length
    · exact c.x.typed j k' pc hj (by rw [← hold j hl]; exact hk) hdk
    · have := hnew j _ hl hk; cases this; cases hdk
  · intro hp j k' pc hj hk hdk
    by_cases hl : j < s.threads.length
    · exact c.x.gone (hprem hp) j k' pc hj (by rw [← hold j hl]; exact hk) hdk
    · have := hnew j _ hl hk; cases this; cases hdk

def withWatcher (s1 : State) (pid : Nat) : State := { s1 with threads := s1.threads ++ [{ kind := .watcher pid, pc := .begin }], watcher := some s1.threads.length, watchers := s1.watchers.filter (fun x => !s1.isDone x) ++ [s1.threads.length] }
def withDeb (s1 : State) (d : Nat) : State := { s1 with threads := s1.threads ++ [{ kind := .deb, pc := .begin }], debTid := some d }
theorem DCtx.appendDeb {s s' : State} {i : Nat} {k : Kind} (c : DCtx s i k) (hk : isDeb k = false)
    (hnone : s.debTid = none) (hnp : ¬ Prem s (some i))
    (h1 : s'.threads = s.threads ++ [{ kind := .deb, pc := .begin }]) (h2 : s'.debTid = some s.threads.length)
    (h3 : s'.hist = s.hist) : DCtx s' i k := by
  obtain ⟨pc0, h0⟩ := c.me
  have hold : ∀ j, j < s.threads.length → kp s' j = kp s j := fun j hj => kp_append_old _ h1 hj
  have hnew : ∀ j x, ¬ j < s.threads.length → kp s' j = some x → j = s.threads.length ∧ x = (Kind.deb, Pc.begin) :=
    fun j x hj hk => kp_append_new _ h1 hj hk
  have noDeb : ∀ j k' pc, kp s j = some (k', pc) → isDeb k' = true → False := by
    intro j k' pc hkj hd
    have := c.x.uniq j k' pc hkj hd
    rw [hnone] at this; cases this
  have hprem : ¬ Prem s' (some i) := by
    rintro (⟨j, k', pc, hj, hkj, hw⟩ | ⟨o, ho, hr⟩)
    · by_cases hl : j < s.threads.length
      · exact hnp (Or.inl ⟨j, k', pc, hj, by rw [← hold j hl]; exact hkj, hw⟩)
      · have := (hnew j _ hl hkj).2; cases this; cases hw
    · exact hnp (Or.inr ⟨o, by rwa [h3] at ho, hr⟩)
  refine ⟨⟨?_, ?_, fun hp => absurd hp hprem⟩, ⟨pc0, by rw [hold i (kp_lt h0)]; exact h0⟩,
    fun hd => by rw [hk] at hd; cases hd⟩
  · intro j k' pc hkj hd
    by_cases hl : j < s.threads.length
    · exact (noDeb j k' pc (by rw [← hold j hl]; exact hkj) hd).elim
    · rw [h2, (hnew j _ hl hkj).1]
  · intro j k' pc _ hkj hd
    by_cases hl : j < s.threads.length
    · exact (noDeb j k' pc (by rw [← hold j hl]; exact hkj) hd).elim
    · have := (hnew j _ hl hkj).2; cases this; rfl

theorem DCtx.setPc {s : State} {i : Nat} {k : Kind} (c : DCtx s i k) (pc : Pc) : DCtx (s.setPc i pc) i k := by
  obtain ⟨pc0, h0⟩ := c.me
  exact c.transfer (fun j hj => by rw [kp_setPc]; simp [Ne.symm hj]) ⟨pc, by rw [kp_setPc]; simp [h0]⟩ (by simp)
    (fun o ho hr => ⟨o, by simpa using ho, hr⟩)

theorem init_deb (cfg : Cfg) (lifetimes : List (Option Nat)) (scripts : List (List Op)) : Deb (init cfg lifetimes scripts) := by
  refine ⟨?_, ?_, ?_⟩
  · intro j k pc h hd; rw [(kp_init h).1] at hd; cases hd
  · intro j k pc _ h hd; rw [(kp_init h).1] at hd; cases hd
  · intro _ j k pc _ h hd; rw [(kp_init h).1] at hd; cases hd

end WD.ProofsRst
