/- WD.Rst: what `stop()` joins.  The thread indices a `stop()` carries from `_process_watchers` (through `_stop_process`,
   the kill loop and `event_debouncer.join()`) to the `process_watcher.join()` loop are those of watcher threads, and
   watcher threads only ever sit at the pcs of `ProcessWatcher.run` and of the restart they trigger. -/
import WD.Proofs.Restart.Cond
namespace WD.ProofsRst
open WD.Rst

/-- the pcs a watcher thread can be at -/
def wPc : Pc → Bool
  | .begin | .done | .wWait _ | .rAcq | .spAcq .restart | .spSleep _ _ .restart | .rStarted => true
  | _ => false

/-- the watcher threads a `stop()` in progress will join -/
def carried : Pc → List Nat
  | .stJoinW w rest => w :: rest
  | .stJoinDeb ws => ws
  | .spAcq (.stop ws) => ws
  | .spSleep _ _ (.stop ws) => ws
  | _ => []

def isWat (s : State) (w : Nat) : Prop := ∃ pid pc, kp s w = some (Kind.watcher pid, pc)

structure WX (s : State) (x : Option Nat) : Prop where
  wr : ∀ w, s.watcher = some w → isWat s w
  wl : ∀ w ∈ s.watchers, isWat s w
  wk : ∀ j k pc w, some j ≠ x → kp s j = some (k, pc) → w ∈ carried pc → isWat s w
  ty : ∀ j k pc, some j ≠ x → kp s j = some (k, pc) → isWatcher k = true → wPc pc = true

abbrev WI (s : State) : Prop := WX s none

/-- in the middle of a step of thread `i`, of kind `k` -/
structure WCtx (s : State) (i : Nat) (k : Kind) : Prop where
  x : WX s (some i)
  me : ∃ pc, kp s i = some (k, pc)

theorem isWat_transfer {s s' : State} {i : Nat} {k : Kind} (hme0 : ∃ pc, kp s i = some (k, pc))
    (hkp : ∀ j, j ≠ i → kp s' j = kp s j) (hme : ∃ pc, kp s' i = some (k, pc)) {w : Nat} (h : isWat s w) : isWat s' w := by
  obtain ⟨pid, pc, hw⟩ := h
  by_cases hwi : w = i
  · subst hwi
    obtain ⟨pc0, h0⟩ := hme0
    rw [h0] at hw; cases hw
    obtain ⟨pc1, h1⟩ := hme
    exact ⟨pid, pc1, h1⟩
  · exact ⟨pid, pc, by rw [hkp w hwi]; exact hw⟩

theorem WCtx.transfer {s s' : State} {i : Nat} {k : Kind} (c : WCtx s i k)
    (hkp : ∀ j, j ≠ i → kp s' j = kp s j) (hme : ∃ pc, kp s' i = some (k, pc))
    (hw : s'.watcher = s.watcher ∨ s'.watcher = none) (hl : ∀ w ∈ s'.watchers, w ∈ s.watchers := by simp) : WCtx s' i k := by
  have mono : ∀ {w}, isWat s w → isWat s' w := fun h => isWat_transfer c.me hkp hme h
  refine ⟨⟨?_, ?_, ?_, ?_⟩, hme⟩
  · intro w hw'
    rcases hw with e | e
    · exact mono (c.x.wr w (by rw [← e]; exact hw'))
    · rw [e] at hw'; cases hw'
  · intro w hw'
    exact mono (c.x.wl w (hl w hw'))
  · intro j k' pc w hj hkj hc
    have hji : j ≠ i := fun e => hj (by rw [e])
    exact mono (c.x.wk j k' pc w hj (by rw [← hkp j hji]; exact hkj) hc)
  · intro j k' pc hj hkj hk
    have hji : j ≠ i := fun e => hj (by rw [e])
    exact c.x.ty j k' pc hj (by rw [← hkp j hji]; exact hkj) hk

theorem WCtx.close {s : State} {i : Nat} {k : Kind} (c : WCtx s i k) (pc : Pc) (hme : kp s i = some (k, pc))
    (h1 : ∀ w, w ∈ carried pc → isWat s w) (h2 : isWatcher k = true → wPc pc = true) : WI s := by
  refine ⟨c.x.wr, c.x.wl, ?_, ?_⟩
  · intro j k' pc' w _ hkj hc
    by_cases hji : j = i
    · subst hji; rw [hme] at hkj; cases hkj; exact h1 w hc
    · exact c.x.wk j k' pc' w (by simp [hji]) hkj hc
  · intro j k' pc' _ hkj hk
    by_cases hji : j = i
    · subst hji; rw [hme] at hkj; cases hkj; exact h2 hk
    · exact c.x.ty j k' pc' (by simp [hji]) hkj hk

/-- an update that leaves the kinds and pcs of all threads and the list of watchers alone; the current watcher may be
    forgotten -/
theorem WCtx.same {s s' : State} {i : Nat} {k : Kind} (c : WCtx s i k) (hkp : ∀ j, kp s' j = kp s j)
    (hw : s'.watcher = s.watcher ∨ s'.watcher = none) (hl : s'.watchers = s.watchers) : WCtx s' i k :=
  c.transfer (fun j _ => hkp j) (by rw [hkp]; exact c.me) hw (fun w h => by rw [hl] at h; exact h)

theorem WCtx.setPc_close {s : State} {i : Nat} {k : Kind} (c : WCtx s i k) (pc : Pc)
    (h1 : ∀ w, w ∈ carried pc → isWat s w) (h2 : isWatcher k = true → wPc pc = true) : WI (s.setPc i pc) := by
  obtain ⟨pc0, h0⟩ := c.me
  have hkp : ∀ j, j ≠ i → kp (s.setPc i pc) j = kp s j := fun j hj => by rw [kp_setPc]; simp [Ne.symm hj]
  have hme : kp (s.setPc i pc) i = some (k, pc) := by rw [kp_setPc]; simp [h0]
  exact (c.transfer (s' := s.setPc i pc) hkp ⟨pc, hme⟩ (Or.inl (by simp))).close pc hme
    (fun w hc => isWat_transfer c.me hkp ⟨pc, hme⟩ (h1 w hc)) h2

theorem isWat_congr {s s' : State} (h1 : s'.threads = s.threads) {w : Nat} (h : isWat s w) : isWat s' w := by
  obtain ⟨pid, pc, hw⟩ := h
  exact ⟨pid, pc, by simpa [kp, h1] using hw⟩

theorem kill_watcher (s : State) (pid sig : Nat) : (s.kill pid sig).watcher = s.watcher := by
  unfold State.kill; split <;> rfl
@[simp] theorem kill_watchers (s : State) (pid sig : Nat) : (s.kill pid sig).watchers = s.watchers := by
  unfold State.kill; split <;> rfl
@[simp] theorem stopWatcher_watchers (s : State) : s.stopWatcher.watchers = s.watchers := by
  unfold State.stopWatcher; split
  · simp
  · rfl
theorem stopWatcher_watcher (s : State) : s.stopWatcher.watcher = s.watcher ∨ s.stopWatcher.watcher = none := by
  unfold State.stopWatcher; split
  · exact Or.inr rfl
  · exact Or.inl rfl

theorem isWat_setStopFlag {s : State} (v : Nat) {w : Nat} (h : isWat s w) : isWat (s.setStopFlag v) w := by
  obtain ⟨pid, pc, hw⟩ := h; exact ⟨pid, pc, by rw [kp_setStopFlag]; exact hw⟩
theorem WCtx.append {s s' : State} {i : Nat} {k : Kind} (c : WCtx s i k) (t0 : Thread) (h0b : t0.pc = .begin)
    (h1 : s'.threads = s.threads ++ [t0])
    (h2 : s'.watcher = s.watcher ∨ (s'.watcher = some s.threads.length ∧ isWatcher t0.kind = true))
    (h3 : ∀ w ∈ s'.watchers, w ∈ s.watchers ∨ (w = s.threads.length ∧ isWatcher t0.kind = true)) : WCtx s' i k := by
  obtain ⟨pc0, h0⟩ := c.me
  have hil := kp_lt h0
  have hold : ∀ j, j < s.threads.length → kp s' j = kp s j := fun j hj => kp_append_old _ h1 hj
  have hnew : ∀ j x, ¬ j < s.threads.length → kp s' j = some x → x = (t0.kind, Pc.begin) :=
    fun j x hj hk => by rw [← h0b]; exact (kp_append_new _ h1 hj hk).2
  have mono : ∀ {w}, isWat s w → isWat s' w := by
    intro w ⟨pid, pc, hw⟩
    exact ⟨pid, pc, by rw [hold w (kp_lt hw)]; exact hw⟩
  have newW : isWatcher t0.kind = true → isWat s' s.threads.length := by
    intro hk
    cases hkind : t0.kind with
    | client => rw [hkind] at hk; cases hk
    | deb => rw [hkind] at hk; cases hk
    | watcher pid =>
      refine ⟨pid, .begin, ?_⟩
      rw [kp_append _ h1]
      simp [hkind, h0b]
  refine ⟨⟨?_, ?_, ?_, ?_⟩, ⟨pc0, by rw [hold i hil]; exact h0⟩⟩
  · intro w hw'
    rcases h2 with e | ⟨e, hk⟩
    · exact mono (c.x.wr w (by rw [← e]; exact hw'))
    · rw [e] at hw'; cases hw'
      exact newW hk
  · intro w hw'
    rcases h3 w hw' with e | ⟨e, hk⟩
    · exact mono (c.x.wl w e)
    · rw [e]; exact newW hk
  · intro j k' pc w hj hkj hc
    by_cases hl : j < s.threads.length
    · exact mono (c.x.wk j k' pc w hj (by rw [← hold j hl]; exact hkj) hc)
    · have := hnew j _ hl hkj; cases this; cases hc
  · intro j k' pc hj hkj hk
    by_cases hl : j < s.threads.length
    · exact c.x.ty j k' pc hj (by rw [← hold j hl]; exact hkj) hk
    · have := hnew j _ hl hkj; cases this; rfl

theorem WI.open {s : State} {i : Nat} {t : Thread} (h : WI s) (ht : s.threads[i]? = some t) : WCtx s i t.kind :=
  ⟨⟨h.wr, h.wl, fun j k pc w _ hk hc => h.wk j k pc w (by simp) hk hc, fun j k pc _ hk hw => h.ty j k pc (by simp) hk hw⟩,
    ⟨t.pc, by simp [kp, ht]⟩⟩

theorem init_wi (cfg : Cfg) (lifetimes : List (Option Nat)) (scripts : List (List Op)) : WI (init cfg lifetimes scripts) := by
  refine ⟨fun w h => by simp [init] at h, fun w h => by simp [init] at h, ?_, ?_⟩
  · intro j k pc w _ h hc; rw [(kp_init h).2] at hc; cases hc
  · intro j k pc _ h hw; rw [(kp_init h).1] at hw; cases hw

end WD.ProofsRst
