/- WD.Rst: "with all its helper threads gone", the process watchers.  `stop()` joins EVERY watcher that may still be
   running (`_process_watchers`: the list is pruned of ended watchers whenever a new one is started), so once the working
   `stop()` has returned every watcher thread ever started has ended - not only been told to stop (D29).
   Invariant: (live) a watcher thread that has not ended is on the list; (cc) a `stop()` on its way carries every watcher
   thread that has not ended; (ret) after the working `stop()` returned none is left; (tsc/tsr) the trick is stopping while
   a `stop()` is on its way and afterwards, so no new watcher is started behind its back. -/
import WD.Proofs.Restart.Joins
namespace WD.ProofsRst
open WD.Rst

/-- pcs of `stop()` that carry the list of watchers to join -/
def carries : Pc → Bool
  | .stJoinW _ _ | .stJoinDeb _ | .spAcq (.stop _) | .spSleep _ _ (.stop _) => true
  | _ => false

theorem inStop_of_carries {pc : Pc} (h : carries pc = true) : inStop pc = true := by
  cases pc with
  | spAcq a => cases a <;> first | rfl | cases h
  | spSleep _ _ a => cases a <;> first | rfl | cases h
  | _ => first | rfl | cases h

def liveW (s : State) (u : Nat) : Prop := ∃ pid pc, kp s u = some (Kind.watcher pid, pc) ∧ pc ≠ .done

structure JX (s : State) (x : Option Nat) : Prop where
  live : ∀ u, liveW s u → u ∈ s.watchers
  cc : ∀ j k pc, some j ≠ x → kp s j = some (k, pc) → carries pc = true → ∀ u, liveW s u → u ∈ carried pc
  ret : retd s → ∀ u, ¬ liveW s u
  tsc : ∀ j k pc, some j ≠ x → kp s j = some (k, pc) → inStop pc = true → s.trickStopping = true
  tsr : retd s → s.trickStopping = true

abbrev JI (s : State) : Prop := JX s none

/-- in the middle of a step of thread `i`, of kind `k`, which has not ended -/
structure JCtx (s : State) (i : Nat) (k : Kind) : Prop where
  x : JX s (some i)
  me : ∃ pc, kp s i = some (k, pc) ∧ pc ≠ .done

theorem liveW_back {s s' : State} {i : Nat} {k : Kind} (hme0 : ∃ pc, kp s i = some (k, pc) ∧ pc ≠ .done)
    (hkp : ∀ j, j ≠ i → kp s' j = kp s j) (hme : ∃ pc, kp s' i = some (k, pc)) {u : Nat} (h : liveW s' u) : liveW s u := by
  obtain ⟨pid, pc, hu, hnd⟩ := h
  by_cases hui : u = i
  · subst hui
    obtain ⟨pc1, h1⟩ := hme
    rw [h1] at hu; cases hu
    obtain ⟨pc0, h0, hnd0⟩ := hme0
    exact ⟨pid, pc0, h0, hnd0⟩
  · exact ⟨pid, pc, by rw [← hkp u hui]; exact hu, hnd⟩

theorem JCtx.transfer {s s' : State} {i : Nat} {k : Kind} (c : JCtx s i k)
    (hkp : ∀ j, j ≠ i → kp s' j = kp s j) (hme : ∃ pc, kp s' i = some (k, pc) ∧ pc ≠ .done)
    (hl : s'.watchers = s.watchers := by simp) (hh : retd s' → retd s := by intro h; simpa [retd] using h)
    (ht : s.trickStopping = true → s'.trickStopping = true := by intro h; simpa using h) : JCtx s' i k := by
  have back : ∀ {u}, liveW s' u → liveW s u :=
    fun h => liveW_back c.me hkp (by obtain ⟨pc, h, _⟩ := hme; exact ⟨pc, h⟩) h
  refine ⟨⟨?_, ?_, ?_, ?_, ?_⟩, hme⟩
  · intro u hu; rw [hl]; exact c.x.live u (back hu)
  · intro j k' pc hj hkj hc u hu
    have hji : j ≠ i := fun e => hj (by rw [e])
    exact c.x.cc j k' pc hj (by rw [← hkp j hji]; exact hkj) hc u (back hu)
  · intro hr u hu; exact c.x.ret (hh hr) u (back hu)
  · intro j k' pc hj hkj hs
    have hji : j ≠ i := fun e => hj (by rw [e])
    exact ht (c.x.tsc j k' pc hj (by rw [← hkp j hji]; exact hkj) hs)
  · intro hr; exact ht (c.x.tsr (hh hr))

/-- an update that leaves the kinds and pcs of all threads and the list of watchers alone, logs no return of `stop()` and
    does not lower `trickStopping` -/
theorem JCtx.same {s s' : State} {i : Nat} {k : Kind} (c : JCtx s i k) (hkp : ∀ j, kp s' j = kp s j)
    (hl : s'.watchers = s.watchers) (hh : retd s' → retd s) (ht : s.trickStopping = true → s'.trickStopping = true) :
    JCtx s' i k :=
  c.transfer (fun j _ => hkp j) (by obtain ⟨pc, h, hn⟩ := c.me; exact ⟨pc, by rw [hkp]; exact h, hn⟩) hl hh ht

theorem JCtx.finish {s s' : State} {i : Nat} {k : Kind} (c : JCtx s i k) (pc : Pc)
    (hkp : ∀ j, j ≠ i → kp s' j = kp s j) (hme : kp s' i = some (k, pc))
    (hl : s'.watchers = s.watchers) (hh : retd s' → retd s) (ht : s'.trickStopping = s.trickStopping)
    (h1 : inStop pc = true → s.trickStopping = true)
    (h2 : carries pc = true → ∀ u, liveW s u → u ∈ carried pc) : JI s' := by
  have back : ∀ {u}, liveW s' u → liveW s u := fun h => liveW_back c.me hkp ⟨pc, hme⟩ h
  refine ⟨?_, ?_, ?_, ?_, ?_⟩
  · intro u hu; rw [hl]; exact c.x.live u (back hu)
  · intro j k' pc' _ hkj hc u hu
    by_cases hji : j = i
    · subst hji; rw [hme] at hkj; cases hkj; exact h2 hc u (back hu)
    · exact c.x.cc j k' pc' (by simp [hji]) (by rw [← hkp j hji]; exact hkj) hc u (back hu)
  · intro hr u hu; exact c.x.ret (hh hr) u (back hu)
  · intro j k' pc' _ hkj hs
    rw [ht]
    by_cases hji : j = i
    · subst hji; rw [hme] at hkj; cases hkj; exact h1 hs
    · exact c.x.tsc j k' pc' (by simp [hji]) (by rw [← hkp j hji]; exact hkj) hs
  · intro hr; rw [ht]; exact c.x.tsr (hh hr)

theorem JCtx.close {s : State} {i : Nat} {k : Kind} (c : JCtx s i k) (pc : Pc) (hme : kp s i = some (k, pc))
    (h1 : inStop pc = true → s.trickStopping = true)
    (h2 : carries pc = true → ∀ u, liveW s u → u ∈ carried pc) : JI s :=
  c.finish pc (fun _ _ => rfl) hme rfl (fun h => h) rfl h1 h2

theorem JCtx.setPc_close {s : State} {i : Nat} {k : Kind} (c : JCtx s i k) (pc : Pc)
    (h1 : inStop pc = true → s.trickStopping = true)
    (h2 : carries pc = true → ∀ u, liveW s u → u ∈ carried pc) : JI (s.setPc i pc) := by
  obtain ⟨pc0, h0, _⟩ := c.me
  have hkp : ∀ j, j ≠ i → kp (s.setPc i pc) j = kp s j := fun j hj => by rw [kp_setPc]; simp [Ne.symm hj]
  have hme : kp (s.setPc i pc) i = some (k, pc) := by rw [kp_setPc]; simp [h0]
  exact c.finish pc hkp hme (by simp) (fun h => by simpa [retd] using h) (by simp) h1 h2

theorem JCtx.logRet {s : State} {i : Nat} {k : Kind} (c : JCtx s i k) (o : Obs) (hall : ∀ u, ¬ liveW s u)
    (hts : s.trickStopping = true) : JCtx (s.log o) i k := by
  refine ⟨⟨?_, ?_, ?_, ?_, ?_⟩, c.me⟩
  · intro u hu; exact absurd hu (hall u)
  · intro j k' pc _ _ _ u hu; exact absurd hu (hall u)
  · intro _ u hu; exact hall u hu
  · intro _ _ _ _ _ _; exact hts
  · intro _; exact hts

theorem liveW_setStopFlag {s : State} (v : Nat) {u : Nat} (h : liveW (s.setStopFlag v) u) : liveW s u := by
  obtain ⟨pid, pc, hw, hn⟩ := h; exact ⟨pid, pc, by rw [← kp_setStopFlag s v]; exact hw, hn⟩
theorem JCtx.append {s s' : State} {i : Nat} {k : Kind} (c : JCtx s i k) (t0 : Thread) (h0k : isWatcher t0.kind = false)
    (h0b : t0.pc = .begin) (h1 : s'.threads = s.threads ++ [t0]) (h2 : s'.watchers = s.watchers) (h3 : s'.hist = s.hist)
    (h4 : s'.trickStopping = s.trickStopping) : JCtx s' i k := by
  obtain ⟨pc0, h0, hnd0⟩ := c.me
  have hil := kp_lt h0
  have hold : ∀ j, j < s.threads.length → kp s' j = kp s j := fun j hj => kp_append_old _ h1 hj
  have hnew : ∀ j x, ¬ j < s.threads.length → kp s' j = some x → x = (t0.kind, Pc.begin) :=
    fun j x hj hk => by rw [← h0b]; exact (kp_append_new _ h1 hj hk).2
  have back : ∀ {u}, liveW s' u → liveW s u := by
    intro u ⟨pid, pc, hu, hn⟩
    by_cases hl : u < s.threads.length
    · exact ⟨pid, pc, by rw [← hold u hl]; exact hu, hn⟩
    · have := hnew u _ hl hu
      simp only [Prod.mk.injEq] at this
      rw [← this.1] at h0k; cases h0k
  have hr : retd s' → retd s := fun h => by simpa [retd, h3] using h
  refine ⟨⟨?_, ?_, ?_, ?_, ?_⟩, ⟨pc0, by rw [hold i hil]; exact h0, hnd0⟩⟩
  · intro u hu; rw [h2]; exact c.x.live u (back hu)
  · intro j k' pc hj hkj hc u hu
    by_cases hl : j < s.threads.length
    · exact c.x.cc j k' pc hj (by rw [← hold j hl]; exact hkj) hc u (back hu)
    · have := hnew j _ hl hkj; cases this; cases hc
  · intro h u hu; exact c.x.ret (hr h) u (back hu)
  · intro j k' pc hj hkj hs
    rw [h4]
    by_cases hl : j < s.threads.length
    · exact c.x.tsc j k' pc hj (by rw [← hold j hl]; exact hkj) hs
    · have := hnew j _ hl hkj; cases this; cases hs
  · intro h; rw [h4]; exact c.x.tsr (hr h)

theorem isDone_false_of_kp {s : State} {u : Nat} {k : Kind} {pc : Pc} (h : kp s u = some (k, pc)) (hn : pc ≠ .done) :
    s.isDone u = false := by
  unfold kp at h
  unfold State.isDone
  cases ht : s.threads[u]? with
  | none => rw [ht] at h; cases h
  | some t =>
    rw [ht] at h
    simp only [Option.map_some, Option.some.injEq, Prod.mk.injEq] at h
    simp only
    rw [h.2]
    cases pc <;> first | rfl | exact absurd rfl hn

theorem JCtx.appendWatcher {s : State} {i : Nat} {k : Kind} (c : JCtx s i k) (pid : Nat) (hts : s.trickStopping = false) :
    JCtx (withWatcher s pid) i k := by
  obtain ⟨pc0, h0, hnd0⟩ := c.me
  have hil := kp_lt h0
  have h1 : (withWatcher s pid).threads = s.threads ++ [{ kind := .watcher pid, pc := .begin }] := rfl
  have hold : ∀ j, j < s.threads.length → kp (withWatcher s pid) j = kp s j := fun j hj => kp_append_old _ h1 hj
  have hnew : ∀ j x, ¬ j < s.threads.length → kp (withWatcher s pid) j = some x → j = s.threads.length ∧ x = (Kind.watcher pid, Pc.begin) :=
    fun j x hj hk => kp_append_new _ h1 hj hk
  have nr : ¬ retd s := fun h => by have := c.x.tsr h; rw [hts] at this; cases this
  refine ⟨⟨?_, ?_, ?_, ?_, ?_⟩, ⟨pc0, by rw [hold i hil]; exact h0, hnd0⟩⟩
  · intro u ⟨p, pc, hu, hn⟩
    show u ∈ s.watchers.filter (fun x => !s.isDone x) ++ [s.threads.length]
    by_cases hl : u < s.threads.length
    · rw [hold u hl] at hu
      refine List.mem_append_left _ (List.mem_filter.2 ⟨c.x.live u ⟨p, pc, hu, hn⟩, ?_⟩)
      rw [isDone_false_of_kp hu hn]; rfl
    · rw [(hnew u _ hl hu).1]; simp
  · intro j k' pc hj hkj hc u _
    by_cases hl : j < s.threads.length
    · have := c.x.tsc j k' pc hj (by rw [← hold j hl]; exact hkj) (inStop_of_carries hc)
      rw [hts] at this; cases this
    · have := (hnew j _ hl hkj).2; cases this; cases hc
  · intro h; exact absurd (by simpa [retd, withWatcher] using h) nr
  · intro j k' pc hj hkj hs
    by_cases hl : j < s.threads.length
    · have := c.x.tsc j k' pc hj (by rw [← hold j hl]; exact hkj) hs
      rw [hts] at this; cases this
    · have := (hnew j _ hl hkj).2; cases this; cases hs
  · intro h; exact absurd (by simpa [retd, withWatcher] using h) nr

theorem JI.open {s : State} {i : Nat} {t : Thread} (h : JI s) (ht : s.threads[i]? = some t) (hnd : t.pc ≠ .done) :
    JCtx s i t.kind :=
  ⟨⟨h.live, fun j k pc _ hk hc => h.cc j k pc (by simp) hk hc, h.ret,
    fun j k pc _ hk hs => h.tsc j k pc (by simp) hk hs, h.tsr⟩, ⟨t.pc, by simp [kp, ht], hnd⟩⟩

theorem not_liveW_of_isDone {s : State} {u : Nat} (h : s.isDone u = true) : ¬ liveW s u := by
  intro ⟨pid, pc, hu, hn⟩
  rw [isDone_false_of_kp hu hn] at h; cases h

theorem init_ji (cfg : Cfg) (lifetimes : List (Option Nat)) (scripts : List (List Op)) : JI (init cfg lifetimes scripts) := by
  have nl : ∀ u, ¬ liveW (init cfg lifetimes scripts) u := by
    intro u ⟨pid, pc, hu, _⟩; have := (kp_init hu).1; cases this
  have nr : ¬ retd (init cfg lifetimes scripts) := by intro ⟨o, ho, _⟩; simp [init] at ho
  refine ⟨fun u hu => absurd hu (nl u), fun _ _ _ _ _ _ u hu => absurd hu (nl u), fun _ => nl, ?_, fun h => absurd h nr⟩
  intro j k pc _ h hs; rw [(kp_init h).2] at hs; cases hs

end WD.ProofsRst
