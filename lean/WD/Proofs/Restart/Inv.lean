/- WD.Rst: the invariant (lock discipline of `_restart_lock`, every child but the current one is dead,
   the flags of `stop()`), and the update lemmas it is carried through -/
import WD.Proofs.Restart.Basic
namespace WD.ProofsRst
open WD.Rst

def PcOK (s : State) (j : Nat) (pc : Pc) : Prop :=
  (holds pc = true → s.restartOwner = some j) ∧
  (isSleep pc = true → s.process ≠ none) ∧
  (inStop pc = true → s.trickStopping = true) ∧
  (pastStop pc = true → s.process = none)

structure Glob (s : State) : Prop where
  dead : ∀ pid, s.process ≠ some pid → s.aliveP pid = false
  nsas : NSAS s.hist
  ret : (∃ o ∈ s.hist, isStopRet o = true) → s.trickStopping = true ∧ s.process = none

def Oth (s : State) (i : Nat) : Prop := ∀ j pc, j ≠ i → pcOf s j = some pc → PcOK s j pc

/-- the holder of the restart lock is at a pc inside the locked region; `_is_process_stopping` is up only while the
    holder sleeps in the kill loop -/
def Stopping (s : State) : Prop :=
  (∀ j, s.restartOwner = some j → ∃ pc, pcOf s j = some pc ∧ holds pc = true ∧
    (s.procStopping = true → isSleep pc = true)) ∧
  (s.restartOwner = none → s.procStopping = false)

structure Inv (s : State) : Prop where
  glob : Glob s
  pcs : ∀ j pc, pcOf s j = some pc → PcOK s j pc
  stopping : Stopping s

/-- in the middle of a step of thread `i` that does not hold the restart lock -/
structure MidN (s : State) (i : Nat) : Prop where
  glob : Glob s
  oth : Oth s i
  own : s.restartOwner ≠ some i
  stopping : Stopping s

/-- in the middle of a step of thread `i` that holds the restart lock -/
structure MidH (s : State) (i : Nat) : Prop where
  glob : Glob s
  oth : Oth s i
  own : s.restartOwner = some i

theorem isSleep_holds {pc : Pc} (h : isSleep pc = true) : holds pc = true := by
  cases pc <;> simp_all [isSleep, holds]

theorem pastStop_inStop {pc : Pc} (h : pastStop pc = true) : inStop pc = true := by
  cases pc <;> simp_all [pastStop, inStop]

theorem PcOK_plain (s : State) (j : Nat) {pc : Pc} (h1 : holds pc = false) (h3 : inStop pc = false) : PcOK s j pc := by
  refine ⟨by simp [h1], ?_, by simp [h3], ?_⟩
  · intro h; have := isSleep_holds h; simp [h1] at this
  · intro h; have := pastStop_inStop h; simp [h3] at this

/-- the others' part of the invariant survives every update a step of thread `i` makes -/
theorem Oth_update {s s' : State} {i : Nat} (h : Oth s i)
    (hp : ∀ j, j ≠ i → ∀ pc, pcOf s' j = some pc → pcOf s j = some pc ∨ pc = .begin)
    (ht : s.trickStopping = true → s'.trickStopping = true)
    (ho : s'.restartOwner = s.restartOwner ∨ s.restartOwner = some i ∨ s.restartOwner = none)
    (hpr : s'.process = s.process ∨
      ((s.restartOwner = some i ∨ s.restartOwner = none) ∧ (s'.process = none ∨ s.trickStopping = false))) :
    Oth s' i := by
  intro j pc hj hpc
  rcases hp j hj pc hpc with hold | rfl
  · obtain ⟨a, b, c, d⟩ := h j pc hj hold
    have notown : holds pc = true → s.restartOwner ≠ some i ∧ s.restartOwner ≠ none := by
      intro hh; rw [a hh]; exact ⟨by simp; omega, by simp⟩
    refine ⟨?_, ?_, fun x => ht (c x), ?_⟩
    · intro hh
      rcases ho with e | e | e
      · rw [e]; exact a hh
      · exact absurd e (notown hh).1
      · exact absurd e (notown hh).2
    · intro hs
      rcases hpr with e | ⟨e | e, _⟩
      · rw [e]; exact b hs
      · exact absurd e (notown (isSleep_holds hs)).1
      · exact absurd e (notown (isSleep_holds hs)).2
    · intro hs
      rcases hpr with e | ⟨_, e | e⟩
      · rw [e]; exact d hs
      · exact e
      · have := c (pastStop_inStop hs); simp [e] at this
  · exact PcOK_plain _ _ rfl rfl

theorem Oth_congr {s s' : State} {i : Nat} (h : Oth s i) (h1 : s'.threads = s.threads)
    (h2 : s'.restartOwner = s.restartOwner) (h3 : s'.process = s.process)
    (h4 : s'.trickStopping = s.trickStopping) : Oth s' i :=
  Oth_update h (fun j _ pc e => Or.inl (by simpa [pcOf, h1] using e)) (by simp [h4]) (Or.inl h2) (Or.inl h3)

theorem Oth_setPc {s : State} {i : Nat} (pc : Pc) (h : Oth s i) : Oth (s.setPc i pc) i :=
  Oth_update h (fun j hj pc' e => Or.inl (by rwa [pcOf_setPc_ne _ _ _ _ hj] at e)) (by simp) (Or.inl (by simp))
    (Or.inl (by simp))

theorem Oth_setThread {s : State} {i : Nat} (t : Thread) (h : Oth s i) : Oth (s.setThread i t) i :=
  Oth_update h (fun j hj pc' e => Or.inl (by
    rw [pcOf_setThread] at e; simpa [Ne.symm hj] using e)) (by simp) (Or.inl (by simp)) (Or.inl (by simp))

theorem Oth_setStopFlag {s : State} {i : Nat} (w : Nat) (h : Oth s i) : Oth (s.setStopFlag w) i :=
  Oth_update h (fun j _ pc' e => Or.inl (by rwa [pcOf_setStopFlag] at e)) (by simp) (Or.inl (by simp))
    (Or.inl (by simp))

theorem Glob_congr {s s' : State} (h : Glob s) (h1 : s'.process = s.process) (h2 : s'.procs = s.procs)
    (h3 : s'.clock = s.clock) (h4 : s'.hist = s.hist) (h5 : s'.trickStopping = s.trickStopping) : Glob s' := by
  refine ⟨?_, by rw [h4]; exact h.nsas, by rw [h4, h5, h1]; exact h.ret⟩
  intro pid hp
  have := h.dead pid (by rwa [h1] at hp)
  simpa [State.aliveP, h2, h3] using this

theorem Stopping_congr {s s' : State} {i : Nat} (h : Stopping s) (hi : s.restartOwner ≠ some i)
    (h1 : s'.procStopping = s.procStopping) (h2 : s'.restartOwner = s.restartOwner)
    (hp : ∀ j pc, j ≠ i → pcOf s j = some pc → pcOf s' j = some pc) : Stopping s' := by
  refine ⟨?_, by rw [h1, h2]; exact h.2⟩
  intro j hj
  rw [h2] at hj
  obtain ⟨pc, b, c, d⟩ := h.1 j hj
  have hji : j ≠ i := by rintro rfl; exact hi hj
  exact ⟨pc, hp j pc hji b, c, by rw [h1]; exact d⟩

theorem MidN.setPc {s : State} {i : Nat} (h : MidN s i) (pc : Pc) : MidN (s.setPc i pc) i :=
  ⟨Glob_congr h.glob (by simp) (by simp) (by simp) (by simp) (by simp), Oth_setPc pc h.oth, by simpa using h.own,
   Stopping_congr h.stopping h.own (by simp) (by simp) (fun j pc hj e => by rwa [pcOf_setPc_ne _ _ _ _ hj])⟩

theorem MidN.setThread {s : State} {i : Nat} (h : MidN s i) (t : Thread) : MidN (s.setThread i t) i :=
  ⟨Glob_congr h.glob (by simp) (by simp) (by simp) (by simp) (by simp), Oth_setThread t h.oth, by simpa using h.own,
   Stopping_congr h.stopping h.own (by simp) (by simp) (fun j pc hj e => by
     rw [pcOf_setThread]; simpa [Ne.symm hj] using e)⟩

theorem MidN.congr {s s' : State} {i : Nat} (h : MidN s i) (h1 : s'.threads = s.threads)
    (h2 : s'.restartOwner = s.restartOwner) (h3 : s'.process = s.process) (h4 : s'.trickStopping = s.trickStopping)
    (h5 : s'.procs = s.procs) (h6 : s'.clock = s.clock) (h7 : s'.hist = s.hist)
    (h8 : s'.procStopping = s.procStopping) : MidN s' i :=
  ⟨Glob_congr h.glob h3 h5 h6 h7 h4, Oth_congr h.oth h1 h2 h3 h4, by rw [h2]; exact h.own,
   Stopping_congr h.stopping h.own h8 h2 (fun j pc _ e => by simpa [pcOf, h1] using e)⟩

theorem Glob_log {s : State} (h : Glob s) (o : Obs) (h1 : isSpawn o = false) (h2 : isStopRet o = false) :
    Glob (s.log o) := by
  refine ⟨by simpa [State.aliveP] using h.dead, by simpa using NSAS_snoc_nonspawn h.nsas h1, ?_⟩
  intro ⟨x, hx, hr⟩
  simp only [log_hist, List.mem_append, List.mem_singleton] at hx
  rcases hx with hx | rfl
  · simpa using h.ret ⟨x, hx, hr⟩
  · simp [h2] at hr

theorem MidN.log {s : State} {i : Nat} (h : MidN s i) (o : Obs) (h1 : isSpawn o = false) (h2 : isStopRet o = false) :
    MidN (s.log o) i :=
  ⟨Glob_log h.glob o h1 h2, Oth_congr h.oth rfl rfl rfl rfl, h.own,
   Stopping_congr h.stopping h.own rfl rfl (fun _ _ _ e => e)⟩

theorem MidN.close {s : State} {i : Nat} (h : MidN s i)
    (hi : ∀ pc, pcOf s i = some pc → holds pc = false ∧ (inStop pc = true → s.trickStopping = true) ∧
      (pastStop pc = true → s.process = none)) : Inv s := by
  refine ⟨h.glob, ?_, h.stopping⟩
  intro j pc hpc
  by_cases hj : j = i
  · subst hj
    obtain ⟨a, b, c⟩ := hi pc hpc
    refine ⟨by simp [a], ?_, b, c⟩
    intro hs; have := isSleep_holds hs; simp [a] at this
  · exact h.oth j pc hj hpc

theorem MidN.close_plain {s : State} {i : Nat} (h : MidN s i)
    (hi : ∀ pc, pcOf s i = some pc → holds pc = false ∧ inStop pc = false) : Inv s :=
  h.close (fun pc hpc => by
    obtain ⟨a, b⟩ := hi pc hpc
    refine ⟨a, by simp [b], ?_⟩
    intro hs; have := pastStop_inStop hs; simp [b] at this)

theorem Inv.midN {s : State} (h : Inv s) (i : Nat) (hi : s.restartOwner ≠ some i) : MidN s i :=
  ⟨h.glob, fun j pc _ hpc => h.pcs j pc hpc, hi, h.stopping⟩

theorem Inv.midH {s : State} (h : Inv s) (i : Nat) (hi : s.restartOwner = some i) : MidH s i :=
  ⟨h.glob, fun j pc _ hpc => h.pcs j pc hpc, hi⟩

theorem MidH.close {s : State} {i : Nat} (h : MidH s i) {pc : Pc} (hpc : pcOf s i = some pc) (ok : PcOK s i pc)
    (hh : holds pc = true) (hs : s.procStopping = true → isSleep pc = true) : Inv s := by
  refine ⟨h.glob, ?_, ⟨fun j hj => ?_, fun x => by rw [h.own] at x; cases x⟩⟩
  rotate_left
  · rw [h.own] at hj; cases hj; exact ⟨pc, hpc, hh, hs⟩
  intro j pc' hpc'
  by_cases hj : j = i
  · subst hj; rw [hpc] at hpc'; cases hpc'; exact ok
  · exact h.oth j pc' hj hpc'

theorem MidH.setPc {s : State} {i : Nat} (h : MidH s i) (pc : Pc) : MidH (s.setPc i pc) i :=
  ⟨Glob_congr h.glob (by simp) (by simp) (by simp) (by simp) (by simp), Oth_setPc pc h.oth, by simpa using h.own⟩

theorem MidH.congr {s s' : State} {i : Nat} (h : MidH s i) (h1 : s'.threads = s.threads)
    (h2 : s'.restartOwner = s.restartOwner) (h3 : s'.process = s.process) (h4 : s'.trickStopping = s.trickStopping)
    (h5 : s'.procs = s.procs) (h6 : s'.clock = s.clock) (h7 : s'.hist = s.hist) : MidH s' i :=
  ⟨Glob_congr h.glob h3 h5 h6 h7 h4, Oth_congr h.oth h1 h2 h3 h4, by rw [h2]; exact h.own⟩

theorem MidH.release {s s' : State} {i : Nat} (h : MidH s i) (hps : s.procStopping = false)
    (h1 : s'.threads = s.threads) (h2 : s'.restartOwner = none) (h3 : s'.process = s.process)
    (h4 : s'.trickStopping = s.trickStopping) (h5 : s'.procs = s.procs) (h6 : s'.clock = s.clock)
    (h7 : s'.hist = s.hist) (h8 : s'.procStopping = s.procStopping) : MidN s' i :=
  ⟨Glob_congr h.glob h3 h5 h6 h7 h4,
   Oth_update h.oth (fun j _ pc e => Or.inl (by simpa [pcOf, h1] using e)) (by simp [h4]) (Or.inr (Or.inl h.own))
     (Or.inl h3),
   by simp [h2], ⟨fun j hj => by rw [h2] at hj; exact absurd hj (by simp), fun _ => by rw [h8]; exact hps⟩⟩

theorem MidN.acquire {s s' : State} {i : Nat} (h : MidN s i) (hfree : s.restartOwner = none)
    (h1 : s'.threads = s.threads) (h2 : s'.restartOwner = some i) (h3 : s'.process = s.process)
    (h4 : s'.trickStopping = s.trickStopping) (h5 : s'.procs = s.procs) (h6 : s'.clock = s.clock)
    (h7 : s'.hist = s.hist) : MidH s' i :=
  ⟨Glob_congr h.glob h3 h5 h6 h7 h4,
   Oth_update h.oth (fun j _ pc e => Or.inl (by simpa [pcOf, h1] using e)) (by simp [h4]) (Or.inr (Or.inr hfree))
     (Or.inl h3), h2⟩

theorem pcOf_setPc_self {s : State} {i : Nat} (pc : Pc) (h : i < s.threads.length) : pcOf (s.setPc i pc) i = some pc := by
  rw [pcOf_setPc]; simp [h]

theorem pcOf_setThread_self {s : State} {i : Nat} (t : Thread) (h : i < s.threads.length) :
    pcOf (s.setThread i t) i = some t.pc := by
  rw [pcOf_setThread]; simp [h]

theorem Oth_append {s s' : State} {i : Nat} (h : Oth s i) (t0 : Thread) (ht0 : t0.pc = .begin)
    (h1 : s'.threads = s.threads ++ [t0]) (h2 : s'.restartOwner = s.restartOwner) (h3 : s'.process = s.process)
    (h4 : s'.trickStopping = s.trickStopping) : Oth s' i := by
  refine Oth_update h ?_ (by simp [h4]) (Or.inl h2) (Or.inl h3)
  intro j _ pc e
  rw [pcOf_append t0 h1] at e
  split at e
  · exact Or.inl e
  · split at e
    · right; cases e; exact ht0
    · cases e

theorem MidN.append {s s' : State} {i : Nat} (h : MidN s i) (t0 : Thread) (ht0 : t0.pc = .begin)
    (h1 : s'.threads = s.threads ++ [t0])
    (h2 : s'.restartOwner = s.restartOwner) (h3 : s'.process = s.process) (h4 : s'.trickStopping = s.trickStopping)
    (h5 : s'.procs = s.procs) (h6 : s'.clock = s.clock) (h7 : s'.hist = s.hist)
    (h8 : s'.procStopping = s.procStopping) : MidN s' i :=
  ⟨Glob_congr h.glob h3 h5 h6 h7 h4, Oth_append h.oth t0 ht0 h1 h2 h3 h4, by rw [h2]; exact h.own,
   Stopping_congr h.stopping h.own h8 h2 (fun j pc _ e => by
     rw [pcOf_append t0 h1, if_pos (pcOf_lt _ _ _ e)]; exact e)⟩

theorem MidH.append {s s' : State} {i : Nat} (h : MidH s i) (t0 : Thread) (ht0 : t0.pc = .begin)
    (h1 : s'.threads = s.threads ++ [t0])
    (h2 : s'.restartOwner = s.restartOwner) (h3 : s'.process = s.process) (h4 : s'.trickStopping = s.trickStopping)
    (h5 : s'.procs = s.procs) (h6 : s'.clock = s.clock) (h7 : s'.hist = s.hist) : MidH s' i :=
  ⟨Glob_congr h.glob h3 h5 h6 h7 h4, Oth_append h.oth t0 ht0 h1 h2 h3 h4, by rw [h2]; exact h.own⟩

/-- discharge `∀ pc, pcOf (… .setPc i pc0) i = some pc → holds pc = false ∧ inStop pc = false` -/
macro "pc_plain" hi:ident : tactic =>
  `(tactic| (intro pc e
             simp only [pcOf_setPc, pcOf_setThread, $hi:ident, and_self, and_true, if_true, ↓reduceIte,
               Option.some.injEq] at e
             subst e
             simp [holds, inStop]))

theorem aliveP_kill_le (s : State) (pid sig q : Nat) : (s.kill pid sig).aliveP q = true → s.aliveP q = true := by
  unfold State.kill
  split
  · exact id
  · next p hp =>
    simp only [State.aliveP, log_procs, log_clock, List.getElem?_set]
    by_cases hq : pid = q
    · subst hq
      have hl := lt_of_getElem? hp
      simp only [hl, if_true, hp]
      unfold Proc.alive
      cases hk : p.killedAt <;> simp <;> intros <;> simp_all <;> omega
    · simp [hq]

theorem aliveP_kill9 (s : State) (pid : Nat) : (s.kill pid 9).aliveP pid = false := by
  unfold State.kill
  split
  · next hn => simp [State.aliveP, hn]
  · next p hp =>
    have hl := lt_of_getElem? hp
    simp only [State.aliveP, log_procs, log_clock, List.getElem?_set, hl, if_true]
    unfold Proc.alive
    cases hk : p.killedAt <;> simp <;> intros <;> omega

@[simp] theorem kill_threads (s : State) (pid sig : Nat) : (s.kill pid sig).threads = s.threads := by
  unfold State.kill; split <;> rfl
@[simp] theorem kill_process (s : State) (pid sig : Nat) : (s.kill pid sig).process = s.process := by
  unfold State.kill; split <;> rfl
@[simp] theorem kill_owner (s : State) (pid sig : Nat) : (s.kill pid sig).restartOwner = s.restartOwner := by
  unfold State.kill; split <;> rfl
@[simp] theorem kill_trickStopping (s : State) (pid sig : Nat) : (s.kill pid sig).trickStopping = s.trickStopping := by
  unfold State.kill; split <;> rfl
@[simp] theorem kill_procStopping (s : State) (pid sig : Nat) : (s.kill pid sig).procStopping = s.procStopping := by
  unfold State.kill; split <;> rfl
@[simp] theorem kill_clock (s : State) (pid sig : Nat) : (s.kill pid sig).clock = s.clock := by
  unfold State.kill; split <;> rfl
@[simp] theorem kill_debTid (s : State) (pid sig : Nat) : (s.kill pid sig).debTid = s.debTid := by
  unfold State.kill; split <;> rfl
@[simp] theorem kill_cfg (s : State) (pid sig : Nat) : (s.kill pid sig).cfg = s.cfg := by
  unfold State.kill; split <;> rfl

theorem kp_kill (s : State) (pid sig j : Nat) : kp (s.kill pid sig) j = kp s j := by
  unfold kp; simp

theorem retd_kill {s : State} {pid sig : Nat} (h : retd (s.kill pid sig)) : retd s := by
  unfold State.kill at h
  split at h
  · exact h
  · exact retd_log (s := { s with procs := _ }) rfl h

theorem Glob_kill {s : State} (h : Glob s) (pid sig : Nat) : Glob (s.kill pid sig) := by
  refine ⟨?_, ?_, ?_⟩
  · intro q hq
    cases ha : (s.kill pid sig).aliveP q
    · rfl
    · have := h.dead q (by simpa using hq)
      rw [aliveP_kill_le s pid sig q ha] at this; cases this
  · unfold State.kill; split
    · exact h.nsas
    · simpa using NSAS_snoc_nonspawn h.nsas (o := .kill pid sig s.clock) rfl
  · intro ⟨x, hx, hr⟩
    have : ∃ o ∈ s.hist, isStopRet o = true := by
      unfold State.kill at hx; split at hx
      · exact ⟨x, hx, hr⟩
      · simp only [log_hist, List.mem_append, List.mem_singleton] at hx
        rcases hx with hx | rfl
        · exact ⟨x, hx, hr⟩
        · simp [isStopRet] at hr
    simpa using h.ret this

theorem MidH.kill {s : State} {i : Nat} (h : MidH s i) (pid sig : Nat) : MidH (s.kill pid sig) i :=
  ⟨Glob_kill h.glob pid sig, Oth_congr h.oth (by simp) (by simp) (by simp) (by simp), by simpa using h.own⟩

@[simp] theorem spawn_threads (s : State) : s.spawn.threads = s.threads := rfl
@[simp] theorem spawn_owner (s : State) : s.spawn.restartOwner = s.restartOwner := rfl
@[simp] theorem spawn_trickStopping (s : State) : s.spawn.trickStopping = s.trickStopping := rfl
@[simp] theorem spawn_procStopping (s : State) : s.spawn.procStopping = s.procStopping := rfl
@[simp] theorem spawn_clock (s : State) : s.spawn.clock = s.clock := rfl
@[simp] theorem spawn_process (s : State) : s.spawn.process = some s.procs.length := rfl
@[simp] theorem spawn_debTid (s : State) : s.spawn.debTid = s.debTid := rfl
@[simp] theorem spawn_cfg (s : State) : s.spawn.cfg = s.cfg := rfl

theorem MidH.spawn {s : State} {i : Nat} (h : MidH s i) (hp : s.process = none) (ht : s.trickStopping = false) :
    MidH s.spawn i := by
  have nostop : ∀ x ∈ s.hist, isStopRet x = false := by
    intro x hx
    cases hr : isStopRet x
    · rfl
    · have := (h.glob.ret ⟨x, hx, hr⟩).1; rw [ht] at this; cases this
  refine ⟨⟨?_, ?_, ?_⟩, Oth_update h.oth (fun j _ pc e => Or.inl e) (by simp) (Or.inl rfl)
    (Or.inr ⟨Or.inl h.own, Or.inr ht⟩), h.own⟩
  · intro q hq
    have hq' : q ≠ s.procs.length := by intro e; subst e; simp at hq
    have hd := h.glob.dead q (by simp [hp])
    simp only [State.aliveP, State.spawn, log_procs, log_clock] at hd ⊢
    rw [List.getElem?_append]
    by_cases hl : q < s.procs.length
    · simpa [hl] using hd
    · simp only [hl, if_false]
      have : q - s.procs.length ≠ 0 := by omega
      cases hk : q - s.procs.length with
      | zero => omega
      | succ k => simp
  · exact NSAS_snoc_nostop nostop
  · intro ⟨x, hx, hr⟩
    simp only [State.spawn, log_hist, List.mem_append, List.mem_singleton] at hx
    rcases hx with hx | rfl
    · have := nostop x hx; simp [this] at hr
    · simp [isStopRet] at hr

@[simp] theorem stopWatcher_process (s : State) : s.stopWatcher.process = s.process := by
  unfold State.stopWatcher; split <;> simp
@[simp] theorem stopWatcher_procs (s : State) : s.stopWatcher.procs = s.procs := by
  unfold State.stopWatcher; split <;> simp
@[simp] theorem stopWatcher_clock (s : State) : s.stopWatcher.clock = s.clock := by
  unfold State.stopWatcher; split <;> simp
@[simp] theorem stopWatcher_owner (s : State) : s.stopWatcher.restartOwner = s.restartOwner := by
  unfold State.stopWatcher; split <;> simp
@[simp] theorem stopWatcher_trickStopping (s : State) : s.stopWatcher.trickStopping = s.trickStopping := by
  unfold State.stopWatcher; split <;> simp
@[simp] theorem stopWatcher_procStopping (s : State) : s.stopWatcher.procStopping = s.procStopping := by
  unfold State.stopWatcher; split <;> simp
@[simp] theorem stopWatcher_hist (s : State) : s.stopWatcher.hist = s.hist := by
  unfold State.stopWatcher; split <;> simp
@[simp] theorem stopWatcher_debTid (s : State) : s.stopWatcher.debTid = s.debTid := by
  unfold State.stopWatcher; split <;> simp
@[simp] theorem stopWatcher_cfg (s : State) : s.stopWatcher.cfg = s.cfg := by
  unfold State.stopWatcher; split <;> simp
@[simp] theorem stopWatcher_length (s : State) : s.stopWatcher.threads.length = s.threads.length := by
  unfold State.stopWatcher; split <;> simp
theorem pcOf_stopWatcher (s : State) (j : Nat) : pcOf s.stopWatcher j = pcOf s j := by
  unfold State.stopWatcher; split
  · next w _ => exact pcOf_setStopFlag s w j
  · rfl

theorem kp_stopWatcher (s : State) (j : Nat) : kp s.stopWatcher j = kp s j := by
  unfold State.stopWatcher; split
  · next w _ => exact kp_setStopFlag s w j
  · rfl

theorem MidH.stopWatcher {s : State} {i : Nat} (h : MidH s i) : MidH s.stopWatcher i :=
  ⟨Glob_congr h.glob (by simp) (by simp) (by simp) (by simp) (by simp),
   Oth_update h.oth (fun j _ pc e => Or.inl (by rwa [pcOf_stopWatcher] at e)) (by simp) (Or.inl (by simp))
     (Or.inl (by simp)), by simpa using h.own⟩

theorem notify_eq (s : State) : s.notify = s ∨ s.notify = { s with notified := true } := by
  unfold State.notify
  split
  · split
    · split <;> simp
    · simp
  · simp

theorem kp_notify (s : State) (j : Nat) : kp s.notify j = kp s j := by
  rcases notify_eq s with e | e <;> rw [e]; rfl

theorem MidN.notify {s : State} {i : Nat} (h : MidN s i) : MidN s.notify i := by
  rcases notify_eq s with e | e <;> rw [e]
  · exact h
  · exact h.congr rfl rfl rfl rfl rfl rfl rfl rfl

@[simp] theorem notify_length (s : State) : s.notify.threads.length = s.threads.length := by
  rcases notify_eq s with e | e <;> rw [e]
@[simp] theorem notify_trickStopping (s : State) : s.notify.trickStopping = s.trickStopping := by
  rcases notify_eq s with e | e <;> rw [e]
@[simp] theorem notify_process (s : State) : s.notify.process = s.process := by
  rcases notify_eq s with e | e <;> rw [e]
@[simp] theorem notify_clock (s : State) : s.notify.clock = s.clock := by
  rcases notify_eq s with e | e <;> rw [e]
@[simp] theorem notify_debTid (s : State) : s.notify.debTid = s.debTid := by
  rcases notify_eq s with e | e <;> rw [e]
@[simp] theorem notify_hist (s : State) : s.notify.hist = s.hist := by
  rcases notify_eq s with e | e <;> rw [e]
@[simp] theorem notify_condHeld (s : State) : s.notify.condHeld = s.condHeld := by
  rcases notify_eq s with e | e <;> rw [e]
@[simp] theorem notify_watcher (s : State) : s.notify.watcher = s.watcher := by
  rcases notify_eq s with e | e <;> rw [e]
@[simp] theorem notify_watchers (s : State) : s.notify.watchers = s.watchers := by
  rcases notify_eq s with e | e <;> rw [e]

theorem tick_inv {s : State} (h : Inv s) (d : Nat) : Inv ({ s with clock := s.clock + d } : State) := by
  refine ⟨⟨?_, h.glob.nsas, h.glob.ret⟩, fun j pc e => h.pcs j pc e, h.stopping⟩
  intro pid hp
  have := h.glob.dead pid hp
  simp only [State.aliveP] at this ⊢
  split
  · next p hp' =>
    rw [hp'] at this
    simp only [Proc.alive, Bool.and_eq_false_iff] at this ⊢
    rcases this with e | e
    · left; split at e <;> simp_all; omega
    · right; split at e <;> simp_all; omega
  · rfl

theorem init_inv (cfg : Cfg) (lifetimes : List (Option Nat)) (scripts : List (List Op)) :
    Inv (init cfg lifetimes scripts) := by
  refine ⟨⟨fun pid _ => by simp [State.aliveP, init], NSAS_nil, fun ⟨x, hx, _⟩ => by simp [init] at hx⟩, ?_,
    ⟨fun j hj => by simp [init] at hj, fun _ => rfl⟩⟩
  intro j pc e
  rw [pcOf_kp] at e
  cases hk : kp (init cfg lifetimes scripts) j with
  | none => rw [hk] at e; cases e
  | some x => rw [hk] at e; cases e; rw [(kp_init hk).2]; exact PcOK_plain _ _ rfl rfl

end WD.ProofsRst
