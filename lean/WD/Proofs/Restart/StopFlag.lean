/- WD.Rst: the debouncer's stop flag.  `event_debouncer` refers to a debouncer thread; once the trick is stopping, that
   thread's stop flag is up or the stopping thread is still on its way to `event_debouncer.stop()`; and a debouncer whose
   flag is up is never left waiting un-notified for a first event. -/
import WD.Proofs.Restart.Joins
namespace WD.ProofsRst
open WD.Rst

theorem stopFlagOf_setThread (s : State) (i j : Nat) (t : Thread) :
    (s.setThread i t).stopFlagOf j = if i = j ∧ i < s.threads.length then t.stopFlag else s.stopFlagOf j := by
  unfold State.stopFlagOf
  simp only [setThread_threads, List.getElem?_set]
  by_cases h : i = j
  · subst h
    by_cases hl : i < s.threads.length
    · simp [hl]
    · simp [hl]
  · simp [h]

theorem stopFlagOf_setPc (s : State) (i j : Nat) (pc : Pc) : (s.setPc i pc).stopFlagOf j = s.stopFlagOf j := by
  unfold State.setPc
  split
  · next t ht =>
    rw [stopFlagOf_setThread]
    split
    · next h => obtain ⟨rfl, _⟩ := h; simp [State.stopFlagOf, ht]
    · rfl
  · rfl

theorem stopFlagOf_setStopFlag_ne (s : State) (w j : Nat) (h : j ≠ w) : (s.setStopFlag w).stopFlagOf j = s.stopFlagOf j := by
  unfold State.setStopFlag
  split
  · rw [stopFlagOf_setThread]; simp [Ne.symm h]
  · rfl

theorem stopFlagOf_setStopFlag_self (s : State) (w : Nat) (h : w < s.threads.length) : (s.setStopFlag w).stopFlagOf w = true := by
  unfold State.setStopFlag
  split
  · rw [stopFlagOf_setThread]; simp [h]
  · next hn => rw [List.getElem?_eq_getElem h] at hn; cases hn

theorem stopFlagOf_mono_setStopFlag (s : State) (w j : Nat) (h : s.stopFlagOf j = true) : (s.setStopFlag w).stopFlagOf j = true := by
  by_cases e : j = w
  · subst e
    have : j < s.threads.length := by
      unfold State.stopFlagOf at h
      cases ht : s.threads[j]? with
      | none => rw [ht] at h; cases h
      | some t => exact (List.getElem?_eq_some_iff.mp ht).1
    exact stopFlagOf_setStopFlag_self s j this
  · rw [stopFlagOf_setStopFlag_ne s w j e]; exact h

theorem stopFlagOf_congr {s s' : State} (h : s'.threads = s.threads) (j : Nat) : s'.stopFlagOf j = s.stopFlagOf j := by
  unfold State.stopFlagOf; rw [h]

theorem stopFlagOf_append {s s' : State} (t0 : Thread) (h1 : s'.threads = s.threads ++ [t0]) (j : Nat)
    (hj : j < s.threads.length) : s'.stopFlagOf j = s.stopFlagOf j := by
  unfold State.stopFlagOf; rw [h1, List.getElem?_append_left hj]

structure FX (s : State) (x : Option Nat) : Prop where
  dk : ∀ d, s.debTid = some d → ∃ pc, kp s d = some (Kind.deb, pc)
  uq : ∀ j pc, kp s j = some (Kind.deb, pc) → s.debTid = some j
  c2 : ∀ d, some d ≠ x → kp s d = some (Kind.deb, Pc.dWaitFirst) → s.stopFlagOf d = true → s.notified = true
  c3 : s.trickStopping = true → ∀ d, s.debTid = some d →
    s.stopFlagOf d = true ∨ ∃ j k, some j ≠ x ∧ kp s j = some (k, Pc.stCond)

abbrev FI (s : State) : Prop := FX s none

/-- in the middle of a step of thread `i`, of kind `k` -/
structure FCtx (s : State) (i : Nat) (k : Kind) : Prop where
  x : FX s (some i)
  me : ∃ pc, kp s i = some (k, pc)

theorem FCtx.debIsMe {s : State} {i : Nat} {k : Kind} (c : FCtx s i k) (hk : k = .deb) : s.debTid = some i := by
  obtain ⟨pc, h⟩ := c.me; subst hk; exact c.x.uq i pc h

theorem FCtx.transfer {s s' : State} {i : Nat} {k : Kind} (c : FCtx s i k)
    (hkp : ∀ j, j ≠ i → kp s' j = kp s j) (hme : ∃ pc, kp s' i = some (k, pc)) (hd : s'.debTid = s.debTid)
    (hf : ∀ d, s.debTid = some d → s'.stopFlagOf d = true → s.stopFlagOf d = true)
    (hf' : ∀ d, s.stopFlagOf d = true → s'.stopFlagOf d = true)
    (hn : k ≠ .deb → s.notified = true → s'.notified = true) (ht : s'.trickStopping = s.trickStopping) : FCtx s' i k := by
  refine ⟨⟨?_, ?_, ?_, ?_⟩, hme⟩
  · intro d hd'
    rw [hd] at hd'
    obtain ⟨pc, h⟩ := c.x.dk d hd'
    by_cases hdi : d = i
    · subst hdi
      obtain ⟨pc0, h0⟩ := c.me
      rw [h0] at h; cases h
      obtain ⟨pc1, h1⟩ := hme
      exact ⟨pc1, h1⟩
    · exact ⟨pc, by rw [hkp d hdi]; exact h⟩
  · intro j pc h
    rw [hd]
    by_cases hji : j = i
    · subst hji
      obtain ⟨pc1, h1⟩ := hme
      rw [h1] at h; cases h
      obtain ⟨pc0, h0⟩ := c.me
      exact c.x.uq j pc0 h0
    · exact c.x.uq j pc (by rw [← hkp j hji]; exact h)
  · intro d hdx hk hfl
    have hdi : d ≠ i := fun e => hdx (by rw [e])
    have hk0 : kp s d = some (Kind.deb, Pc.dWaitFirst) := by rw [← hkp d hdi]; exact hk
    have hdt := c.x.uq d _ hk0
    have := c.x.c2 d hdx hk0 (hf d hdt hfl)
    refine hn ?_ this
    intro hkd
    have := c.debIsMe hkd
    rw [hdt] at this
    exact hdi (by simpa using this)
  · intro htr d hd'
    rw [ht] at htr; rw [hd] at hd'
    rcases c.x.c3 htr d hd' with h | ⟨j, k', hj, hkj⟩
    · exact Or.inl (hf' d h)
    · have hji : j ≠ i := fun e => hj (by rw [e])
      exact Or.inr ⟨j, k', hj, by rw [hkp j hji]; exact hkj⟩

theorem FCtx.close {s : State} {i : Nat} {k : Kind} (c : FCtx s i k) (pc : Pc) (hme : kp s i = some (k, pc))
    (h2 : k = .deb → pc = .dWaitFirst → s.stopFlagOf i = true → s.notified = true) : FI s := by
  refine ⟨c.x.dk, c.x.uq, ?_, ?_⟩
  · intro d _ hk hfl
    by_cases hdi : d = i
    · subst hdi; rw [hme] at hk; cases hk; exact h2 rfl rfl hfl
    · exact c.x.c2 d (by simp [hdi]) hk hfl
  · intro htr d hd
    rcases c.x.c3 htr d hd with h | ⟨j, k', _, hkj⟩
    · exact Or.inl h
    · exact Or.inr ⟨j, k', by simp, hkj⟩

@[simp] theorem setPc_notified (s : State) (i : Nat) (pc : Pc) : (s.setPc i pc).notified = s.notified := by
  unfold State.setPc; split <;> rfl
@[simp] theorem kill_notified (s : State) (pid sig : Nat) : (s.kill pid sig).notified = s.notified := by
  unfold State.kill; split <;> rfl
@[simp] theorem setStopFlag_notified (s : State) (w : Nat) : (s.setStopFlag w).notified = s.notified := by
  unfold State.setStopFlag; split <;> rfl

/-- an update that leaves the kinds, pcs and stop flags of all threads, the debouncer reference and `trickStopping` alone;
    `notified` may only be lowered by the debouncer itself -/
theorem FCtx.same {s s' : State} {i : Nat} {k : Kind} (c : FCtx s i k) (hkp : ∀ j, kp s' j = kp s j)
    (hd : s'.debTid = s.debTid) (hf : ∀ d, s'.stopFlagOf d = s.stopFlagOf d)
    (hn : k ≠ .deb → s.notified = true → s'.notified = true) (ht : s'.trickStopping = s.trickStopping) : FCtx s' i k :=
  c.transfer (fun j _ => hkp j) (by rw [hkp]; exact c.me) hd (fun d _ h => by rwa [hf] at h) (fun d h => by rwa [hf]) hn ht

theorem FCtx.setPc {s : State} {i : Nat} {k : Kind} (c : FCtx s i k) (pc : Pc) : FCtx (s.setPc i pc) i k := by
  obtain ⟨pc0, h0⟩ := c.me
  have hkp : ∀ j, j ≠ i → kp (s.setPc i pc) j = kp s j := fun j hj => by rw [kp_setPc]; simp [Ne.symm hj]
  have hme : kp (s.setPc i pc) i = some (k, pc) := by rw [kp_setPc]; simp [h0]
  exact c.transfer hkp ⟨pc, hme⟩ (by simp) (fun d _ h => by rwa [stopFlagOf_setPc] at h)
    (fun d h => by rwa [stopFlagOf_setPc]) (fun _ h => by simpa using h) (by simp)

theorem FCtx.setPc_close {s : State} {i : Nat} {k : Kind} (c : FCtx s i k) (pc : Pc)
    (h2 : k = .deb → pc = .dWaitFirst → s.stopFlagOf i = true → s.notified = true) : FI (s.setPc i pc) := by
  obtain ⟨pc0, h0⟩ := c.me
  have hme : kp (s.setPc i pc) i = some (k, pc) := by rw [kp_setPc]; simp [h0]
  exact (c.setPc pc).close pc hme (fun hk hp hf => by
    rw [stopFlagOf_setPc] at hf; simpa using h2 hk hp hf)

/-- `process_watcher.stop()`: the flag of a watcher thread goes up - never the debouncer's -/
theorem FCtx.stopWatcher {s : State} {i : Nat} {k : Kind} (c : FCtx s i k) (hw : ∀ w, s.watcher = some w → isWat s w) :
    FCtx s.stopWatcher i k := by
  unfold State.stopWatcher
  split
  · next w hw' =>
    have hwat := hw w hw'
    have c1 : FCtx (s.setStopFlag w) i k := by
      refine c.transfer (fun j _ => kp_setStopFlag s w j) (by rw [kp_setStopFlag]; exact c.me) (by simp) ?_
        (fun d h => stopFlagOf_mono_setStopFlag s w d h) (fun _ h => by simpa using h) (by simp)
      intro d hd hfl
      have hdw : d ≠ w := by
        intro e; subst e
        obtain ⟨pc, hk⟩ := c.x.dk d hd
        obtain ⟨pid, pc', hk'⟩ := hwat
        rw [hk] at hk'; cases hk'
      rwa [stopFlagOf_setStopFlag_ne s w d hdw] at hfl
    exact c1.same (fun _ => rfl) rfl (fun _ => rfl) (fun _ h => h) rfl
  · exact c

theorem FCtx.append {s s' : State} {i : Nat} {k : Kind} (c : FCtx s i k) (t0 : Thread) (h0b : t0.pc = .begin)
    (h0k : t0.kind ≠ .deb) (h1 : s'.threads = s.threads ++ [t0]) (h2 : s'.debTid = s.debTid)
    (h3 : s'.notified = s.notified) (h4 : s'.trickStopping = s.trickStopping) : FCtx s' i k := by
  obtain ⟨pc0, h0⟩ := c.me
  have hil := kp_lt h0
  have hold : ∀ j, j < s.threads.length → kp s' j = kp s j := fun j hj => kp_append_old _ h1 hj
  have hnew : ∀ j x, ¬ j < s.threads.length → kp s' j = some x → x = (t0.kind, Pc.begin) :=
    fun j x hj hk => by rw [← h0b]; exact (kp_append_new _ h1 hj hk).2
  refine ⟨⟨?_, ?_, ?_, ?_⟩, ⟨pc0, by rw [hold i hil]; exact h0⟩⟩
  · intro d hd; rw [h2] at hd
    obtain ⟨pc, h⟩ := c.x.dk d hd
    exact ⟨pc, by rw [hold d (kp_lt h)]; exact h⟩
  · intro j pc h
    rw [h2]
    by_cases hl : j < s.threads.length
    · exact c.x.uq j pc (by rw [← hold j hl]; exact h)
    · have := hnew j _ hl h
      simp only [Prod.mk.injEq] at this
      exact absurd this.1.symm h0k
  · intro d hdx hk hfl
    by_cases hl : d < s.threads.length
    · rw [h3]
      exact c.x.c2 d hdx (by rw [← hold d hl]; exact hk) (by rwa [stopFlagOf_append t0 h1 d hl] at hfl)
    · have := hnew d _ hl hk
      simp only [Prod.mk.injEq] at this
      cases this.2
  · intro htr d hd
    rw [h4] at htr; rw [h2] at hd
    obtain ⟨pc, hkd⟩ := c.x.dk d hd
    rcases c.x.c3 htr d hd with h | ⟨j, k', hj, hkj⟩
    · exact Or.inl (by rw [stopFlagOf_append t0 h1 d (kp_lt hkd)]; exact h)
    · exact Or.inr ⟨j, k', hj, by rw [hold j (kp_lt hkj)]; exact hkj⟩

theorem debRunning_false_flag {s : State} {d : Nat} (hd : s.debTid = some d) (h : s.debRunning = false) :
    s.stopFlagOf d = true := by
  unfold State.debRunning at h
  rw [hd] at h
  simpa using h

theorem debRunning_true_flag {s : State} {d : Nat} (hd : s.debTid = some d) (h : s.debRunning = true) :
    s.stopFlagOf d = false := by
  unfold State.debRunning at h
  rw [hd] at h
  simpa using h

theorem FI.open {s : State} {i : Nat} {t : Thread} (h : FI s) (ht : s.threads[i]? = some t) (hns : t.pc ≠ .stCond) :
    FCtx s i t.kind := by
  have hme : kp s i = some (t.kind, t.pc) := by simp [kp, ht]
  refine ⟨⟨h.dk, h.uq, fun d _ hk hf => h.c2 d (by simp) hk hf, ?_⟩, ⟨_, hme⟩⟩
  intro htr d hd
  rcases h.c3 htr d hd with hf | ⟨j, k', _, hkj⟩
  · exact Or.inl hf
  · refine Or.inr ⟨j, k', ?_, hkj⟩
    intro e
    have : j = i := by simpa using e
    subst this
    rw [hme] at hkj
    simp only [Option.some.injEq, Prod.mk.injEq] at hkj
    exact hns hkj.2

theorem init_fi (cfg : Cfg) (lifetimes : List (Option Nat)) (scripts : List (List Op)) : FI (init cfg lifetimes scripts) := by
  refine ⟨fun d h => by simp [init] at h, ?_, ?_, fun h => by simp [init] at h⟩
  · intro j pc h; have := (kp_init h).1; cases this
  · intro d _ h; have := (kp_init h).1; cases this

/-- the debouncer thread is appended (there was none, the trick is not stopping) and becomes `event_debouncer` -/
theorem FCtx.appendDeb {s s' : State} {i : Nat} {k : Kind} (c : FCtx s i k) (hnone : s.debTid = none)
    (hts : s'.trickStopping = false) (h1 : s'.threads = s.threads ++ [{ kind := .deb, pc := .begin }])
    (h2 : s'.debTid = some s.threads.length) : FCtx s' i k := by
  obtain ⟨pc0, h0⟩ := c.me
  have noDeb : ∀ j pc, j < s.threads.length → kp s' j = some (Kind.deb, pc) → False := by
    intro j pc hl h
    have := c.x.uq j pc (by rw [← kp_append_old _ h1 hl]; exact h)
    rw [hnone] at this; cases this
  refine ⟨⟨?_, ?_, ?_, fun htr => by rw [hts] at htr; cases htr⟩, ⟨pc0, by rw [kp_append_old _ h1 (kp_lt h0)]; exact h0⟩⟩
  · intro d hd
    rw [h2] at hd; cases hd
    exact ⟨.begin, by rw [kp_append _ h1]; simp⟩
  · intro j pc h
    by_cases hl : j < s.threads.length
    · exact (noDeb j pc hl h).elim
    · rw [h2, (kp_append_new _ h1 hl h).1]
  · intro d _ hkd _
    by_cases hl : d < s.threads.length
    · exact (noDeb d _ hl hkd).elim
    · have := (kp_append_new _ h1 hl hkd).2; cases this

section
variable {s : State} {i : Nat}

theorem FI.raise {s : State} (h : FI s) (hw : ∀ d, s.debTid = some d → ∃ j k, kp s j = some (k, Pc.stCond)) :
    FI ({ s with trickStopping := true } : State) :=
  ⟨h.dk, h.uq, h.c2, fun _ d hd => by obtain ⟨j, k, e⟩ := hw d hd; exact Or.inr ⟨j, k, by simp, e⟩⟩

theorem setPc_raise (s : State) (i : Nat) (pc : Pc) :
    ({ s with trickStopping := true } : State).setPc i pc = { s.setPc i pc with trickStopping := true } := by
  simp only [State.setPc]; cases s.threads[i]? <;> rfl

/-- `stop()` raises `_is_trick_stopping`; with a debouncer it goes on to `event_debouncer.stop()`, and until it has been
    there it is the thread at `stCond` that `FI` asks for -/
theorem stAcq_fi {k : Kind} (c : FCtx s i k) (hk : k ≠ .deb) :
    FI (({ s with trickStopping := true } : State).setPc i
      (if ({ s with trickStopping := true } : State).debTid.isSome = true then Pc.stCond else Pc.stRAcq)) := by
  rw [setPc_raise]
  refine (c.setPc_close _ (fun e => absurd e hk)).raise ?_
  intro d hd
  obtain ⟨pc0, h0⟩ := c.me
  have hd0 : s.debTid = some d := by simpa using hd
  refine ⟨i, k, ?_⟩
  rw [kp_setPc, if_pos rfl, h0]
  show some (k, if s.debTid.isSome = true then Pc.stCond else Pc.stRAcq) = _
  rw [hd0]; rfl

theorem stCond_fctx {t : Thread} (h : FI s) (ht : s.threads[i]? = some t) :
    FCtx ((match s.debTid with | some d => s.setStopFlag d | none => s).notify) i t.kind := by
  have hme : kp s i = some (t.kind, t.pc) := by simp [kp, ht]
  cases hdt : s.debTid with
  | none =>
    simp only
    have c : FCtx s i t.kind := by
      refine ⟨⟨h.dk, h.uq, fun d _ hk' hf => h.c2 d (by simp) hk' hf, ?_⟩, ⟨_, hme⟩⟩
      intro _ d hd'; rw [hdt] at hd'; cases hd'
    rcases notify_eq s with e | e <;> rw [e]
    · exact c
    · exact c.same (fun _ => rfl) rfl (fun _ => rfl) (fun _ _ => rfl) rfl
  | some d =>
    simp only
    obtain ⟨pcd, hkd⟩ := h.dk d hdt
    have hdl := kp_lt hkd
    have hkp1 : ∀ j, kp ((s.setStopFlag d).notify) j = kp s j := fun j => by rw [kp_notify, kp_setStopFlag]
    have hfl1 : ((s.setStopFlag d).notify).stopFlagOf d = true := by
      rcases notify_eq (s.setStopFlag d) with e | e <;> rw [e]
      · exact stopFlagOf_setStopFlag_self s d hdl
      · show (s.setStopFlag d).stopFlagOf d = true
        exact stopFlagOf_setStopFlag_self s d hdl
    have hdeb1 : ((s.setStopFlag d).notify).debTid = some d := by
      rcases notify_eq (s.setStopFlag d) with e | e <;> rw [e] <;> simpa using hdt
    have hnot : kp s d = some (Kind.deb, Pc.dWaitFirst) → ((s.setStopFlag d).notify).notified = true := by
      intro hk1
      unfold State.notify
      have hd2 : (s.setStopFlag d).debTid = some d := by simpa using hdt
      rw [hd2]
      have : kp (s.setStopFlag d) d = some (Kind.deb, Pc.dWaitFirst) := by rw [kp_setStopFlag]; exact hk1
      unfold kp at this
      cases htd : (s.setStopFlag d).threads[d]? with
      | none => rw [htd] at this; cases this
      | some td =>
        rw [htd] at this
        simp only [Option.map_some, Option.some.injEq, Prod.mk.injEq] at this
        simp only [htd, this.2]
    refine ⟨⟨?_, ?_, ?_, ?_⟩, ⟨t.pc, by rw [hkp1]; exact hme⟩⟩
    · intro d' hd'; rw [hdeb1] at hd'; cases hd'; exact ⟨pcd, by rw [hkp1]; exact hkd⟩
    · intro j pc hj; rw [hkp1] at hj; rw [hdeb1, ← hdt]; exact h.uq j pc hj
    · intro d' _ hk' _
      rw [hkp1] at hk'
      have := h.uq d' _ hk'
      rw [hdt] at this
      have : d = d' := by simpa using this
      subst this
      exact hnot hk'
    · intro _ d' hd'; rw [hdeb1] at hd'; cases hd'; exact Or.inl hfl1

end

end WD.ProofsRst
