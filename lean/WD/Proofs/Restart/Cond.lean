/- WD.Rst: the debouncer's condition lock.  It is held across visible operations only by the debouncer thread while
   it runs its callback (`_restart_process`); so whoever waits for it - `handle_event`, `event_debouncer.stop()`, the
   debouncer's own loop head - waits for a thread that can move. -/
import WD.Proofs.Restart.Debs
import WD.Proofs.Restart.Progress
namespace WD.ProofsRst
open WD.Rst

/-- the pcs of a restart run as the debouncer's callback -/
def cbPc : Pc → Bool
  | .rAcq | .spAcq .restart | .spSleep _ _ .restart | .rStarted => true
  | _ => false

/-- the pcs of the debouncer's own loop -/
def dpcB : Pc → Bool
  | .dAcq | .dWaitFirst | .dWaitMore _ => true
  | _ => false

structure CHX (s : State) (x : Option Nat) : Prop where
  held : s.condHeld = true → ∃ d k pc, some d ≠ x ∧ kp s d = some (k, pc) ∧ isDeb k = true ∧ cbPc pc = true
  dty : ∀ j k pc, some j ≠ x → kp s j = some (k, pc) → dpcB pc = true → isDeb k = true

abbrev CH (s : State) : Prop := CHX s none

@[simp] theorem setThread_condHeld (s : State) (i : Nat) (t : Thread) : (s.setThread i t).condHeld = s.condHeld := rfl
@[simp] theorem setPc_condHeld (s : State) (i : Nat) (pc : Pc) : (s.setPc i pc).condHeld = s.condHeld := by
  unfold State.setPc; split <;> rfl

/-- in the middle of a step of thread `i`, of kind `k` -/
structure HCtx (s : State) (i : Nat) (k : Kind) : Prop where
  me : ∃ pc, kp s i = some (k, pc)
  oth : isDeb k = false → s.condHeld = true →
    ∃ d k' pc, some d ≠ some i ∧ kp s d = some (k', pc) ∧ isDeb k' = true ∧ cbPc pc = true
  dty : ∀ j k' pc, j ≠ i → kp s j = some (k', pc) → dpcB pc = true → isDeb k' = true

theorem HCtx.transfer {s s' : State} {i : Nat} {k : Kind} (c : HCtx s i k)
    (hkp : ∀ j, j ≠ i → kp s' j = kp s j) (hme : ∃ pc, kp s' i = some (k, pc))
    (hc : isDeb k = false → s'.condHeld = true → s.condHeld = true) : HCtx s' i k := by
  refine ⟨hme, fun hk hh => ?_, fun j k' pc hj hkj hp => c.dty j k' pc hj (by rw [← hkp j hj]; exact hkj) hp⟩
  obtain ⟨d, k', pc, hd, hkd, h1, h2⟩ := c.oth hk (hc hk hh)
  have hdi : d ≠ i := fun e => hd (by rw [e])
  exact ⟨d, k', pc, hd, by rw [hkp d hdi]; exact hkd, h1, h2⟩

theorem HCtx.close {s : State} {i : Nat} {k : Kind} (c : HCtx s i k) (pc : Pc) (hme : kp s i = some (k, pc))
    (h1 : isDeb k = true → s.condHeld = true → cbPc pc = true) (h2 : dpcB pc = true → isDeb k = true) : CH s := by
  refine ⟨fun hh => ?_, fun j k' pc' _ hkj hp => ?_⟩
  · cases hk : isDeb k with
    | false =>
      obtain ⟨d, k', pc', _, hkd, h2, h3⟩ := c.oth hk hh
      exact ⟨d, k', pc', by simp, hkd, h2, h3⟩
    | true => exact ⟨i, k, pc, by simp, hme, hk, h1 hk hh⟩
  · by_cases hji : j = i
    · subst hji; rw [hme] at hkj; cases hkj; exact h2 hp
    · exact c.dty j k' pc' hji hkj hp

/-- an update that leaves the kinds and pcs of all threads alone, and the condition lock too unless thread `i` is the
    debouncer -/
theorem HCtx.same {s s' : State} {i : Nat} {k : Kind} (c : HCtx s i k) (hkp : ∀ j, kp s' j = kp s j)
    (hc : isDeb k = false → s'.condHeld = s.condHeld) : HCtx s' i k :=
  c.transfer (fun j _ => hkp j) (by rw [hkp]; exact c.me) (fun hk h => by rw [hc hk] at h; exact h)

theorem HCtx.setPc_close {s : State} {i : Nat} {k : Kind} (c : HCtx s i k) (pc : Pc)
    (h1 : isDeb k = true → s.condHeld = true → cbPc pc = true) (h2 : dpcB pc = true → isDeb k = true) :
    CH (s.setPc i pc) := by
  obtain ⟨pc0, h0⟩ := c.me
  have hkp : ∀ j, j ≠ i → kp (s.setPc i pc) j = kp s j := fun j hj => by rw [kp_setPc]; simp [Ne.symm hj]
  have hme : kp (s.setPc i pc) i = some (k, pc) := by rw [kp_setPc]; simp [h0]
  exact (c.transfer (s' := s.setPc i pc) hkp ⟨pc, hme⟩ (fun _ h => by simpa using h)).close pc hme
    (fun hk hh => h1 hk (by simpa using hh)) h2

theorem setStopFlag_condHeld (s : State) (w : Nat) : (s.setStopFlag w).condHeld = s.condHeld := by
  unfold State.setStopFlag; split <;> rfl

theorem stopWatcher_condHeld (s : State) : s.stopWatcher.condHeld = s.condHeld := by
  unfold State.stopWatcher; split
  · simp [setStopFlag_condHeld]
  · rfl

theorem kill_condHeld (s : State) (pid sig : Nat) : (s.kill pid sig).condHeld = s.condHeld := by
  unfold State.kill; split <;> rfl

theorem HCtx.append {s s' : State} {i : Nat} {k : Kind} (c : HCtx s i k) (t0 : Thread) (h0b : t0.pc = .begin)
    (h1 : s'.threads = s.threads ++ [t0]) (h2 : s'.condHeld = s.condHeld) : HCtx s' i k := by
  obtain ⟨pc0, h0⟩ := c.me
  have hil := kp_lt h0
  have hold : ∀ j, j < s.threads.length → kp s' j = kp s j := fun j hj => kp_append_old _ h1 hj
  refine ⟨⟨pc0, by rw [hold i hil]; exact h0⟩, fun hk hh => ?_, fun j k' pc hj hkj hp => ?_⟩
  · obtain ⟨d, k', pc, hd, hkd, h3, h4⟩ := c.oth hk (by rw [← h2]; exact hh)
    exact ⟨d, k', pc, hd, by rw [hold d (kp_lt hkd)]; exact hkd, h3, h4⟩
  · by_cases hl : j < s.threads.length
    · exact c.dty j k' pc hj (by rw [← hold j hl]; exact hkj) hp
    · have := (kp_append_new _ h1 hl hkj).2; cases this; rw [h0b] at hp; cases hp

theorem CH.open {s : State} {i : Nat} {t : Thread} (h : CH s) (hd : Deb s) (ht : s.threads[i]? = some t) :
    HCtx s i t.kind ∧ (isDeb t.kind = true → cbPc t.pc = false → s.condHeld = false) := by
  have hme : kp s i = some (t.kind, t.pc) := by simp [kp, ht]
  refine ⟨⟨⟨_, hme⟩, fun hk hh => ?_, fun j k' pc _ hkj hp => h.dty j k' pc (by simp) hkj hp⟩, fun hk hp => ?_⟩
  · obtain ⟨d, k', pc, _, hkd, h2, h3⟩ := h.held hh
    refine ⟨d, k', pc, ?_, hkd, h2, h3⟩
    intro e
    have : d = i := by simpa using e
    subst this
    rw [hme] at hkd; cases hkd
    rw [hk] at h2; cases h2
  · cases hc : s.condHeld with
    | false => rfl
    | true =>
      obtain ⟨d, k', pc, _, hkd, h2, h3⟩ := h.held hc
      have e1 := hd.uniq d k' pc hkd h2
      have e2 := hd.uniq i t.kind t.pc hme hk
      rw [e1] at e2
      have : d = i := by simpa using e2
      subst this
      rw [hme] at hkd; cases hkd
      rw [hp] at h3; cases h3

theorem init_ch (cfg : Cfg) (lifetimes : List (Option Nat)) (scripts : List (List Op)) : CH (init cfg lifetimes scripts) := by
  refine ⟨fun h => by simp [init] at h, ?_⟩
  intro j k pc _ h hp; rw [(kp_init h).2] at hp; cases hp

/-- some thread can step now, or one is in a timed wait that a pending deadline ends -/
def CanMoveT (s : State) : Prop :=
  (∃ i, enabled s i = true) ∨ (∃ (i : Nat) (ti : Thread) (kt dl : Nat) (a : After), s.threads[i]? = some ti ∧ ti.pc = Pc.spSleep kt dl a)

/-- pcs at which a thread waits for the debouncer's condition lock -/
def waitsC : Pc → Bool
  | .evCond | .stCond | .dAcq => true
  | _ => false

theorem cb_progress {s : State} (inv : Inv s) (d : Nat) (td : Thread) (htd : s.threads[d]? = some td)
    (hcb : cbPc td.pc = true) : CanMove s := by
  cases hpc : td.pc <;> rw [hpc] at hcb <;> simp [cbPc] at hcb
  · exact waitR_progress inv d td htd (by rw [hpc]; rfl)
  · exact Or.inl (waitS_progress s d td htd (by rw [hpc]; rfl))
  · exact Or.inr ⟨d, td, _, _, _, htd, hpc⟩
  · exact Or.inl ⟨d, by simp [enabled, htd, enabledT, hpc]⟩

theorem waitC_progress {s : State} (inv : Inv s) (hc : CH s) (j : Nat) (t : Thread) (ht : s.threads[j]? = some t)
    (hw : waitsC t.pc = true) : CanMove s := by
  cases hh : s.condHeld with
  | false =>
    refine Or.inl ⟨j, ?_⟩
    simp only [enabled, ht]
    cases hpc : t.pc <;> simp [waitsC, hpc] at hw <;> simp [enabledT, hpc, hh]
  | true =>
    obtain ⟨d, k, pc, _, hkd, _, hcb⟩ := hc.held hh
    obtain ⟨td, htd, _, rfl⟩ := kp_some hkd
    exact cb_progress inv d td htd hcb

end WD.ProofsRst
