/- the directories the emitter forgets after a burst: none, whenever no unmatched MOVED_FROM of a directory was read -/
import WD.Model.PipelineBurst
namespace WD.Pipe

theorem movedOutNow_nil {gs : List Grouped} (h : movedOut gs = []) : movedOutNow gs = [] := by
  rw [movedOut, List.filterMap_eq_nil_iff] at h
  induction gs with
  | nil => rfl
  | cons g rest ih =>
    have hg := h g (List.mem_cons_self ..)
    have ih' := ih (fun x hx => h x (List.mem_cons_of_mem _ hx))
    cases g with
    | two f t => exact ih'
    | one e =>
      cases hc : (e.flag == .movedFrom && e.isDir) with
      | false => simp only [movedOutNow, hc, Bool.false_eq_true, if_false]; exact ih'
      | true => simp [hc] at hg

theorem departed_nil {gs : List Grouped} (n : Nat) (h : movedOut gs = []) : departed n gs = [] := by
  unfold departed; split
  · exact h
  · exact movedOutNow_nil h

theorem departed_one (gs : List Grouped) : departed 1 gs = movedOut gs := by simp [departed]

end WD.Pipe
