/- a burst that only adds entries (`mkdir -p` + populate), read in ONE batch after its last operation, under a recursive
   watch: every directory ends up watched under its name, nothing crashes, and the delivered stream holds exactly one
   created event per new entry of the tree, so that replaying it reproduces the tree -/
import WD.Proofs.Pipeline.Burst
import WD.Proofs.Pipeline.Tree
import WD.Proofs.Pipeline.Valid
namespace WD.Pipe

variable {fs : FS} {k : Kern} {lib : Lib} {cov : Ent → Prop}

/-- one entry of `_recursive_simulate`'s walk inside a freshly created directory -/
def simStep (fs : FS) (acc : Kern × Lib × List LEv) (e : Ent) : Kern × Lib × List LEv :=
  if e.isDir then
    match addWatch fs acc.1 acc.2.1 e.path with
    | some (ka, la, wd) => (ka, la, acc.2.2 ++ [⟨wd, .create, true, 0, some (baseName e.path), e.path⟩])
    | none => acc
  else
    match lookupP acc.2.1.wdForPath (parentOf e.path) with
    | some wd => (acc.1, acc.2.1, acc.2.2 ++ [⟨wd, .create, false, 0, some (baseName e.path), e.path⟩])
    | none => acc

/-- the parent of every listed entry is known beforehand or is a directory listed earlier -/
def Closed (known : P → Prop) : List Ent → Prop
  | [] => True
  | x :: rest => known (parentOf x.path) ∧ Closed (fun q => known q ∨ (x.isDir = true ∧ q = x.path)) rest

set_option linter.unusedVariables false in
theorem Closed.mono {K K' : P → Prop} (h : ∀ q, K q → K' q) : ∀ {l : List Ent}, Closed K l → Closed K' l
  | [], _ => trivial
  | x :: rest, hc => ⟨h _ hc.1, Closed.mono (fun q hq => hq.elim (fun a => Or.inl (h q a)) Or.inr) hc.2⟩

/-- the record kinds a populate burst produces -/
def fillFlag : Flag → Bool
  | .create | .open | .closeWrite | .modify | .attrib => true
  | _ => false

def creates (levs : List LEv) : List (P × Bool) :=
  levs.filterMap (fun l => if l.flag = .create then some (l.src, l.isDir) else none)

theorem creates_append (a b : List LEv) : creates (a ++ b) = creates a ++ creates b := by
  simp [creates, List.filterMap_append]

theorem simStep_spec (hwf : fs.WF) (inv : InvOn cov none fs k lib) (acc : List LEv) {d : Ent} (hd1 : d ∈ fs.ents)
    (hd2 : d.isDir = true → inTreeDir d = true ∧ k.wdOfIno d.ino = none)
    (hKd : (lookupP lib.wdForPath (parentOf d.path)).isSome = true) :
    ∃ k1 lib1 wd, simStep fs (k, lib, acc) d = (k1, lib1, acc ++ [⟨wd, .create, d.isDir, 0, some (baseName d.path), d.path⟩]) ∧
      InvOn (fun y => cov y ∨ (y = d ∧ d.isDir = true)) none fs k1 lib1 ∧
      (∀ w, w ∈ k1.watches ↔ w ∈ k.watches ∨ (d.isDir = true ∧ w = (k.nextWd, d.ino))) ∧
      (∀ i, i ≠ d.ino → k1.wdOfIno i = k.wdOfIno i) ∧
      (∀ q, (lookupP lib.wdForPath q).isSome = true ∨ (d.isDir = true ∧ q = d.path) → (lookupP lib1.wdForPath q).isSome = true) := by
  cases hdir : d.isDir with
  | true =>
    obtain ⟨hd3, hd4⟩ := hd2 hdir
    refine ⟨k.withWatch d.ino, lib.withWatch d.path k.nextWd, k.nextWd, ?_, ?_, ?_, ?_, ?_⟩
    · simp [simStep, hdir, addWatch_new (hwf.find_mem hd1) hd4]
    · exact (inv.addWatch hd1 hd3 hd4).mono (fun y _ _ hy => hy.elim Or.inl (fun h => Or.inr h.1))
    · intro w; simp [Kern.withWatch]
    · intro i hi; rw [wdOfIno_withWatch]; simp [Ne.symm hi]
    · intro q hq
      simp only [Lib.withWatch, lookupP_setP]
      by_cases h : q = d.path
      · simp [h]
      · simp only [h, if_false]; exact hq.resolve_right (fun x => h x.2)
  | false =>
    obtain ⟨wd, hwd⟩ := Option.isSome_iff_exists.mp hKd
    exact ⟨k, lib, wd, by simp [simStep, hdir, hwd], inv.mono (fun y _ _ hy => hy.elim id (fun h => by cases h.2)), by simp,
      fun _ _ => rfl, fun q hq => hq.resolve_right (fun x => by cases x.1)⟩

theorem simFold (hwf : fs.WF) (ins : List Ent) : ∀ (k : Kern) (lib : Lib) (cov : Ent → Prop) (acc : List LEv) (K : P → Prop),
    InvOn cov none fs k lib → ins.Nodup →
    (∀ d ∈ ins, d ∈ fs.ents ∧ (d.isDir = true → inTreeDir d = true ∧ k.wdOfIno d.ino = none)) →
    (∀ q, K q → (lookupP lib.wdForPath q).isSome = true) → Closed K ins →
    ∃ k' lib' sim, ins.foldl (simStep fs) (k, lib, acc) = (k', lib', acc ++ sim) ∧
      InvOn (fun y => cov y ∨ (y ∈ ins ∧ y.isDir = true)) none fs k' lib' ∧
      (∀ w ∈ k.watches, w ∈ k'.watches) ∧
      (∀ w ∈ k'.watches, w ∈ k.watches ∨ ∃ d ∈ ins, d.isDir = true ∧ w.2 = d.ino) ∧
      creates sim = ins.map (fun e => (e.path, e.isDir)) ∧ (∀ l ∈ sim, l.flag = .create) := by
  induction ins with
  | nil =>
    intro k lib cov acc K inv _ _ _ _
    exact ⟨k, lib, [], by simp, inv.mono (fun e _ _ h => h.elim id (fun h => by cases h.1)), fun _ h => h,
      fun _ h => Or.inl h, rfl, by simp⟩
  | cons d rest ih =>
    intro k lib cov acc K inv hnd hds hK hcl
    simp only [List.nodup_cons] at hnd
    obtain ⟨hd1, hd2⟩ := hds d (List.mem_cons_self ..)
    obtain ⟨k1, lib1, wd, hstep, inv1, hw1, hother, hK1⟩ := simStep_spec hwf inv acc hd1 hd2 (hK _ hcl.1)
    have hrest : ∀ x ∈ rest, x ∈ fs.ents ∧ (x.isDir = true → inTreeDir x = true ∧ k1.wdOfIno x.ino = none) := by
      intro x hx
      obtain ⟨a, b⟩ := hds x (List.mem_cons_of_mem _ hx)
      refine ⟨a, fun hxd => ⟨(b hxd).1, ?_⟩⟩
      rw [hother _ (fun hi => hnd.1 (hwf.ino_inj a hd1 hi ▸ hx)), (b hxd).2]
    obtain ⟨k', lib', sim, h1, h2, h3, h4, h5, h6⟩ := ih k1 lib1 _ (acc ++ [⟨wd, .create, d.isDir, 0, some (baseName d.path), d.path⟩]) _
      inv1 hnd.2 hrest (fun q hq => hK1 q (hq.elim (fun h => Or.inl (hK q h)) Or.inr)) hcl.2
    refine ⟨k', lib', ⟨wd, .create, d.isDir, 0, some (baseName d.path), d.path⟩ :: sim, ?_, ?_, ?_, ?_, ?_, ?_⟩
    · simp only [List.foldl_cons, hstep, h1]; simp
    · refine h2.mono ?_
      intro y _ _ hy
      rcases hy with hy | ⟨hy, hyd⟩
      · exact Or.inl (Or.inl hy)
      · rcases List.mem_cons.mp hy with rfl | hy
        · exact Or.inl (Or.inr ⟨rfl, hyd⟩)
        · exact Or.inr ⟨hy, hyd⟩
    · intro w hw; exact h3 w ((hw1 w).mpr (Or.inl hw))
    · intro w hw
      rcases h4 w hw with h | ⟨x, hx, hxd, hxi⟩
      · rcases (hw1 w).mp h with h | ⟨hdd, rfl⟩
        · exact Or.inl h
        · exact Or.inr ⟨d, List.mem_cons_self .., hdd, rfl⟩
      · exact Or.inr ⟨x, List.mem_cons_of_mem _ hx, hxd, hxi⟩
    · simp [creates] at h5 ⊢; exact h5
    · intro l hl
      rcases List.mem_cons.mp hl with rfl | hl
      · rfl
      · exact h6 l hl

theorem Closed.filter_under (p : P) : ∀ {l : List Ent} {K : P → Prop}, Closed K l →
    Closed (fun q => q = p ∨ (K q ∧ isUnder p q = true)) (l.filter (fun e => isUnder p e.path))
  | [], _, _ => trivial
  | x :: rest, K, hc => by
    simp only [List.filter_cons]
    have ih := Closed.filter_under p hc.2
    split
    · rename_i hx
      refine ⟨?_, ih.mono ?_⟩
      · rcases isUnder_parent hx with h | h
        · exact Or.inl h
        · exact Or.inr ⟨hc.1, h⟩
      · intro q hq
        rcases hq with hq | ⟨hq | hq, hu⟩
        · exact Or.inl (Or.inl hq)
        · exact Or.inl (Or.inr ⟨hq, hu⟩)
        · exact Or.inr hq
    · rename_i hx
      refine ih.mono ?_
      intro q hq
      rcases hq with hq | ⟨hq | hq, hu⟩
      · exact Or.inl hq
      · exact Or.inr ⟨hq, hu⟩
      · rw [hq.2] at hu; exact absurd hu hx

theorem closed_descendants {A F : FS} {news : List Ent} (hn1 : F.ents = A.ents ++ news)
    (hn2 : Closed (fun q => A.isDir q = true) news) {p : P} (hA : ∀ e ∈ A.ents, isUnder p e.path = false) :
    Closed (fun q => q = p) (F.descendants p) := by
  have hdesc : F.descendants p = news.filter (fun e => isUnder p e.path) := by
    unfold FS.descendants
    rw [hn1, List.filter_append, List.filter_eq_nil_iff.mpr (fun e he => by simp [hA e he])]; rfl
  rw [hdesc]
  refine (Closed.filter_under p hn2).mono ?_
  rintro q (hq | ⟨hq, hu⟩)
  · exact hq
  · obtain ⟨e, he, _⟩ := FS.isDir_iff.mp hq
    rw [← (FS.find?_some he).2, hA e (FS.find?_some he).1] at hu; cases hu

theorem libRecord_create_dir (fs : FS) (k : Kern) (lib : Lib) (wd : Nat) (n : String) (par : P)
    (hw : lookupW lib.pathForWd wd = some par) (hrec : lib.recursive = true) :
    libRecord fs k lib ⟨wd, .create, true, 0, some n⟩ =
      match addWatch fs k lib (par ++ [n]) with
      | none => some (k, lib, [⟨wd, .create, true, 0, some n, par ++ [n]⟩])
      | some (k1, l1, _) =>
        some (((fs.descendants (par ++ [n])).foldl (simStep fs) (k1, l1, [])).1,
              ((fs.descendants (par ++ [n])).foldl (simStep fs) (k1, l1, [])).2.1,
              ⟨wd, .create, true, 0, some n, par ++ [n]⟩ :: ((fs.descendants (par ++ [n])).foldl (simStep fs) (k1, l1, [])).2.2) := by
  unfold libRecord
  simp only [hw, hrec, Bool.and_self, if_true]
  rfl

theorem libRecord_newdir (inv : InvOn cov none fs k lib) {wd : Nat} {par : P} {n : String} {d : Ent}
    (hw : lookupW lib.pathForWd wd = some par) (hd : fs.find? (par ++ [n]) = some d)
    (htree : inTreeDir d = true) (hun : k.wdOfIno d.ino = none)
    (hins : ∀ x ∈ fs.descendants d.path, x.isDir = true → k.wdOfIno x.ino = none)
    (hcl : Closed (fun q => q = d.path) (fs.descendants d.path)) :
    ∃ k' lib' sim, libRecord fs k lib ⟨wd, .create, true, 0, some n⟩ =
        some (k', lib', ⟨wd, .create, true, 0, some n, d.path⟩ :: sim) ∧
      InvOn (fun y => cov y ∨ y = d ∨ (y ∈ fs.descendants d.path ∧ y.isDir = true)) none fs k' lib' ∧
      (∀ w ∈ k.watches, w ∈ k'.watches) ∧
      (∀ w ∈ k'.watches, w ∈ k.watches ∨ w.2 = d.ino ∨ ∃ x ∈ fs.descendants d.path, x.isDir = true ∧ w.2 = x.ino) ∧
      creates sim = (fs.descendants d.path).map (fun e => (e.path, e.isDir)) ∧ (∀ l ∈ sim, l.flag = .create) := by
  have hwf := inv.wf
  obtain ⟨hdm, hdp⟩ := FS.find?_some hd
  have haw := addWatch_new (fs := fs) (k := k) (lib := lib) (e := d) (hwf.find_mem hdm) hun
  have inv1 := inv.addWatch hdm htree hun
  have hnd : (fs.descendants d.path).Nodup := by
    unfold FS.descendants
    exact List.Nodup.sublist List.filter_sublist (nodup_of_map_nodup _ hwf.paths)
  have hds : ∀ x ∈ fs.descendants d.path, x ∈ fs.ents ∧
      (x.isDir = true → inTreeDir x = true ∧ (k.withWatch d.ino).wdOfIno x.ino = none) := by
    intro x hx
    have hx' := hx
    unfold FS.descendants at hx'
    obtain ⟨hxm, hxu⟩ := List.mem_filter.mp hx'
    refine ⟨hxm, fun hxd => ⟨?_, ?_⟩⟩
    · rw [inTreeDir_iff] at htree ⊢
      refine ⟨hxd, Or.inr ?_⟩
      rcases htree.2 with h | h
      · rw [← h]; exact hxu
      · exact isUnder_trans h hxu
    · rw [wdOfIno_withWatch, hins x hx hxd]
      have : d.ino ≠ x.ino := by
        intro hi; have := hwf.ino_inj hdm hxm hi; subst this
        rw [isUnder_irrefl] at hxu; cases hxu
      simp [this]
  have hK : ∀ q, q = d.path → (lookupP (lib.withWatch d.path k.nextWd).wdForPath q).isSome = true := by
    intro q hq; simp [Lib.withWatch, lookupP_setP, hq]
  obtain ⟨k', lib', sim, h1, h2, h3, h4, h5, h6⟩ :=
    simFold hwf (fs.descendants d.path) (k.withWatch d.ino) (lib.withWatch d.path k.nextWd) _ [] _ inv1 hnd hds hK hcl
  refine ⟨k', lib', sim, ?_, ?_, ?_, ?_, h5, h6⟩
  · rw [libRecord_create_dir fs k lib wd n par hw inv.isRec, ← hdp, haw]
    simp only
    have : (fs.descendants d.path).foldl (simStep fs) (k.withWatch d.ino, lib.withWatch d.path k.nextWd, []) = (k', lib', sim) := by
      simpa using h1
    rw [this]
  · refine h2.mono ?_
    intro y _ _ hy
    rcases hy with hy | hy | hy
    · exact Or.inl (Or.inl hy)
    · exact Or.inl (Or.inr hy)
    · exact Or.inr hy
  · intro w hw'; exact h3 w (by simp [Kern.withWatch, hw'])
  · intro w hw'
    rcases h4 w hw' with h | ⟨x, hx, hxd, hxi⟩
    · simp only [Kern.withWatch, List.mem_append, List.mem_singleton] at h
      rcases h with h | h
      · exact Or.inl h
      · exact Or.inr (Or.inl (by rw [h]))
    · exact Or.inr (Or.inr ⟨x, hx, hxd, hxi⟩)

/-- `e` is, or lies below, an entry created since the burst began (`fs0`: the file system at its start, `fsi`: now) -/
def Done (fs0 fsi : FS) (e : Ent) : Prop :=
  ∃ d ∈ fsi.ents, d ∉ fs0.ents ∧ (e.path = d.path ∨ isUnder d.path e.path = true)

theorem Done.mono {fs0 fsi fsj : FS} (h : ∀ e ∈ fsi.ents, e ∈ fsj.ents) {e : Ent} : Done fs0 fsi e → Done fs0 fsj e := by
  rintro ⟨d, hd, h1, h2⟩; exact ⟨d, h d hd, h1, h2⟩

theorem not_done_new {fs0 fsi : FS} (wf0 : fs0.WF) (wfi : fsi.WF) (sub0 : ∀ e ∈ fs0.ents, e ∈ fsi.ents)
    {p : P} (hp : 2 ≤ p.length) (hne : fsi.exists p = false) {par : Ent} (hpar0 : par ∈ fs0.ents) (hpp : par.path = parentOf p)
    {x : Ent} (hx : x.path = p ∨ isUnder p x.path = true) : ¬ (x ∈ fs0.ents ∨ Done fs0 fsi x) := by
  have hnn := ne_nil_of_two_le hp
  have hex := exists_false_iff.mp hne
  have hnd := wfi.no_descendants_of_missing hnn hne
  rintro (h | ⟨d, hd, hd0, hdx⟩)
  · have hxi := sub0 x h
    rcases hx with hx | hx
    · exact hex x hxi hx
    · rw [hnd x hxi] at hx; cases hx
  · have hup : isUnder d.path p = true := by
      rcases hx with hx | hx <;> rcases hdx with hdx | hdx
      · exact absurd (hdx.symm.trans hx) (hex d hd)
      · rw [← hx]; exact hdx
      · rw [hdx, hnd d hd] at hx; cases hx
      · rcases prefix_comparable hx hdx with h | h | h
        · exact absurd h.symm (hex d hd)
        · rw [hnd d hd] at h; cases h
        · exact h
    have hdeq : ∀ e0 ∈ fs0.ents, e0.path = d.path → False := by
      intro e0 he0 hpe
      have := wfi.path_inj (sub0 e0 he0) hd hpe
      subst this; exact hd0 he0
    rcases isUnder_parent hup with h | h
    · exact hdeq par hpar0 (hpp.trans h)
    · rw [← hpp] at h
      have := wf0.ancestor_dir _ par hpar0 rfl d.path (wfi.path_ne_nil hd) h
      obtain ⟨e0, he0, _⟩ := FS.isDir_iff.mp this
      exact hdeq e0 (FS.find?_some he0).1 (FS.find?_some he0).2

theorem done_add {fs0 fsi F : FS} (wfF : F.WF) {p : P} {b : Bool} (hEF : (⟨p, b, fsi.nextIno⟩ : Ent) ∈ F.ents)
    {e : Ent} (heF : e ∈ F.ents) (h : Done fs0 (fsi.add p b) e) :
    Done fs0 fsi e ∨ e = ⟨p, b, fsi.nextIno⟩ ∨ isUnder p e.path = true := by
  obtain ⟨d, hd, hd0, hdx⟩ := h
  rcases FS.mem_add.mp hd with hd | hd
  · exact Or.inl ⟨d, hd, hd0, hdx⟩
  · subst hd
    rcases hdx with h | h
    · exact Or.inr (Or.inl (wfF.path_inj heF hEF h))
    · exact Or.inr (Or.inr h)

theorem done_shrink {fs0 fsi : FS} {p : P} (hp : 2 ≤ p.length) {par : Ent} (hpari : par ∈ fsi.ents)
    (hpp : par.path = parentOf p) (hpd : par.isDir = true) (hA : par ∉ fs0.ents ∨ inTreeDir par = false) (b : Bool)
    {e : Ent} (he : e.path = ["W"] ∨ isUnder ["W"] e.path = true) (h : Done fs0 (fsi.add p b) e) : Done fs0 fsi e := by
  have hnn := ne_nil_of_two_le hp
  obtain ⟨d, hd, hd0, hdx⟩ := h
  rcases FS.mem_add.mp hd with hd | hd
  · exact ⟨d, hd, hd0, hdx⟩
  · subst hd
    simp only at hdx
    have hpu : isUnder par.path p = true := by
      rw [hpp]; exact isUnder_of_parent hnn (Or.inl rfl)
    rcases hA with hA | hA
    · refine ⟨par, hpari, hA, Or.inr ?_⟩
      rcases hdx with h | h
      · rw [h]; exact hpu
      · exact isUnder_trans hpu h
    · exfalso
      have hW : isUnder ["W"] p = true := by
        rcases he with he | he
        · rcases hdx with h | h
          · rw [he] at h; rw [← h] at hp; simp at hp
          · rw [he] at h; have := isUnder_length h; simp only [List.length_cons, List.length_nil] at this; omega
        · rcases hdx with h | h
          · rw [← h]; exact he
          · rcases prefix_comparable he h with h1 | h1 | h1
            · rw [← h1] at hp; simp at hp
            · exact h1
            · have := isUnder_length h1; simp only [List.length_cons, List.length_nil] at this; omega
      have : inTreeDir par = true := by
        rw [inTreeDir_iff, hpp]
        exact ⟨hpd, isUnder_parent hW⟩
      rw [this] at hA; cases hA

/-- every operation is a `mkdir` or a file creation, valid when it is issued -/
def allGrow (fs : FS) : List Op → Bool
  | [] => true
  | op :: rest => validOp fs op && growKind op && allGrow (fsAfter fs op) rest

/-- every operation is a creation, a write or an attribute change, valid when it is issued -/
def allFill (fs : FS) : List Op → Bool
  | [] => true
  | op :: rest => validOp fs op && fillKind op && allFill (fsAfter fs op) rest

theorem allFill_of_allGrow : ∀ (ops : List Op) (fs : FS), allGrow fs ops = true → allFill fs ops = true := by
  intro ops
  induction ops with
  | nil => intro _ _; rfl
  | cons op rest ih =>
    intro fs h
    simp only [allGrow, Bool.and_eq_true] at h
    simp [allFill, fillKind, h.1.1, h.1.2, ih _ h.2]

theorem grow_op {fs : FS} {op : Op} (hv : validOp fs op = true) (hg : growKind op = true) :
    ∃ p b, ((op = .mkdir p ∧ b = true) ∨ (op = .create p ∧ b = false)) ∧ 2 ≤ p.length ∧ fs.exists p = false ∧
      fs.isDir (parentOf p) = true ∧ fsAfter fs op = fs.add p b := by
  cases op with
  | mkdir p =>
    obtain ⟨h1, h2, h3⟩ := validOp_mkdir hv
    exact ⟨p, true, Or.inl ⟨rfl, rfl⟩, h1, h2, h3, rfl⟩
  | create p =>
    obtain ⟨h1, h2, h3⟩ := validOp_create hv
    exact ⟨p, false, Or.inr ⟨rfl, rfl⟩, h1, h2, h3, rfl⟩
  | _ => simp [growKind] at hg

theorem touch_fs {fs : FS} {op : Op} (hk : touchKind op = true) : fsAfter fs op = fs := by
  cases op with
  | write p => rfl
  | chmod p => exact fsAfter_chmod fs p
  | _ => simp [touchKind] at hk

theorem fill_cases {op : Op} (h : fillKind op = true) : growKind op = true ∨ touchKind op = true := by
  simpa [fillKind] using h

theorem fill_facts : ∀ (ops : List Op) (fs : FS), fs.WF → allFill fs ops = true →
    (fsRun fs ops).WF ∧ (∀ e ∈ fs.ents, e ∈ (fsRun fs ops).ents) ∧
    (∀ e ∈ (fsRun fs ops).ents, e ∉ fs.ents → fs.nextIno ≤ e.ino) ∧
    ∃ news, (fsRun fs ops).ents = fs.ents ++ news ∧ Closed (fun q => fs.isDir q = true) news := by
  intro ops
  induction ops with
  | nil => intro fs hwf _; exact ⟨hwf, fun _ h => h, fun e he hn => absurd he hn, [], by simp [fsRun], trivial⟩
  | cons op rest ih =>
    intro fs hwf hv
    simp only [allFill, Bool.and_eq_true] at hv
    obtain ⟨⟨hvalid, hkind⟩, hrest⟩ := hv
    rcases fill_cases hkind with hg | ht
    · obtain ⟨p, b, _, hp, hne, hpar, hfs⟩ := grow_op hvalid hg
      rw [hfs] at hrest
      obtain ⟨i1, i2, i3, news, i4, i5⟩ := ih (fs.add p b) (hwf.add hp hne hpar b) hrest
      simp only [fsRun, hfs]
      refine ⟨i1, fun e he => i2 e (FS.mem_add.mpr (Or.inl he)), ?_, ⟨p, b, fs.nextIno⟩ :: news, ?_, hpar, i5.mono ?_⟩
      · intro e he hn
        by_cases h1 : e ∈ (fs.add p b).ents
        · rcases FS.mem_add.mp h1 with h | h
          · exact absurd h hn
          · subst h; exact Nat.le_refl _
        · have := i3 e he h1; simp only [FS.add] at this; omega
      · rw [i4]; simp [FS.add]
      ·
        intro q hq
        obtain ⟨e, he, hd⟩ := FS.isDir_iff.mp hq
        rw [FS.find?_add] at he
        cases hf : fs.find? q with
        | some e0 =>
          rw [hf] at he; simp at he; subst he
          exact Or.inl (FS.isDir_iff.mpr ⟨e0, hf, hd⟩)
        | none =>
          rw [hf] at he
          by_cases hpq : p = q
          · simp [hpq] at he; subst he; exact Or.inr ⟨hd, hpq.symm⟩
          · simp [hpq] at he
    · rw [touch_fs ht] at hrest
      simp only [fsRun, touch_fs ht]
      exact ih fs hwf hrest

theorem grow_facts (ops : List Op) (fs : FS) (hwf : fs.WF) (h : allGrow fs ops = true) :
    (fsRun fs ops).WF ∧ (∀ e ∈ fs.ents, e ∈ (fsRun fs ops).ents) ∧
    (∀ e ∈ (fsRun fs ops).ents, e ∉ fs.ents → fs.nextIno ≤ e.ino) ∧
    ∃ news, (fsRun fs ops).ents = fs.ents ++ news ∧ Closed (fun q => fs.isDir q = true) news :=
  fill_facts ops fs hwf (allFill_of_allGrow ops fs h)

/-- what does not change during the burst: the state at its start and the file system at its end -/
structure GrowCtx (fs0 F : FS) (k : Kern) (lib0 : Lib) : Prop where
  inv0 : InvRec fs0 k lib0
  wfF : F.WF
  sub0F : ∀ e ∈ fs0.ents, e ∈ F.ents
  newIno : ∀ e ∈ F.ents, e ∉ fs0.ents → fs0.nextIno ≤ e.ino

/-- the reader has gone through the records of the operations that led from `fs0` to `fsi`, looking at `F`:
    what existed at the start, and everything at or below an entry created up to `fsi`, is watched (and nothing else);
    `cr` lists the CREATE records seen so far: exactly the new entries of the tree dealt with, each once -/
structure GrowSt (fs0 F : FS) (k : Kern) (fsi : FS) (kX : Kern) (libX : Lib) (cr : List (P × Bool)) : Prop where
  inv : InvOn (fun e => e ∈ fs0.ents ∨ Done fs0 fsi e) none F kX libX
  sub : ∀ w ∈ k.watches, w ∈ kX.watches
  wcov : ∀ w ∈ kX.watches, ∃ e ∈ F.ents, e.ino = w.2 ∧ (e ∈ fs0.ents ∨ Done fs0 fsi e)
  e1 : ∀ x ∈ cr, ∃ e ∈ F.ents, e ∉ fs0.ents ∧ isUnder ["W"] e.path = true ∧ x = (e.path, e.isDir) ∧ Done fs0 fsi e
  e2 : ∀ e ∈ F.ents, e ∉ fs0.ents → isUnder ["W"] e.path = true → Done fs0 fsi e → (e.path, e.isDir) ∈ cr
  e3 : (cr.map (·.1)).Nodup

variable {fs0 F fsi : FS} {lib0 : Lib} {kX : Kern} {libX : Lib} {cr : List (P × Bool)}

theorem GrowSt.wcov_mono {fsj : FS} (st : GrowSt fs0 F k fsi kX libX cr) (hsub : ∀ e ∈ fsi.ents, e ∈ fsj.ents) :
    (∀ w ∈ kX.watches, ∃ e ∈ F.ents, e.ino = w.2 ∧ (e ∈ fs0.ents ∨ Done fs0 fsj e)) ∧
    (∀ x ∈ cr, ∃ e ∈ F.ents, e ∉ fs0.ents ∧ isUnder ["W"] e.path = true ∧ x = (e.path, e.isDir) ∧ Done fs0 fsj e) := by
  constructor
  · intro w hw
    obtain ⟨e, he, hi, hc⟩ := st.wcov w hw
    exact ⟨e, he, hi, hc.elim Or.inl (fun h => Or.inr (h.mono hsub))⟩
  · intro x hx
    obtain ⟨e, he, h0, hW, hxe, hd⟩ := st.e1 x hx
    exact ⟨e, he, h0, hW, hxe, hd.mono hsub⟩

theorem GrowSt.quiet {fsj : FS} (st : GrowSt fs0 F k fsi kX libX cr) (hsub : ∀ e ∈ fsi.ents, e ∈ fsj.ents)
    (hsh : ∀ e : Ent, (e.path = ["W"] ∨ isUnder ["W"] e.path = true) → Done fs0 fsj e → Done fs0 fsi e) :
    GrowSt fs0 F k fsj kX libX cr where
  inv := st.inv.mono (fun e _ hd hc => hc.elim Or.inl (fun hc => Or.inr (hsh e (inTreeDir_iff.mp hd).2 hc)))
  sub := st.sub
  wcov := (st.wcov_mono hsub).1
  e1 := (st.wcov_mono hsub).2
  e2 := fun e he h0 hW hd => st.e2 e he h0 hW (hsh e (Or.inr hW) hd)
  e3 := st.e3

theorem GrowSt.extend (ctx : GrowCtx fs0 F k lib0) (st : GrowSt fs0 F k fsi kX libX cr) {p : P} {b : Bool}
    (hEF : (⟨p, b, fsi.nextIno⟩ : Ent) ∈ F.ents) (hE0 : (⟨p, b, fsi.nextIno⟩ : Ent) ∉ fs0.ents) (hWp : isUnder ["W"] p = true)
    (hnotdone : ∀ x : Ent, (x.path = p ∨ isUnder p x.path = true) → ¬ (x ∈ fs0.ents ∨ Done fs0 fsi x))
    {kY : Kern} {libY : Lib}
    (hinv : InvOn (fun y => (y ∈ fs0.ents ∨ Done fs0 fsi y) ∨ y = ⟨p, b, fsi.nextIno⟩ ∨ (y ∈ F.descendants p ∧ y.isDir = true))
      none F kY libY)
    (hsub : ∀ w ∈ kX.watches, w ∈ kY.watches)
    (hnew : ∀ w ∈ kY.watches, w ∈ kX.watches ∨ w.2 = fsi.nextIno ∨ ∃ x ∈ F.descendants p, x.isDir = true ∧ w.2 = x.ino) :
    GrowSt fs0 F k (fsi.add p b) kY libY (cr ++ (p, b) :: (F.descendants p).map (fun e => (e.path, e.isDir))) := by
  have hsubi : ∀ e ∈ fsi.ents, e ∈ (fsi.add p b).ents := fun e he => FS.mem_add.mpr (Or.inl he)
  have hdoneE : ∀ x : Ent, (x.path = p ∨ isUnder p x.path = true) → Done fs0 (fsi.add p b) x :=
    fun x hx => ⟨_, FS.mem_add.mpr (Or.inr rfl), hE0, hx⟩
  have hdescF : ∀ x ∈ F.descendants p, x ∈ F.ents ∧ isUnder p x.path = true := fun x hx => List.mem_filter.mp hx
  have hcr_p : ∀ x ∈ cr, (x.1 = p ∨ isUnder p x.1 = true) → False := by
    intro x hx hxp
    obtain ⟨e, _, _, _, hxe, hd⟩ := st.e1 x hx
    rw [hxe] at hxp
    exact hnotdone e hxp (Or.inr hd)
  refine ⟨hinv.mono ?_, fun w hw => hsub w (st.sub w hw), ?_, ?_, ?_, ?_⟩
  · intro e he hd hc
    rcases hc with hc | hc
    · exact Or.inl (Or.inl hc)
    · rcases done_add ctx.wfF hEF he hc with h | h | h
      · exact Or.inl (Or.inr h)
      · exact Or.inr (Or.inl h)
      · exact Or.inr (Or.inr ⟨List.mem_filter.mpr ⟨he, h⟩, (inTreeDir_iff.mp hd).1⟩)
  · intro w hw
    rcases hnew w hw with h | h | ⟨x, hx, _, hxi⟩
    · exact (st.wcov_mono hsubi).1 w h
    · exact ⟨_, hEF, h.symm, Or.inr (hdoneE _ (Or.inl rfl))⟩
    · exact ⟨x, (hdescF x hx).1, hxi.symm, Or.inr (hdoneE x (Or.inr (hdescF x hx).2))⟩
  · intro x hx
    rcases List.mem_append.mp hx with hx | hx
    · exact (st.wcov_mono hsubi).2 x hx
    · rcases List.mem_cons.mp hx with rfl | hx
      · exact ⟨_, hEF, hE0, hWp, rfl, hdoneE _ (Or.inl rfl)⟩
      · obtain ⟨e, he, rfl⟩ := List.mem_map.mp hx
        obtain ⟨heF, heu⟩ := hdescF e he
        exact ⟨e, heF, fun h => hnotdone e (Or.inr heu) (Or.inl h), isUnder_trans hWp heu, rfl, hdoneE e (Or.inr heu)⟩
  · intro e he h0' hW hd
    rcases done_add ctx.wfF hEF he hd with h | h | h
    · exact List.mem_append.mpr (Or.inl (st.e2 e he h0' hW h))
    · subst h; exact List.mem_append.mpr (Or.inr (List.mem_cons_self ..))
    · exact List.mem_append.mpr (Or.inr (List.mem_cons_of_mem _ (List.mem_map.mpr ⟨e, List.mem_filter.mpr ⟨he, h⟩, rfl⟩)))
  · simp only [List.map_append, List.map_cons, List.map_map]
    refine List.nodup_append.mpr ⟨st.e3, List.nodup_cons.mpr ⟨?_, ?_⟩, ?_⟩
    · intro hm
      obtain ⟨x, hx, hxp⟩ := List.mem_map.mp hm
      have := (hdescF x hx).2
      simp only [Function.comp] at hxp
      rw [hxp, isUnder_irrefl] at this; cases this
    · exact List.Nodup.sublist (List.Sublist.map _ List.filter_sublist) ctx.wfF.paths
    · intro a ha c hc hac
      subst hac
      obtain ⟨x, hx, rfl⟩ := List.mem_map.mp ha
      rcases List.mem_cons.mp hc with h | h
      · exact hcr_p x hx (Or.inl h)
      · obtain ⟨y, hy, hyp⟩ := List.mem_map.mp h
        simp only [Function.comp] at hyp
        exact hcr_p x hx (Or.inr (hyp ▸ (hdescF y hy).2))

theorem grow_step (ctx : GrowCtx fs0 F k lib0) (wfi : fsi.WF) (sub0 : ∀ e ∈ fs0.ents, e ∈ fsi.ents)
    {op : Op} (hvalid : validOp fsi op = true) (hkind : growKind op = true)
    (subF : ∀ e ∈ (fsAfter fsi op).ents, e ∈ F.ents)
    (hcl : ∃ news, F.ents = (fsAfter fsi op).ents ++ news ∧ Closed (fun q => (fsAfter fsi op).isDir q = true) news)
    (st : GrowSt fs0 F k fsi kX libX cr) :
    ∃ recs kY libY levs, kernelOp fsi k op = (fsAfter fsi op, k, recs) ∧ libBatch F kX libX recs = some (kY, libY, levs) ∧
      GrowSt fs0 F k (fsAfter fsi op) kY libY (cr ++ creates levs) ∧
      (∀ l ∈ levs, fillFlag l.flag = true) := by
  obtain ⟨p, b, hop, hp, hne, hpar, hfs⟩ := grow_op hvalid hkind
  rw [hfs] at subF hcl ⊢
  have hnn := ne_nil_of_two_le hp
  have hpb := snoc_parent_base hnn
  have hsubi : ∀ e ∈ fsi.ents, e ∈ (fsi.add p b).ents := fun e he => FS.mem_add.mpr (Or.inl he)
  have hEF : (⟨p, b, fsi.nextIno⟩ : Ent) ∈ F.ents := subF _ (FS.mem_add.mpr (Or.inr rfl))
  have hex := exists_false_iff.mp hne
  have hnd := wfi.no_descendants_of_missing hnn hne
  have hE0 : (⟨p, b, fsi.nextIno⟩ : Ent) ∉ fs0.ents := fun h => hex _ (sub0 _ h) rfl
  obtain ⟨par, hparf, hpd⟩ := FS.isDir_iff.mp hpar
  obtain ⟨hpari, hpp⟩ := FS.find?_some hparf
  have hparF : par ∈ F.ents := subF _ (hsubi _ hpari)
  have hpino : (fsi.find? (parentOf p)).map (·.ino) = some par.ino := by rw [hparf]; rfl
  by_cases hA : par ∉ fs0.ents ∨ inTreeDir par = false
  · -- nobody watches the parent: nothing is queued
    have hun : k.wdOfIno par.ino = none := by
      by_cases h0 : par ∈ fs0.ents
      · exact ctx.inv0.unwatched h0 (hA.resolve_left (fun h => h h0))
      · rw [wdOfIno_none]
        intro w hw hi
        have h1 := ctx.inv0.watch_ino_lt hw
        have h2 := ctx.newIno par hparF h0
        omega
    refine ⟨[], kX, libX, [], ?_, rfl, ?_, by simp⟩
    · rcases hop with ⟨rfl, rfl⟩ | ⟨rfl, rfl⟩ <;> simp [kernelOp, hpino, onEntry_none hun, FS.add]
    · simp only [creates, List.filterMap_nil, List.append_nil]
      exact st.quiet hsubi (fun e he hd => done_shrink hp hpari hpp hpd hA b he hd)
  · -- the parent existed when the burst began and is a directory of the tree: it is watched
    have h0 : par ∈ fs0.ents := Classical.not_not.mp (fun h => hA (Or.inl h))
    have ht : inTreeDir par = true := by
      cases h : inTreeDir par with
      | true => rfl
      | false => exact absurd (Or.inr h) hA
    obtain ⟨wd, hk1, hkw, _, _⟩ := ctx.inv0.watched h0 ht trivial
    have hlw : lookupW libX.pathForWd wd = some (parentOf p) := by
      obtain ⟨e', he', hi, _, hl, _⟩ := st.inv.good _ (st.sub _ hkw)
      have : e' = par := ctx.wfF.ino_inj he' hparF hi
      subst this
      rw [← hpp]; exact hl
    have hWp : isUnder ["W"] p = true := isUnder_of_parent hnn (hpp ▸ (inTreeDir_iff.mp ht).2)
    have hnotdone : ∀ x : Ent, (x.path = p ∨ isUnder p x.path = true) → ¬ (x ∈ fs0.ents ∨ Done fs0 fsi x) :=
      fun x hx => not_done_new ctx.inv0.wf wfi sub0 hp hne h0 hpp hx
    rcases hop with ⟨rfl, rfl⟩ | ⟨rfl, rfl⟩
    · -- mkdir: the CREATE record, and the walk through what lies inside by now
      have hunw : ∀ x ∈ F.ents, (x.path = p ∨ isUnder p x.path = true) → kX.wdOfIno x.ino = none := by
        intro x hxF hx
        rw [wdOfIno_none]
        intro w hw hi
        obtain ⟨e, he, hei, hc⟩ := st.wcov w hw
        have : e = x := ctx.wfF.ino_inj he hxF (hei.trans hi)
        subst this
        exact hnotdone e hx hc
      have hdescF : ∀ x ∈ F.descendants p, x ∈ F.ents ∧ isUnder p x.path = true := fun x hx => List.mem_filter.mp hx
      have hclosed : Closed (fun q => q = p) (F.descendants p) := by
        obtain ⟨news, hn1, hn2⟩ := hcl
        refine closed_descendants hn1 hn2 (fun e he => ?_)
        rcases FS.mem_add.mp he with he | rfl
        · exact hnd e he
        · exact isUnder_irrefl p
      obtain ⟨k', lib', sim, h1, h2, h3, h4, h5, h6⟩ :=
        libRecord_newdir (d := ⟨p, true, fsi.nextIno⟩) st.inv hlw (by rw [hpb]; exact ctx.wfF.find_mem hEF)
          (inTreeDir_iff.mpr ⟨rfl, Or.inr hWp⟩) (hunw _ hEF (Or.inl rfl))
          (fun x hx _ => hunw x (hdescF x hx).1 (Or.inr (hdescF x hx).2)) hclosed
      refine ⟨[⟨wd, .create, true, 0, some (baseName p)⟩], k', lib', ⟨wd, .create, true, 0, some (baseName p), p⟩ :: sim, ?_, ?_, ?_, ?_⟩
      · simp [kernelOp, hpino, onEntry_some hk1, FS.add]
      · rw [libBatch_cons, h1]; simp [libBatch_nil]
      · have hcre : creates (⟨wd, .create, true, 0, some (baseName p), p⟩ :: sim) =
            (p, true) :: (F.descendants p).map (fun e => (e.path, e.isDir)) := by
          rw [← h5]; simp [creates]
        rw [hcre]
        exact st.extend ctx hEF hE0 hWp hnotdone h2 h3 h4
      · intro l hl
        rcases List.mem_cons.mp hl with rfl | hl
        · rfl
        · rw [h6 l hl]; rfl
    · -- a file: three records that leave the maps alone; nothing lies below it
      have hdesc : F.descendants p = [] := by
        unfold FS.descendants
        rw [List.filter_eq_nil_iff]
        intro e he hu
        obtain ⟨d, hd, hdd⟩ := FS.isDir_iff.mp (ctx.wfF.ancestor_dir _ e he rfl p hnn hu)
        rw [ctx.wfF.find_mem hEF] at hd
        cases hd; cases hdd
      refine ⟨[⟨wd, .create, false, 0, some (baseName p)⟩, ⟨wd, .open, false, 0, some (baseName p)⟩, ⟨wd, .closeWrite, false, 0, some (baseName p)⟩],
        kX, libX, [⟨wd, .create, false, 0, some (baseName p), p⟩, ⟨wd, .open, false, 0, some (baseName p), p⟩, ⟨wd, .closeWrite, false, 0, some (baseName p), p⟩], ?_, ?_, ?_, ?_⟩
      · simp [kernelOp, hpino, onEntry_some hk1, FS.add]
      · rw [libBatch_simple F kX libX _ (fun _ => parentOf p) (by
            intro r hr
            simp only [List.mem_cons, List.not_mem_nil, or_false] at hr
            rcases hr with rfl | rfl | rfl <;> exact ⟨by simp [simpleFlag], hlw⟩)]
        simp [NRec.toLEv, NRec.src, hpb]
      · have := st.extend (kY := kX) (libY := libX) ctx hEF hE0 hWp hnotdone (st.inv.mono ?_) (fun _ h => h) (fun _ h => Or.inl h)
        · simpa [creates, hdesc] using this
        · intro e _ hd hc
          rcases hc with hc | rfl | hc
          · exact hc
          · simp [inTreeDir] at hd
          · rw [hdesc] at hc; cases hc.1
      · intro l hl
        simp only [List.mem_cons, List.not_mem_nil, or_false] at hl
        rcases hl with rfl | rfl | rfl <;> rfl

theorem touch_step (ctx : GrowCtx fs0 F k lib0) (wfi : fsi.WF) (subF : ∀ e ∈ fsi.ents, e ∈ F.ents)
    {op : Op} (hvalid : validOp fsi op = true) (hkind : touchKind op = true) (st : GrowSt fs0 F k fsi kX libX cr) :
    ∃ recs levs, kernelOp fsi k op = (fsi, k, recs) ∧ libBatch F kX libX recs = some (kX, libX, levs) ∧
      creates levs = [] ∧ (∀ l ∈ levs, fillFlag l.flag = true) := by
  have known : ∀ {q : P} {x : Ent} {wd : Nat}, fsi.find? q = some x → k.wdOfIno x.ino = some wd →
      lookupW libX.pathForWd wd = some q := by
    intro q x wd hx hw
    obtain ⟨hxm, hxp⟩ := FS.find?_some hx
    obtain ⟨e', he', hi, _, hl, _⟩ := st.inv.good _ (st.sub _ (wdOfIno_some hw))
    have : e' = x := ctx.wfF.ino_inj he' (subF x hxm) hi
    subst this; rw [← hxp]; exact hl
  have onParent : ∀ {q : P} {f : Flag} {d : Bool} {r : NRec},
      r ∈ k.onEntry ((fsi.find? (parentOf q)).map (·.ino)) f d 0 (baseName q) →
      r.flag = f ∧ r.name = some (baseName q) ∧ lookupW libX.pathForWd r.wd = some (parentOf q) := by
    intro q f d r hr
    obtain ⟨ino, wd, hi, hw, rfl⟩ := mem_onEntry hr
    cases hpar : fsi.find? (parentOf q) with
    | none => rw [hpar] at hi; cases hi
    | some par =>
      rw [hpar] at hi; cases hi
      exact ⟨rfl, rfl, known hpar hw⟩
  have batch : ∀ (recs : List NRec) (path : NRec → P),
      (∀ r ∈ recs, (r.flag = .open ∨ r.flag = .modify ∨ r.flag = .closeWrite ∨ r.flag = .attrib) ∧
        lookupW libX.pathForWd r.wd = some (path r)) →
      ∃ levs, libBatch F kX libX recs = some (kX, libX, levs) ∧ creates levs = [] ∧ ∀ l ∈ levs, fillFlag l.flag = true := by
    intro recs path h
    have hfl : ∀ r ∈ recs, r.flag ≠ .create ∧ fillFlag r.flag = true ∧ simpleFlag true r.flag r.isDir = true := by
      intro r hr; rcases (h r hr).1 with h | h | h | h <;> simp [h, fillFlag, simpleFlag]
    refine ⟨_, libBatch_simple F kX libX recs path (fun r hr => ⟨by rw [st.inv.isRec]; exact (hfl r hr).2.2, (h r hr).2⟩), ?_, ?_⟩
    · simp only [creates, List.filterMap_eq_nil_iff, List.mem_map]
      rintro l ⟨r, hr, rfl⟩
      simp [NRec.toLEv, (hfl r hr).1]
    · intro l hl
      obtain ⟨r, hr, rfl⟩ := List.mem_map.mp hl
      exact (hfl r hr).2.1
  cases op with
  | write p =>
    obtain ⟨levs, h1, h2, h3⟩ := batch (k.onEntry ((fsi.find? (parentOf p)).map (·.ino)) .open false 0 (baseName p) ++
        k.onEntry ((fsi.find? (parentOf p)).map (·.ino)) .modify false 0 (baseName p) ++
        k.onEntry ((fsi.find? (parentOf p)).map (·.ino)) .closeWrite false 0 (baseName p)) (fun _ => parentOf p) (by
      intro r hr
      simp only [List.mem_append] at hr
      rcases hr with (hr | hr) | hr <;> obtain ⟨hf, _, hl⟩ := onParent hr <;> exact ⟨by simp [hf], hl⟩)
    exact ⟨_, levs, rfl, h1, h2, h3⟩
  | chmod p =>
    obtain ⟨_, e, he⟩ := validOp_chmod hvalid
    obtain ⟨levs, h1, h2, h3⟩ := batch ((if e.isDir then k.onSelf e.ino .attrib true else []) ++
        k.onEntry ((fsi.find? (parentOf p)).map (·.ino)) .attrib e.isDir 0 (baseName p))
      (fun r => match r.name with | none => p | some _ => parentOf p) (by
      intro r hr
      rcases List.mem_append.mp hr with hr | hr
      · cases hd : e.isDir with
        | false => simp [hd] at hr
        | true =>
          rw [hd] at hr
          obtain ⟨wd, hw, rfl⟩ := mem_onSelf hr
          exact ⟨by simp, known he hw⟩
      · obtain ⟨hf, hn, hl⟩ := onParent hr
        exact ⟨by simp [hf], by rw [hn]; exact hl⟩)
    exact ⟨_, levs, by simp only [kernelOp, he], h1, h2, h3⟩
  | _ => simp [touchKind] at hkind

theorem fill_step (ctx : GrowCtx fs0 F k lib0) (wfi : fsi.WF) (sub0 : ∀ e ∈ fs0.ents, e ∈ fsi.ents)
    {op : Op} (hvalid : validOp fsi op = true) (hkind : fillKind op = true)
    (subF : ∀ e ∈ (fsAfter fsi op).ents, e ∈ F.ents)
    (hcl : ∃ news, F.ents = (fsAfter fsi op).ents ++ news ∧ Closed (fun q => (fsAfter fsi op).isDir q = true) news)
    (st : GrowSt fs0 F k fsi kX libX cr) :
    ∃ recs kY libY levs, kernelOp fsi k op = (fsAfter fsi op, k, recs) ∧ libBatch F kX libX recs = some (kY, libY, levs) ∧
      GrowSt fs0 F k (fsAfter fsi op) kY libY (cr ++ creates levs) ∧
      (∀ l ∈ levs, fillFlag l.flag = true) := by
  rcases fill_cases hkind with hg | ht
  · exact grow_step ctx wfi sub0 hvalid hg subF hcl st
  ·
    rw [touch_fs ht] at subF ⊢
    obtain ⟨recs, levs, hk1, hb1, hc1, hf1⟩ := touch_step ctx wfi subF hvalid ht st
    exact ⟨recs, kX, libX, levs, hk1, hb1, by rw [hc1, List.append_nil]; exact st, hf1⟩

theorem grow_batch (ctx : GrowCtx fs0 F k lib0) : ∀ (ops : List Op) (fsi : FS) (kX : Kern) (libX : Lib) (cr : List (P × Bool)),
    fsi.WF → (∀ e ∈ fs0.ents, e ∈ fsi.ents) → allFill fsi ops = true → fsRun fsi ops = F →
    GrowSt fs0 F k fsi kX libX cr →
    ∃ recs kY libY levs, kernelOps fsi k ops = (F, k, recs) ∧ libBatch F kX libX recs = some (kY, libY, levs) ∧
      GrowSt fs0 F k F kY libY (cr ++ creates levs) ∧
      (∀ l ∈ levs, fillFlag l.flag = true) := by
  intro ops
  induction ops with
  | nil =>
    intro fsi kX libX cr _ _ _ hF st
    simp only [fsRun] at hF; subst hF
    exact ⟨[], kX, libX, [], rfl, rfl, by simpa [creates] using st, by simp⟩
  | cons op rest ih =>
    intro fsi kX libX cr wfi sub0 hv hF st
    simp only [allFill, Bool.and_eq_true] at hv
    obtain ⟨⟨hvalid, hkind⟩, hrest⟩ := hv
    simp only [fsRun] at hF
    obtain ⟨wf1, s1, _, _⟩ := fill_facts [op] fsi wfi (by simp [allFill, hvalid, hkind])
    obtain ⟨_, g2, _, g4⟩ := fill_facts rest (fsAfter fsi op) wf1 hrest
    rw [hF] at g2 g4
    obtain ⟨r1, k1, l1, v1, hk1, hb1, st1, hf1⟩ := fill_step ctx wfi sub0 hvalid hkind g2 g4 st
    obtain ⟨r2, k2, l2, v2, hk2, hb2, st2, hf2⟩ :=
      ih (fsAfter fsi op) k1 l1 (cr ++ creates v1) wf1 (fun e he => s1 e (sub0 e he)) hrest hF st1
    refine ⟨r1 ++ r2, k2, l2, v1 ++ v2, kernelOps_cons hk1 hk2, ?_, ?_, ?_⟩
    · rw [libBatch_append _ _ _ _ _ hb1, hb2]
    · rw [creates_append, ← List.append_assoc]; exact st2
    · intro l hl
      exact (List.mem_append.mp hl).elim (hf1 l) (hf2 l)

theorem emit_grow (fsX : FS) (full : Bool) (l : LEv) (h : fillFlag l.flag = true) (t : Tree) :
    (emit fsX true full (.one l)).2 = false ∧
    replay t (emit fsX true full (.one l)).1 = (if l.flag = .create then setEntry t l.src l.isDir else t) ∧
    createdOf (emit fsX true full (.one l)).1 = (if l.flag = .create then [(l.src, l.isDir)] else []) := by
  obtain ⟨wd, flag, isDir, cookie, name, src⟩ := l
  simp only at h ⊢
  cases flag <;> simp [fillFlag] at h <;> cases isDir <;>
    simp [emit, replay, applyEv, mkEv, createdOf, EvClass.eventType, EvClass.isDirectory]

theorem emit_grow_all (fsX : FS) (full : Bool) : ∀ (levs : List LEv) (t : Tree),
    (∀ l ∈ levs, fillFlag l.flag = true) →
    ((creates levs).map (·.1)).Nodup → (∀ x ∈ creates levs, ∀ y ∈ t, y.1 ≠ x.1) →
    (∀ y, y ∈ replay t (levs.flatMap (fun l => (emit fsX true full (.one l)).1)) ↔ y ∈ t ∨ y ∈ creates levs) ∧
    createdOf (levs.flatMap (fun l => (emit fsX true full (.one l)).1)) = creates levs := by
  intro levs
  induction levs with
  | nil => intro t _ _ _; simp [replay, creates, createdOf]
  | cons l rest ih =>
    intro t hf hnd hdis
    obtain ⟨_, h2, h3⟩ := emit_grow fsX full l (hf l (List.mem_cons_self ..)) t
    have hf' : ∀ x ∈ rest, fillFlag x.flag = true :=
      fun x hx => hf x (List.mem_cons_of_mem _ hx)
    have hco : createdOf (List.flatMap (fun l => (emit fsX true full (.one l)).1) (l :: rest)) =
        createdOf (emit fsX true full (.one l)).1 ++ createdOf (rest.flatMap (fun l => (emit fsX true full (.one l)).1)) := by
      simp [createdOf, List.filterMap_append]
    simp only [List.flatMap_cons, replay_append, h2]
    by_cases hc : l.flag = .create
    · have hcr : creates (l :: rest) = (l.src, l.isDir) :: creates rest := by simp [creates, hc]
      rw [hcr] at hnd hdis ⊢
      simp only [List.map_cons, List.nodup_cons] at hnd
      have hdis' : ∀ x ∈ creates rest, ∀ y ∈ setEntry t l.src l.isDir, y.1 ≠ x.1 := by
        intro x hx y hy
        rcases mem_setEntry.mp hy with ⟨hy1, _⟩ | rfl
        · exact hdis x (List.mem_cons_of_mem _ hx) y hy1
        · intro h; exact hnd.1 (List.mem_map.mpr ⟨x, hx, h.symm⟩)
      obtain ⟨i1, i2⟩ := ih (setEntry t l.src l.isDir) hf' hnd.2 hdis'
      simp only [hc, if_true]
      refine ⟨?_, ?_⟩
      · intro y
        rw [i1 y, mem_setEntry]
        constructor
        · rintro ((⟨h, _⟩ | h) | h)
          · exact Or.inl h
          · exact Or.inr (h ▸ List.mem_cons_self ..)
          · exact Or.inr (List.mem_cons_of_mem _ h)
        · rintro (h | h)
          · exact Or.inl (Or.inl ⟨h, hdis _ (List.mem_cons_self ..) y h⟩)
          · rcases List.mem_cons.mp h with h | h
            · exact Or.inl (Or.inr h)
            · exact Or.inr h
      · have := hco; simp only [List.flatMap_cons] at this
        rw [this, h3, i2]; simp [hc]
    · have hcr : creates (l :: rest) = creates rest := by simp [creates, hc]
      rw [hcr] at hnd hdis ⊢
      obtain ⟨i1, i2⟩ := ih t hf' hnd hdis
      simp only [hc, if_false]
      refine ⟨i1, ?_⟩
      have := hco; simp only [List.flatMap_cons] at this
      rw [this, h3, i2]; simp [hc]

/-- **back-to-back regime, growth**: a burst of `mkdir`s, file creations, writes and attribute changes at any depth
    (directories created inside directories the burst itself created, populated before the reader wakes up), read as ONE
    batch after its last operation, under a recursive watch.  The reader does not crash, the emitter keeps running, every directory that
    exists afterwards is watched under its name (the invariant holds again), the stream holds exactly one created event
    per new entry of the tree, with the right kind, and replaying it on the tree before the burst gives the tree after -/
theorem burst_grow (s : Sys) (ops : List Op) (inv : InvRec s.fs s.k s.lib) (hs : s.stopped = false)
    (hc : s.crashed = false) (hv : allFill s.fs ops = true) :
    (s.burst ops).1.fs = fsRun s.fs ops ∧ (s.burst ops).1.stopped = false ∧ (s.burst ops).1.crashed = false ∧
    InvRec (s.burst ops).1.fs (s.burst ops).1.k (s.burst ops).1.lib ∧
    sameTree (replay (treeW s.fs) (s.burst ops).2) (treeW (fsRun s.fs ops)) ∧
    ((createdOf (s.burst ops).2).map (·.1)).Nodup ∧
    (∀ x, x ∈ createdOf (s.burst ops).2 ↔
      ∃ e ∈ (fsRun s.fs ops).ents, e ∉ s.fs.ents ∧ isUnder ["W"] e.path = true ∧ x = (e.path, e.isDir)) := by
  obtain ⟨g1, g2, g3, _⟩ := fill_facts ops s.fs inv.wf hv
  have ctx : GrowCtx s.fs (fsRun s.fs ops) s.k s.lib := ⟨inv, g1, g2, g3⟩
  have st0 : GrowSt s.fs (fsRun s.fs ops) s.k s.fs s.k s.lib [] := by
    refine ⟨(inv.fs_grow g1 g2).mono ?_, fun _ h => h, ?_, by simp, ?_, by simp⟩
    · intro e _ _ hc'
      rcases hc' with h | ⟨d, hd, hd0, _⟩
      · exact ⟨trivial, h⟩
      · exact absurd hd hd0
    · intro w hw
      obtain ⟨e, he, hi, _⟩ := inv.good w hw
      exact ⟨e, g2 e he, hi, Or.inl he⟩
    · rintro e _ _ _ ⟨d, hd, hd0, _⟩; exact absurd hd hd0
  obtain ⟨recs, kY, libY, levs, hk, hb, st, hf⟩ := grow_batch ctx ops s.fs s.k s.lib [] inv.wf (fun _ h => h) hv rfl st0
  simp only [List.nil_append] at st
  have hflags : ∀ e ∈ levs, e.flag ≠ .movedTo ∧ e.flag ≠ .ignored ∧ e.flag ≠ .movedFrom := by
    intro e he; have := hf e he; cases hfl : e.flag <;> simp [fillFlag, hfl] at this ⊢
  have hmo := movedOut_gsOf_nil levs (fun e he => ⟨(hflags e he).1, (hflags e he).2.2⟩)
  have hem : emitAll (fsRun s.fs ops) true s.full (gsOf levs) =
      (levs.flatMap (fun l => (emit (fsRun s.fs ops) true s.full (.one l)).1), false) := by
    rw [emitAll_gsOf_noTo _ _ _ levs (fun e he => (hflags e he).1) (fun l hl _ => (emit_grow _ _ l (hf l hl) []).1),
      List.filter_eq_self.mpr (fun e he => by simp [(hflags e he).2.1])]
  have hburst := Sys.burst_eq s ops hs hc hk hb st.inv.isRec rfl hem hmo
  have hdis : ∀ x ∈ creates levs, ∀ y ∈ treeW s.fs, y.1 ≠ x.1 := by
    intro x hx y hy hxy
    obtain ⟨e, he, h0, _, hxe, _⟩ := st.e1 x hx
    obtain ⟨e', he', hp', _, _⟩ := mem_treeW.mp hy
    have : e' = e := g1.path_inj (g2 e' he') he (by rw [hp', hxy, hxe])
    subst this; exact h0 he'
  obtain ⟨r1, r2⟩ := emit_grow_all (fsRun s.fs ops) s.full levs (treeW s.fs) hf st.e3 hdis
  have hchar : ∀ x, x ∈ creates levs ↔
      ∃ e ∈ (fsRun s.fs ops).ents, e ∉ s.fs.ents ∧ isUnder ["W"] e.path = true ∧ x = (e.path, e.isDir) := by
    intro x
    constructor
    · intro hx
      obtain ⟨e, he, h0, hW, hxe, _⟩ := st.e1 x hx
      exact ⟨e, he, h0, hW, hxe⟩
    · rintro ⟨e, he, h0, hW, rfl⟩
      exact st.e2 e he h0 hW ⟨e, he, h0, Or.inl rfl⟩
  rw [hburst]
  refine ⟨rfl, hs, hc, ?_, ?_, by rw [r2]; exact st.e3, by intro x; rw [r2]; exact hchar x⟩
  · refine st.inv.mono ?_
    intro e he _ _
    by_cases h0 : e ∈ s.fs.ents
    · exact Or.inl h0
    · exact Or.inr ⟨e, he, h0, Or.inl rfl⟩
  · intro y
    simp only
    rw [r1 y, hchar, mem_treeW, mem_treeW]
    constructor
    · rintro (⟨e, he, h1, h2, h3⟩ | ⟨e, he, _, hW, rfl⟩)
      · exact ⟨e, g2 e he, h1, h2, h3⟩
      · exact ⟨e, he, rfl, rfl, hW⟩
    · rintro ⟨e, he, h1, h2, h3⟩
      by_cases h0 : e ∈ s.fs.ents
      · exact Or.inl ⟨e, h0, h1, h2, h3⟩
      · exact Or.inr ⟨e, he, h0, h1 ▸ h3, Prod.ext h1.symm h2.symm⟩

/-- the executable twin decides the hypothesis -/
theorem allFill_of_check (s : Sys) (ops : List Op) (h : allFillB s ops = true) : allFill s.fs ops = true := by
  have gen : ∀ (ops : List Op) (fs : FS) (b : Bool),
      (ops.foldl (fun (acc : FS × Bool) op => ((kernelOp acc.1 s.k op).1, acc.2 && validOp acc.1 op && fillKind op)) (fs, b)).2 = true →
      b = true ∧ allFill fs ops = true := by
    intro ops
    induction ops with
    | nil => intro fs b h; exact ⟨h, rfl⟩
    | cons op rest ih =>
      intro fs b h
      simp only [List.foldl_cons] at h
      obtain ⟨h1, h2⟩ := ih _ _ h
      simp only [Bool.and_eq_true] at h1
      refine ⟨h1.1.1, ?_⟩
      simp only [allFill, h1.1.2, h1.2, Bool.true_and]
      rw [fsAfter, kernelOp_fs fs ⟨[], 1, 1⟩ s.k]; exact h2
  exact (gen ops s.fs true h).2

end WD.Pipe
