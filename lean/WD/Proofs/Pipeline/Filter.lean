/- the pipeline under a kernel mask `m` and a class filter `acc`, stage by stage: the masked reader simulates the unmasked
   one, grouping commutes with the restriction when both halves of a move are kept or dropped together, and the emitter
   loses nothing the filter accepts when the dropped items only yield rejected events.  Whatever relation between the two
   libraries the stages preserve then holds along whole histories (`runF_sim`).  For a recursive watch, whose mask keeps the
   library's own bookkeeping records, the relation is equality: the filtered run goes through the same states as the
   unfiltered one. -/
import WD.Model.PipelineFilter
import WD.Proofs.Pipeline.Theorems
namespace WD.Pipe

/-- the mask keeps what the library's own directory bookkeeping needs (and the root's DELETE_SELF) -/
structure Book (m : Flag → Bool) : Prop where
  create : m .create = true
  movedFrom : m .movedFrom = true
  movedTo : m .movedTo = true
  deleteSelf : m .deleteSelf = true

/-- a record kind outside the mask only ever yields events the filter rejects, and never stops the emitter -/
def Complete (m : Flag → Bool) (acc : EvClass → Bool) : Prop :=
  ∀ (fs : FS) (recursive full : Bool) (e : LEv), m e.flag = false → e.flag ≠ .ignored →
    (∀ ev ∈ (emit fs recursive full (.one e)).1, acc ev.cls = false) ∧ (emit fs recursive full (.one e)).2 = false

def keepL (m : Flag → Bool) (e : LEv) : Bool := e.flag == .ignored || m e.flag
def keepG (m : Flag → Bool) : Grouped → Bool
  | .one e => keepL m e
  | .two _ _ => true

/-- a pair stands or falls with its MOVED_FROM half -/
def keepG' (m : Flag → Bool) : Grouped → Bool
  | .one e => keepL m e
  | .two f _ => keepL m f

theorem libRecord_wd {fs : FS} {k : Kern} {lib : Lib} {r : NRec} {x : Kern × Lib × List LEv}
    (h : libRecord fs k lib r = some x) : ∃ wp, lookupW lib.pathForWd r.wd = some wp := by
  cases hw : lookupW lib.pathForWd r.wd with
  | none => simp [libRecord, hw] at h
  | some wp => exact ⟨wp, rfl⟩

theorem libBatch_cons_some {fs : FS} {k : Kern} {lib : Lib} {r : NRec} {rest : List NRec} {k' : Kern} {lib' : Lib}
    {levs : List LEv} :
    libBatch fs k lib (r :: rest) = some (k', lib', levs) ↔
      ∃ k1 l1 evs more, libRecord fs k lib r = some (k1, l1, evs) ∧ libBatch fs k1 l1 rest = some (k', lib', more) ∧
        levs = evs ++ more := by
  rw [libBatch_cons]
  constructor
  · intro h
    split at h
    · cases h
    · next k1 l1 evs h1 =>
      split at h
      · cases h
      · next h2 => cases h; exact ⟨_, _, _, _, h1, h2, rfl⟩
  · rintro ⟨k1, l1, evs, more, h1, h2, rfl⟩
    simp only [h1, h2]

/-- the masked reader simulates the unmasked one: `R` relates the two libraries; a dropped record moves only the left one -/
theorem libBatch_maskSim {m : Flag → Bool} {fs : FS} (R : Lib → Lib → Prop) (P : NRec → Prop)
    (kept : ∀ {k a b r k1 a1 evs}, P r → (r.flag == .ignored || m r.flag) = true → R a b →
      libRecord fs k a r = some (k1, a1, evs) →
      ∃ b1, libRecord fs k b r = some (k1, b1, evs) ∧ R a1 b1 ∧ evs.filter (keepL m) = evs)
    (dropped : ∀ {k a b r k1 a1 evs}, P r → (r.flag == .ignored || m r.flag) = false → R a b →
      libRecord fs k a r = some (k1, a1, evs) → k1 = k ∧ R a1 b ∧ evs.filter (keepL m) = []) :
    ∀ (recs : List NRec) (k : Kern) (a b : Lib) (k' : Kern) (a' : Lib) (levs : List LEv), (∀ r ∈ recs, P r) → R a b →
      libBatch fs k a recs = some (k', a', levs) →
      ∃ b', libBatch fs k b (maskRecs m recs) = some (k', b', levs.filter (keepL m)) ∧ R a' b' := by
  intro recs
  induction recs with
  | nil => intro k a b k' a' levs _ hR h; cases h; exact ⟨b, rfl, hR⟩
  | cons r rest ih =>
    intro k a b k' a' levs hP hR h
    obtain ⟨k1, a1, evs, more, h1, h2, rfl⟩ := libBatch_cons_some.1 h
    have hPr := hP r (List.mem_cons_self ..)
    have hPrest : ∀ x ∈ rest, P x := fun x hx => hP x (List.mem_cons_of_mem _ hx)
    rw [maskRecs, List.filter_cons, List.filter_append]
    split
    · next hr =>
      obtain ⟨b1, hb1, hR1, he⟩ := kept hPr hr hR h1
      obtain ⟨b', hb', hR'⟩ := ih k1 a1 b1 k' a' more hPrest hR1 h2
      exact ⟨b', libBatch_cons_some.2 ⟨k1, b1, evs, _, hb1, hb', by rw [he]⟩, hR'⟩
    · next hr =>
      obtain ⟨rfl, hR1, he⟩ := dropped hPr (by simpa using hr) hR h1
      obtain ⟨b', hb', hR'⟩ := ih k1 a1 b k' a' more hPrest hR1 h2
      exact ⟨b', by rw [he]; exact hb', hR'⟩

theorem libRecord_dropped {m : Flag → Bool} (hb : Book m) {fs : FS} {k : Kern} {lib : Lib} {r : NRec}
    (hr : (r.flag == .ignored || m r.flag) = false) {k' : Kern} {lib' : Lib} {evs : List LEv}
    (h : libRecord fs k lib r = some (k', lib', evs)) :
    k' = k ∧ lib' = lib ∧ evs.filter (keepL m) = [] := by
  have hs : simpleFlag lib.recursive r.flag r.isDir = true := by
    cases hf : r.flag <;> first | rfl | simp [hf, hb.create, hb.movedFrom, hb.movedTo] at hr
  obtain ⟨wp, hw⟩ := libRecord_wd h
  rw [libRecord_simple fs k lib r wp hs hw] at h
  cases h
  exact ⟨rfl, rfl, by simp [keepL, NRec.toLEv, hr]⟩

theorem libRecord_flags {fs : FS} {k : Kern} {lib : Lib} {r : NRec} {k' : Kern} {lib' : Lib} {evs : List LEv}
    (h : libRecord fs k lib r = some (k', lib', evs)) : ∀ e ∈ evs, e.flag = r.flag ∨ e.flag = .create := by
  have single : ∀ (ev : LEv) (f : Flag), ev.flag = f → ∀ e ∈ [ev], e.flag = f ∨ e.flag = .create := by
    intro ev f hev e he; rw [List.mem_singleton.1 he]; exact .inl hev
  obtain ⟨wp, hw⟩ := libRecord_wd h
  by_cases hs : simpleFlag lib.recursive r.flag r.isDir = true
  · rw [libRecord_simple fs k lib r wp hs hw] at h
    cases h
    exact single _ _ rfl
  · have hkind : r.flag = .movedFrom ∨ r.flag = .movedTo ∨ r.flag = .ignored ∨
        (r.flag = .create ∧ (lib.recursive && r.isDir) = true) := by
      cases hf : r.flag <;> simp [simpleFlag, hf] at hs ⊢
      exact hs
    unfold libRecord at h
    rcases hkind with hf | hf | hf | ⟨hf, hrd⟩ <;> simp only [hw, hf] at h
    · cases h; exact single _ _ hf.symm
    · cases h; exact single _ _ hf.symm
    · cases h; exact single _ _ hf.symm
    · rw [if_pos hrd] at h
      split at h
      · cases h; exact single _ _ hf.symm
      · next k1 l1 wd0 _ =>
        cases h
        intro e he
        rcases List.mem_cons.1 he with rfl | he
        · exact .inl hf.symm
        · refine .inr (foldl_inv (P := fun acc : Kern × Lib × List LEv => ∀ x ∈ acc.2.2, x.flag = Flag.create) ?_ _ _
            (by simp) e he)
          intro acc y ha
          split <;> split <;> first | exact ha | skip
          all_goals
            intro x hx
            rcases List.mem_append.1 hx with hx | hx
            · exact ha x hx
            · rw [List.mem_singleton.1 hx]

theorem libRecord_kept {m : Flag → Bool} (hb : Book m) {fs : FS} {k : Kern} {lib : Lib} {r : NRec}
    (hr : (r.flag == .ignored || m r.flag) = true) {k' : Kern} {lib' : Lib} {evs : List LEv}
    (h : libRecord fs k lib r = some (k', lib', evs)) : evs.filter (keepL m) = evs := by
  rw [List.filter_eq_self]
  intro e he
  rcases libRecord_flags h e he with e1 | e1
  · simp only [keepL, e1]; exact hr
  · simp [keepL, e1, hb.create]

theorem libBatch_mask {m : Flag → Bool} (hb : Book m) (fs : FS) (recs : List NRec) :
    ∀ (k : Kern) (lib : Lib) (k' : Kern) (lib' : Lib) (levs : List LEv),
      libBatch fs k lib recs = some (k', lib', levs) →
      libBatch fs k lib (maskRecs m recs) = some (k', lib', levs.filter (keepL m)) := by
  intro k lib k' lib' levs h
  obtain ⟨_, h', rfl⟩ := libBatch_maskSim (m := m) Eq (fun _ => True)
    (fun _ hr e h1 => e ▸ ⟨_, h1, rfl, libRecord_kept hb hr h1⟩)
    (fun _ hr e h1 => e ▸ libRecord_dropped hb hr h1) recs k lib lib k' lib' levs (fun _ _ => trivial) rfl h
  exact h'

def Grouped.pairs (t : LEv) : Grouped → Bool
  | .one r => r.flag == .movedFrom && r.cookie == t.cookie
  | .two _ _ => false

def Grouped.pair (t : LEv) : Grouped → Grouped
  | .one r => .two r t
  | g => g

theorem pairIn_cons (t : LEv) (g : Grouped) (rest : List Grouped) :
    pairIn t (g :: rest) = if g.pairs t then some (g.pair t :: rest) else (pairIn t rest).map (g :: ·) := by
  cases g <;> rfl

theorem keepG'_pair (m : Flag → Bool) (t : LEv) (g : Grouped) : keepG' m (g.pair t) = keepG' m g := by
  cases g <;> rfl

theorem keepG'_of_pairs {m : Flag → Bool} {t : LEv} {g : Grouped} (h : g.pairs t = true) : keepG' m g = m .movedFrom := by
  cases g with
  | two f t' => cases h
  | one r =>
    simp only [Grouped.pairs, Bool.and_eq_true, beq_iff_eq] at h
    simp [keepG', keepL, h.1]

theorem pairIn_filter' {m : Flag → Bool} (hfrom : m .movedFrom = true) (t : LEv) :
    ∀ acc : List Grouped, pairIn t (acc.filter (keepG' m)) = (pairIn t acc).map (fun l => l.filter (keepG' m)) := by
  intro acc
  induction acc with
  | nil => rfl
  | cons g rest ih =>
    rw [pairIn_cons, List.filter_cons]
    by_cases hp : g.pairs t = true
    · have hk : keepG' m g = true := by rw [keepG'_of_pairs hp, hfrom]
      simp [hk, hp, pairIn_cons, keepG'_pair]
    · by_cases hk : keepG' m g = true
      · simp only [hk, hp, if_true, pairIn_cons, ih, Option.map_map, Bool.false_eq_true, if_false]
        congr 1; funext l; simp [hk]
      · simp only [hk, hp, ih, Option.map_map, Bool.false_eq_true, if_false]
        congr 1; funext l; simp [hk]

theorem pairIn_dropped {m : Flag → Bool} (hfrom : m .movedFrom = false) (t : LEv) :
    ∀ (acc g : List Grouped), pairIn t acc = some g → g.filter (keepG' m) = acc.filter (keepG' m) := by
  intro acc
  induction acc with
  | nil => intro g h; cases h
  | cons x rest ih =>
    intro g h
    rw [pairIn_cons] at h
    split at h
    · next hp =>
      cases h
      simp [keepG'_pair, keepG'_of_pairs hp, hfrom]
    · obtain ⟨g', hg', rfl⟩ := Option.map_eq_some_iff.1 h
      simp [List.filter_cons, ih g' hg']

theorem groupStep_filter' {m : Flag → Bool} (hcl : m .movedFrom = m .movedTo) (acc : List Grouped) (e : LEv) :
    (if keepL m e then groupStep (acc.filter (keepG' m)) e else acc.filter (keepG' m)) =
      (groupStep acc e).filter (keepG' m) := by
  have hone : ∀ l : List Grouped, (l ++ [Grouped.one e]).filter (keepG' m) =
      if keepL m e then l.filter (keepG' m) ++ [Grouped.one e] else l.filter (keepG' m) := by
    intro l; rw [List.filter_append]; by_cases hk : keepL m e = true <;> simp [keepG', hk]
  unfold groupStep
  by_cases hto : (e.flag == .movedTo) = true
  · -- a MOVED_TO is kept exactly when its MOVED_FROM is
    have hke : keepL m e = m .movedFrom := by simp [keepL, beq_iff_eq.1 hto, hcl]
    simp only [hto, if_true, hke]
    cases hfrom : m .movedFrom
    · cases hp : pairIn e acc with
      | none => simp [hone, hke, hfrom]
      | some g => simp [pairIn_dropped hfrom e acc g hp]
    · rw [if_pos rfl, pairIn_filter' hfrom]
      cases pairIn e acc with
      | none => simp [hone, hke, hfrom]
      | some g => rfl
  · simp only [hto, Bool.false_eq_true, if_false, hone]

theorem group_filter' {m : Flag → Bool} (hcl : m .movedFrom = m .movedTo) (levs : List LEv) :
    group (levs.filter (keepL m)) = (group levs).filter (keepG' m) := by
  rw [group_eq_foldl, group_eq_foldl]
  have : ∀ acc : List Grouped,
      (levs.filter (keepL m)).foldl groupStep (acc.filter (keepG' m)) = (levs.foldl groupStep acc).filter (keepG' m) := by
    induction levs with
    | nil => intro acc; rfl
    | cons e rest ih =>
      intro acc
      rw [List.foldl_cons, ← ih (groupStep acc e), ← groupStep_filter' hcl, List.filter_cons]
      split <;> rfl
  exact this []

theorem gsOf_filter' {m : Flag → Bool} (hcl : m .movedFrom = m .movedTo) (levs : List LEv) :
    gsOf (levs.filter (keepL m)) = (gsOf levs).filter (keepG' m) := by
  unfold gsOf
  rw [group_filter' hcl, List.filter_filter, List.filter_filter]
  congr 1; funext g; exact Bool.and_comm _ _

def Grouped.fromOK : Grouped → Prop
  | .one _ => True
  | .two f _ => f.flag = .movedFrom

theorem fromOK_group (l : List LEv) : ∀ g ∈ group l, g.fromOK := by
  rw [group_eq_foldl]
  refine foldl_inv (P := fun acc : List Grouped => ∀ g ∈ acc, g.fromOK) ?_ l [] (by simp)
  intro acc e hacc
  have hone : ∀ g ∈ acc ++ [.one e], g.fromOK := by
    intro g hg
    rcases List.mem_append.1 hg with hg | hg
    · exact hacc g hg
    · rw [List.mem_singleton.1 hg]; trivial
  have hpair : ∀ (acc g : List Grouped), (∀ x ∈ acc, x.fromOK) → pairIn e acc = some g → ∀ x ∈ g, x.fromOK := by
    intro acc
    induction acc with
    | nil => intro g _ h; cases h
    | cons y ys ih =>
      intro g hacc h
      rw [pairIn_cons] at h
      have hys : ∀ x ∈ ys, x.fromOK := fun x hx => hacc x (List.mem_cons_of_mem _ hx)
      split at h
      · next hp =>
        cases h
        intro x hx
        rcases List.mem_cons.1 hx with rfl | hx
        · cases y with
          | two f t => cases hp
          | one r =>
            simp only [Grouped.pairs, Bool.and_eq_true, beq_iff_eq] at hp
            exact hp.1
        · exact hys x hx
      · obtain ⟨g', hg', rfl⟩ := Option.map_eq_some_iff.1 h
        intro x hx
        rcases List.mem_cons.1 hx with rfl | hx
        · exact hacc _ (List.mem_cons_self ..)
        · exact ih g' hys hg' x hx
  unfold groupStep
  split
  · split
    · next g hg => exact hpair acc g hacc hg
    · exact hone
  · exact hone

theorem fromOK_gsOf (l : List LEv) : ∀ g ∈ gsOf l, g.fromOK :=
  fun g h => fromOK_group l g (List.mem_filter.1 h).1

theorem keepG_eq {m : Flag → Bool} (hb : Book m) {g : Grouped} (h : g.fromOK) : keepG' m g = keepG m g := by
  cases g with
  | one e => rfl
  | two f t => simp [keepG, keepG', keepL, show f.flag = .movedFrom from h, hb.movedFrom]

theorem group_filter {m : Flag → Bool} (hb : Book m) (levs : List LEv) :
    group (levs.filter (keepL m)) = (group levs).filter (keepG m) := by
  rw [group_filter' (hb.movedFrom.trans hb.movedTo.symm)]
  exact List.filter_congr fun g hg => keepG_eq hb (fromOK_group levs g hg)

theorem gsOf_filter {m : Flag → Bool} (hb : Book m) (levs : List LEv) :
    gsOf (levs.filter (keepL m)) = (gsOf levs).filter (keepG m) := by
  rw [gsOf_filter' (hb.movedFrom.trans hb.movedTo.symm)]
  exact List.filter_congr fun g hg => keepG_eq hb (fromOK_gsOf levs g hg)

theorem movedOut_filter {m : Flag → Bool} (hb : Book m) (gs : List Grouped) :
    movedOut (gs.filter (keepG m)) = movedOut gs := by
  unfold movedOut
  rw [List.filterMap_filter]
  congr 1; funext g
  cases g with
  | two f t => rfl
  | one e =>
    by_cases hf : e.flag = .movedFrom
    · simp [keepG, keepL, hf, hb.movedFrom]
    · simp [hf]

theorem emitAll_drop {acc : EvClass → Bool} (keep : Grouped → Bool) (fs : FS) (recursive full : Bool) (gs : List Grouped)
    (hrej : ∀ g ∈ gs, keep g = false →
      (∀ ev ∈ (emit fs recursive full g).1, acc ev.cls = false) ∧ (emit fs recursive full g).2 = false) :
    (emitAll fs recursive full (gs.filter keep)).2 = (emitAll fs recursive full gs).2 ∧
    (emitAll fs recursive full (gs.filter keep)).1.filter (fun e => acc e.cls) =
      (emitAll fs recursive full gs).1.filter (fun e => acc e.cls) := by
  induction gs with
  | nil => exact ⟨rfl, rfl⟩
  | cons g rest ih =>
    obtain ⟨ih1, ih2⟩ := ih (fun g hg => hrej g (List.mem_cons_of_mem _ hg))
    rw [List.filter_cons, emitAll_cons fs recursive full g rest]
    split
    · rw [emitAll_cons]
      split
      · exact ⟨rfl, rfl⟩
      · exact ⟨ih1, by rw [List.filter_append, List.filter_append, ih2]⟩
    · next hk =>
      obtain ⟨c1, c2⟩ := hrej g (List.mem_cons_self ..) (by simpa using hk)
      have c1' : (emit fs recursive full g).1.filter (fun e => acc e.cls) = [] :=
        List.filter_eq_nil_iff.2 fun x hx => by simp [c1 x hx]
      rw [if_neg (by simp [c2]), List.filter_append, c1']
      exact ⟨ih1, ih2⟩

theorem emitAll_filter {m : Flag → Bool} {acc : EvClass → Bool} (hc : Complete m acc)
    (fs : FS) (recursive full : Bool) (gs : List Grouped)
    (hnoign : ∀ g ∈ gs, Grouped.keep g = true) :
    (emitAll fs recursive full (gs.filter (keepG m))).2 = (emitAll fs recursive full gs).2 ∧
    (emitAll fs recursive full (gs.filter (keepG m))).1.filter (fun e => acc e.cls) =
      (emitAll fs recursive full gs).1.filter (fun e => acc e.cls) := by
  refine emitAll_drop (keepG m) fs recursive full gs fun g hg hk => ?_
  cases g with
  | two f t => cases hk
  | one e =>
    have hk' := Bool.or_eq_false_iff.1 hk
    exact hc fs recursive full e hk'.2 (by simpa [Grouped.keep] using hnoign _ hg)


/-- MOVED_FROM records carry a name (the kernel reports moves on the parent's watch) -/
def named (r : NRec) : Prop := r.flag = .movedFrom → r.name.isSome = true

def isMove (f : Flag) : Bool := f == .movedFrom || f == .movedTo

theorem onEntry_all {Q : NRec → Prop} (k : Kern) (d : Option Nat) (f : Flag) (b : Bool) (c : Nat) (n : String)
    (h : ∀ wd, Q ⟨wd, f, b, c, some n⟩) : ∀ r ∈ k.onEntry d f b c n, Q r := by
  intro r hr; obtain ⟨_, wd, _, _, rfl⟩ := mem_onEntry hr; exact h wd

theorem onSelf_all {Q : NRec → Prop} (k : Kern) (ino : Nat) (f : Flag) (b : Bool)
    (h : ∀ wd, Q ⟨wd, f, b, 0, none⟩) : ∀ r ∈ k.onSelf ino f b, Q r := by
  intro r hr; obtain ⟨wd, _, rfl⟩ := mem_onSelf hr; exact h wd

theorem forall_mem_append {α : Type} {Q : α → Prop} {l₁ l₂ : List α} (h₁ : ∀ x ∈ l₁, Q x) (h₂ : ∀ x ∈ l₂, Q x) :
    ∀ x ∈ l₁ ++ l₂, Q x :=
  fun x hx => (List.mem_append.1 hx).elim (h₁ x) (h₂ x)

theorem removeEntry_nomove (fs : FS) (k : Kern) (e : Ent) :
    (removeEntry fs k e).2.1.nextCookie = k.nextCookie ∧ ∀ r ∈ (removeEntry fs k e).2.2, isMove r.flag = false := by
  unfold removeEntry
  refine ⟨by simp only; split <;> rfl, forall_mem_append ?_ (onEntry_all _ _ _ _ _ _ fun _ => rfl)⟩
  split
  · exact forall_mem_append (onSelf_all _ _ _ _ fun _ => rfl) (onSelf_all _ _ _ _ fun _ => rfl)
  · exact fun _ h => nomatch h

theorem removeAll_nomove (es : List Ent) : ∀ (fs : FS) (k : Kern),
    (removeAll fs k es).2.1.nextCookie = k.nextCookie ∧ ∀ r ∈ (removeAll fs k es).2.2, isMove r.flag = false := by
  induction es with
  | nil => intro fs k; exact ⟨rfl, fun _ h => nomatch h⟩
  | cons e rest ih =>
    intro fs k
    rw [removeAll_cons]
    obtain ⟨h1, h2⟩ := removeEntry_nomove fs k e
    obtain ⟨i1, i2⟩ := ih (removeEntry fs k e).1 (removeEntry fs k e).2.1
    exact ⟨i1.trans h1, forall_mem_append h2 i2⟩

def moveRec (c c' : Nat) (r : NRec) : Prop := isMove r.flag = true → r.name.isSome = true ∧ r.cookie = c ∧ c < c'

theorem kernelOp_moves (fs : FS) (k : Kern) (op : Op) :
    k.nextCookie ≤ (kernelOp fs k op).2.1.nextCookie ∧
    ∀ r ∈ (kernelOp fs k op).2.2, moveRec k.nextCookie (kernelOp fs k op).2.1.nextCookie r := by
  -- all operations but `rename` queue no such record and leave the counter alone
  have nomove : ∀ (k1 : Kern) (recs : List NRec), k1.nextCookie = k.nextCookie → (∀ r ∈ recs, isMove r.flag = false) →
      k.nextCookie ≤ k1.nextCookie ∧ ∀ r ∈ recs, moveRec k.nextCookie k1.nextCookie r :=
    fun k1 recs h1 h2 => ⟨Nat.le_of_eq h1.symm, fun r hr hm => by rw [h2 r hr] at hm; cases hm⟩
  have entry : ∀ (d : Option Nat) (f : Flag) (b : Bool) (n : String), isMove f = false →
      ∀ r ∈ k.onEntry d f b 0 n, isMove r.flag = false := fun d f b n hf => onEntry_all _ _ _ _ _ _ fun _ => hf
  have none : ∀ r ∈ ([] : List NRec), isMove r.flag = false := fun _ h => nomatch h
  cases op
  case create p | write p =>
    exact nomove _ _ rfl (forall_mem_append (forall_mem_append (entry _ _ _ _ rfl) (entry _ _ _ _ rfl)) (entry _ _ _ _ rfl))
  case mkdir p => exact nomove _ _ rfl (entry _ _ _ _ rfl)
  case chmod p =>
    simp only [kernelOp]
    split
    · refine nomove _ _ rfl (forall_mem_append ?_ (entry _ _ _ _ rfl))
      split
      · exact onSelf_all _ _ _ _ fun _ => rfl
      · exact none
    · exact nomove _ _ rfl none
  case unlink p | rmdir p =>
    simp only [kernelOp]
    split
    · exact nomove _ _ (removeEntry_nomove _ _ _).1 (removeEntry_nomove _ _ _).2
    · exact nomove _ _ rfl none
  case rmtree p | rmtreeOrd p order =>
    simp only [kernelOp]
    split
    · exact nomove _ _ (removeAll_nomove _ _ _).1 (removeAll_nomove _ _ _).2
    · exact nomove _ _ rfl none
  case rename p q =>
    cases he : fs.find? p with
    | none => simp only [kernelOp, he]; exact nomove _ _ rfl none
    | some e =>
      -- the two halves come from `onEntry` with the old counter; what a replaced directory reports on itself is no move
      have half : ∀ (k0 : Kern) (d : Option Nat) (f : Flag) (b : Bool) (n : String),
          ∀ r ∈ k0.onEntry d f b k.nextCookie n, moveRec k.nextCookie (k.nextCookie + 1) r :=
        fun k0 d f b n => onEntry_all _ _ _ _ _ _ fun _ _ => ⟨rfl, rfl, Nat.lt_succ_self _⟩
      have self : ∀ (ino : Nat) (f : Flag) (b : Bool), isMove f = false →
          ∀ r ∈ k.onSelf ino f b, moveRec k.nextCookie (k.nextCookie + 1) r :=
        fun ino f b hf => onSelf_all _ _ _ _ fun _ hm => by rw [hf] at hm; cases hm
      rw [kernelOp_rename k he]
      refine ⟨Nat.le_succ _, forall_mem_append (forall_mem_append (half _ _ _ _ _) (half _ _ _ _ _)) ?_⟩
      unfold renameVictim
      split
      · split
        · exact forall_mem_append (forall_mem_append (self _ _ _ rfl) (self _ _ _ rfl)) (self _ _ _ rfl)
        · exact fun _ h => nomatch h
      · exact fun _ h => nomatch h

theorem kernelOp_named (fs : FS) (k : Kern) (op : Op) : ∀ r ∈ (kernelOp fs k op).2.2, named r :=
  fun r hr hf => ((kernelOp_moves fs k op).2 r hr (by rw [hf]; rfl)).1

theorem gsOf_keep (levs : List LEv) : ∀ g ∈ gsOf levs, Grouped.keep g = true := by
  intro g hg; unfold gsOf at hg; exact (List.mem_filter.1 hg).2

theorem crashed_op (s : Sys) (op : Op) (h : s.crashed = true) : (s.op op).1.crashed = true := by
  unfold Sys.op
  rcases kernelOp s.fs s.k op with ⟨fs1, k1, recs⟩
  simp [h]

theorem crashed_run (s : Sys) (ops : List Op) (h : s.crashed = true) : (s.run ops).1.crashed = true := by
  induction ops generalizing s with
  | nil => exact h
  | cons op rest ih =>
    simp only [Sys.run]
    exact ih _ (crashed_op s op h)

theorem alive_head {s : Sys} {op : Op} {rest : List Op} (hnc : (s.run (op :: rest)).1.crashed = false) :
    (s.op op).1.crashed = false := by
  cases hcr : (s.op op).1.crashed
  · rfl
  · simp only [Sys.run] at hnc; rw [crashed_run _ rest hcr] at hnc; cases hnc

/-- the filtered observer's state: the unfiltered one's, except that the libraries are related by `R` -/
structure SimR (R : Lib → Lib → Prop) (s sM : Sys) : Prop where
  fs : sM.fs = s.fs
  k : sM.k = s.k
  full : sM.full = s.full
  stopped : sM.stopped = s.stopped
  crashed : sM.crashed = s.crashed
  lib : R s.lib sM.lib

theorem SimR.eq {s sM : Sys} (h : SimR Eq s sM) : sM = s := by
  obtain ⟨h1, h2, h3, h4, h5, h6⟩ := h
  cases s; cases sM
  simp only at h1 h2 h3 h4 h5 h6
  subst h1 h2 h3 h4 h5 h6
  rfl

/-- what reader, buffer, emitter and the emitter's clean-up have to provide, for a relation `R` between the libraries and
    a restriction `keep` of the grouped items -/
structure Stages (m : Flag → Bool) (acc : EvClass → Bool) (keep : Grouped → Bool) (R : Lib → Lib → Prop) : Prop where
  recursive : ∀ {a b}, R a b → b.recursive = a.recursive
  batch : ∀ {fs k a b recs k' a' levs}, (∀ r ∈ recs, named r) → R a b → libBatch fs k a recs = some (k', a', levs) →
    ∃ b', libBatch fs k b (maskRecs m recs) = some (k', b', levs.filter (keepL m)) ∧ R a' b'
  group : ∀ levs, gsOf (levs.filter (keepL m)) = (gsOf levs).filter keep
  emit : ∀ {a b}, R a b → ∀ fs full levs,
    (emitAll fs a.recursive full ((gsOf levs).filter keep)).2 = (emitAll fs a.recursive full (gsOf levs)).2 ∧
    (emitAll fs a.recursive full ((gsOf levs).filter keep)).1.filter (fun e => acc e.cls) =
      (emitAll fs a.recursive full (gsOf levs)).1.filter (fun e => acc e.cls)
  forget : ∀ {a b}, R a b → ∀ {fs k levs k3 a3},
    forgetAll fs k a (if a.recursive then movedOut (gsOf levs) else []) = some (k3, a3) →
    ∃ b3, forgetAll fs k b (if a.recursive then movedOut ((gsOf levs).filter keep) else []) = some (k3, b3) ∧ R a3 b3

theorem opF_sim {m : Flag → Bool} {acc : EvClass → Bool} {keep : Grouped → Bool} {R : Lib → Lib → Prop}
    (st : Stages m acc keep R) (s sM : Sys) (op : Op) (hsim : SimR R s sM) (hnc : (s.op op).1.crashed = false) :
    SimR R (s.op op).1 (sM.opF m acc op).1 ∧ (sM.opF m acc op).2 = (s.op op).2.filter (fun e => acc e.cls) := by
  obtain ⟨hfs, hk, hfull, hst, hcr, hlib⟩ := hsim
  unfold Sys.opF Sys.op at *
  rw [hfs, hk, hst, hcr, hfull]
  rcases hker : kernelOp s.fs s.k op with ⟨fs1, k1, recs⟩
  have hnamed : ∀ r ∈ recs, named r := fun r hr => kernelOp_named s.fs s.k op r (by rw [hker]; exact hr)
  simp only [hker] at hnc ⊢
  split
  · exact ⟨⟨rfl, rfl, rfl, rfl, rfl, hlib⟩, rfl⟩
  · next hsc =>
    simp only [hsc] at hnc
    cases h1 : libBatch fs1 k1 s.lib recs with
    | none => simp [h1] at hnc
    | some x =>
      obtain ⟨k2, a2, levs⟩ := x
      obtain ⟨b2, hb2, hR2⟩ := st.batch hnamed hlib h1
      obtain ⟨e1, e2⟩ := st.emit hR2 fs1 s.full levs
      simp only [h1] at hnc
      simp only [hb2, st.recursive hR2, st.group]
      rcases hE : emitAll fs1 a2.recursive s.full (gsOf levs) with ⟨evs, stop⟩
      rcases hE' : emitAll fs1 a2.recursive s.full ((gsOf levs).filter keep) with ⟨evs', stop'⟩
      rw [hE, hE'] at e1 e2
      rw [hE] at hnc
      simp only at e1 e2 hnc ⊢
      subst e1
      cases hf : forgetAll fs1 k2 a2 (if a2.recursive = true then movedOut (gsOf levs) else []) with
      | none => simp [hf] at hnc
      | some y =>
        obtain ⟨k3, a3⟩ := y
        obtain ⟨b3, hb3, hR3⟩ := st.forget hR2 hf
        simp only [hb3]
        exact ⟨⟨rfl, rfl, rfl, rfl, rfl, hR3⟩, e2⟩

theorem runF_sim {m : Flag → Bool} {acc : EvClass → Bool} {keep : Grouped → Bool} {R : Lib → Lib → Prop}
    (st : Stages m acc keep R) (ops : List Op) : ∀ (s sM : Sys), SimR R s sM → (s.run ops).1.crashed = false →
    (sM.runF m acc ops).2 = (s.run ops).2.map (fun evs => evs.filter (fun e => acc e.cls)) ∧
    SimR R (s.run ops).1 (sM.runF m acc ops).1 := by
  induction ops with
  | nil => intro s sM h _; exact ⟨rfl, h⟩
  | cons op rest ih =>
    intro s sM hsim hnc
    obtain ⟨a, b⟩ := opF_sim st s sM op hsim (alive_head hnc)
    obtain ⟨d, e⟩ := ih (s.op op).1 (sM.opF m acc op).1 a hnc
    simp only [Sys.run, Sys.runF, List.map_cons]
    exact ⟨by rw [b, d], e⟩

theorem stages_rec {m : Flag → Bool} {acc : EvClass → Bool} (hb : Book m) (hc : Complete m acc) :
    Stages m acc (keepG m) Eq :=
  { recursive := by rintro a _ rfl; rfl
    batch := by rintro fs k a _ recs k' a' levs _ rfl h; exact ⟨_, libBatch_mask hb _ _ _ _ _ _ _ h, rfl⟩
    group := gsOf_filter hb
    emit := by rintro a _ rfl fs full levs; exact emitAll_filter hc fs _ full (gsOf levs) (gsOf_keep levs)
    forget := by rintro a _ rfl fs k levs k3 a3 h; exact ⟨_, by rw [movedOut_filter hb]; exact h, rfl⟩ }

/-- whole histories: as long as the unfiltered observer's reader does not die, the filtered observer goes through the
    same states and delivers the unfiltered stream restricted to the accepted classes, operation by operation -/
theorem runF_eq {m : Flag → Bool} {acc : EvClass → Bool} (hb : Book m) (hc : Complete m acc) (s : Sys) (ops : List Op)
    (hnc : (s.run ops).1.crashed = false) :
    s.runF m acc ops = ((s.run ops).1, (s.run ops).2.map (fun evs => evs.filter (fun e => acc e.cls))) := by
  obtain ⟨h1, h2⟩ := runF_sim (stages_rec hb hc) ops s s ⟨rfl, rfl, rfl, rfl, rfl, rfl⟩ hnc
  exact Prod.ext h2.eq h1

theorem Complete.union {m1 m2 : Flag → Bool} {a1 a2 : EvClass → Bool} (h1 : Complete m1 a1) (h2 : Complete m2 a2) :
    Complete (fun f => m1 f || m2 f) (fun c => a1 c || a2 c) := by
  intro fs recursive full e hm hne
  simp only [Bool.or_eq_false_iff] at hm
  obtain ⟨x1, y1⟩ := h1 fs recursive full e hm.1 hne
  obtain ⟨x2, _⟩ := h2 fs recursive full e hm.2 hne
  exact ⟨fun ev hev => by simp [x1 ev hev, x2 ev hev], y1⟩

theorem Book.union_left {m1 m2 : Flag → Bool} (h1 : Book m1) : Book (fun f => m1 f || m2 f) :=
  ⟨by simp [h1.create], by simp [h1.movedFrom], by simp [h1.movedTo], by simp [h1.deleteSelf]⟩

/-- the classes `emit` derives from a record of one of the six kinds a mask may leave out -/
def classesOf (fl : Flag) (d : Bool) : List EvClass :=
  match fl with
  | .attrib | .modify => [if d then .DirModifiedEvent else .FileModifiedEvent]
  | .delete => [if d then .DirDeletedEvent else .FileDeletedEvent, .DirModifiedEvent]
  | .open => if d then [] else [.FileOpenedEvent]
  | .closeWrite => if d then [] else [.FileClosedEvent, .DirModifiedEvent]
  | .closeNoWrite => if d then [] else [.FileClosedNoWriteEvent]
  | _ => []

def optionalFlags : List Flag := [.attrib, .modify, .delete, .open, .closeWrite, .closeNoWrite]

theorem emit_optional (fs : FS) (recursive full : Bool) (e : LEv) (h : e.flag ∈ optionalFlags) :
    (emit fs recursive full (.one e)).1.map (·.cls) = classesOf e.flag e.isDir ∧
    (emit fs recursive full (.one e)).2 = false := by
  obtain ⟨wd, flag, isDir, cookie, name, src⟩ := e
  simp only [optionalFlags, List.mem_cons, List.mem_nil_iff, or_false] at h
  rcases h with rfl | rfl | rfl | rfl | rfl | rfl <;> cases isDir <;> exact ⟨rfl, rfl⟩

/-- the decidable check behind `Complete` -/
def completeB (m : Flag → Bool) (acc : EvClass → Bool) : Bool :=
  optionalFlags.all (fun fl => m fl || ((classesOf fl true).all (fun c => !acc c) && (classesOf fl false).all (fun c => !acc c)))

theorem Complete_of_check {m : Flag → Bool} {acc : EvClass → Bool} (hb : Book m) (h : completeB m acc = true) :
    Complete m acc := by
  intro fs recursive full e hm hne
  have hopt : e.flag ∈ optionalFlags := by
    cases hf : e.flag <;> first | decide | (rw [hf] at hm hne; simp [hb.create, hb.movedFrom, hb.movedTo, hb.deleteSelf] at hm hne)
  obtain ⟨c1, c2⟩ := emit_optional fs recursive full e hopt
  refine ⟨?_, c2⟩
  intro ev hev
  have hcls : ev.cls ∈ classesOf e.flag e.isDir := by rw [← c1]; exact List.mem_map_of_mem hev
  have := List.all_eq_true.1 h e.flag hopt
  simp only [hm, Bool.false_or, Bool.and_eq_true] at this
  cases hd : e.isDir
  · rw [hd] at hcls; simpa using List.all_eq_true.1 this.2 ev.cls hcls
  · rw [hd] at hcls; simpa using List.all_eq_true.1 this.1 ev.cls hcls

end WD.Pipe
