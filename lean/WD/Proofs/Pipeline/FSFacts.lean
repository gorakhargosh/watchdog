/- paths (prefixes, parents, base names), the file system with one entry added or removed, the kernel's watch lookup -/
import WD.Model.Pipeline
import WD.Spec.PipelineSpec
import WD.Proofs.Pipeline.Assoc

namespace WD.Pipe

theorem isUnder_iff {p q : P} : isUnder p q = true ↔ ∃ r, r ≠ [] ∧ q = p ++ r := by
  unfold isUnder
  constructor
  · intro h
    simp only [Bool.and_eq_true, decide_eq_true_eq, beq_iff_eq] at h
    refine ⟨q.drop p.length, ?_, ?_⟩
    · intro hd
      have : (q.drop p.length).length = 0 := by rw [hd]; rfl
      simp at this; omega
    · conv => lhs; rw [← List.take_append_drop p.length q]
      rw [h.2]
  · rintro ⟨r, hr, rfl⟩
    have : 0 < r.length := List.length_pos_iff.mpr hr
    simp; omega

theorem isUnder_append (p : P) {r : P} (hr : r ≠ []) : isUnder p (p ++ r) = true :=
  isUnder_iff.mpr ⟨r, hr, rfl⟩

theorem isUnder_snoc (p : P) (n : String) : isUnder p (p ++ [n]) = true := isUnder_append p (by simp)

theorem isUnder_irrefl (p : P) : isUnder p p = false := by
  unfold isUnder; simp

theorem isUnder_trans {a b c : P} (h1 : isUnder a b = true) (h2 : isUnder b c = true) : isUnder a c = true := by
  obtain ⟨r, hr, rfl⟩ := isUnder_iff.mp h1
  obtain ⟨t, _, rfl⟩ := isUnder_iff.mp h2
  rw [List.append_assoc]
  exact isUnder_append a (by simp [hr])

theorem isUnder_length {p q : P} (h : isUnder p q = true) : p.length < q.length := by
  unfold isUnder at h; simp at h; exact h.1

theorem isUnder_ne {p q : P} (h : isUnder p q = true) : p ≠ q := by
  intro e; subst e; rw [isUnder_irrefl] at h; cases h

theorem parentOf_snoc (p : P) (n : String) : parentOf (p ++ [n]) = p := by simp [parentOf]
theorem baseName_snoc (p : P) (n : String) : baseName (p ++ [n]) = n := by simp [baseName]

theorem snoc_parent_base {q : P} (h : q ≠ []) : parentOf q ++ [baseName q] = q := by
  unfold parentOf baseName
  rw [List.getLast?_eq_some_getLast h]
  simpa using List.dropLast_concat_getLast h

theorem ne_nil_of_two_le {q : P} (h : 2 ≤ q.length) : q ≠ [] := by
  intro e; subst e; simp at h

theorem parentOf_length (q : P) : (parentOf q).length = q.length - 1 := by simp [parentOf]

theorem isUnder_parent {a q : P} (h : isUnder a q = true) : parentOf q = a ∨ isUnder a (parentOf q) = true := by
  obtain ⟨r, hr, rfl⟩ := isUnder_iff.mp h
  have : parentOf (a ++ r) = a ++ r.dropLast := by
    unfold parentOf
    rw [List.dropLast_append_of_ne_nil hr]
  rw [this]
  by_cases hd : r.dropLast = []
  · left; simp [hd]
  · right; exact isUnder_append a hd

theorem isUnder_of_parent {a q : P} (hq : q ≠ []) (h : parentOf q = a ∨ isUnder a (parentOf q) = true) : isUnder a q = true := by
  have e := snoc_parent_base hq
  rw [← e]
  rcases h with h | h
  · rw [h]; exact isUnder_snoc a _
  · exact isUnder_trans h (isUnder_snoc _ _)

theorem rewrite_under {p q x : P} (h : isUnder p x = true) : isUnder q (q ++ x.drop p.length) = true := by
  obtain ⟨r, hr, rfl⟩ := isUnder_iff.mp h
  simp only [List.drop_left']
  exact isUnder_append q hr

theorem drop_of_under {p r : P} : (p ++ r).drop p.length = r := by simp

theorem prefix_comparable {a b x : P} (ha : isUnder a x = true) (hb : isUnder b x = true) :
    a = b ∨ isUnder a b = true ∨ isUnder b a = true := by
  obtain ⟨r, _, rfl⟩ := isUnder_iff.mp ha
  obtain ⟨t, _, h⟩ := isUnder_iff.mp hb
  have h1 : a <+: a ++ r := List.prefix_append a r
  have h2 : b <+: a ++ r := ⟨t, h.symm⟩
  rcases List.prefix_or_prefix_of_prefix h1 h2 with ⟨u, hu⟩ | ⟨u, hu⟩
  · by_cases hn : u = []
    · left; simpa [hn] using hu
    · right; left; rw [← hu]; exact isUnder_append a hn
  · by_cases hn : u = []
    · left; simpa [hn] using hu.symm
    · right; right; rw [← hu]; exact isUnder_append b hn

theorem FS.find?_some {fs : FS} {p : P} {e : Ent} (h : fs.find? p = some e) : e ∈ fs.ents ∧ e.path = p := by
  unfold FS.find? at h
  have h1 := List.mem_of_find?_eq_some h
  have h2 := List.find?_some h
  exact ⟨h1, by simpa using h2⟩

theorem FS.find?_none {fs : FS} {p : P} : fs.find? p = none ↔ ∀ e ∈ fs.ents, e.path ≠ p := by
  unfold FS.find?
  simp [List.find?_eq_none]

theorem FS.find?_of_mem {fs : FS} (hn : (fs.ents.map Ent.path).Nodup) {e : Ent} (he : e ∈ fs.ents) :
    fs.find? e.path = some e := find?_key_of_mem hn he

theorem FS.isDir_iff {fs : FS} {p : P} : fs.isDir p = true ↔ ∃ e, fs.find? p = some e ∧ e.isDir = true := by
  unfold FS.isDir
  cases h : fs.find? p <;> simp

theorem FS.exists_iff {fs : FS} {p : P} : fs.exists p = true ↔ ∃ e, fs.find? p = some e := by
  unfold FS.exists; exact Option.isSome_iff_exists

theorem exists_false_iff {fs : FS} {p : P} : fs.exists p = false ↔ ∀ e ∈ fs.ents, e.path ≠ p := by
  rw [← FS.find?_none]
  unfold FS.exists
  cases fs.find? p <;> simp

theorem find?_none_of_exists_false {fs : FS} {p : P} (h : fs.exists p = false) : fs.find? p = none :=
  FS.find?_none.mpr (exists_false_iff.mp h)

theorem FS.isFile_iff {fs : FS} {p : P} : fs.isFile p = true ↔ ∃ e, fs.find? p = some e ∧ e.isDir = false := by
  unfold FS.isFile
  cases h : fs.find? p <;> simp

theorem FS.WF.paths {fs : FS} (h : fs.WF) : (fs.ents.map Ent.path).Nodup := h.1
theorem FS.WF.inos {fs : FS} (h : fs.WF) : (fs.ents.map Ent.ino).Nodup := h.2.1
theorem FS.WF.inoPos {fs : FS} (h : fs.WF) {e : Ent} (he : e ∈ fs.ents) : 0 < e.ino := (h.2.2.1 e he).1
theorem FS.WF.inoLt {fs : FS} (h : fs.WF) {e : Ent} (he : e ∈ fs.ents) : e.ino < fs.nextIno := (h.2.2.1 e he).2
theorem FS.WF.rootW {fs : FS} (h : fs.WF) : fs.isDir ["W"] = true := h.2.2.2.1
theorem FS.WF.rootO {fs : FS} (h : fs.WF) : fs.isDir ["O"] = true := h.2.2.2.2.1
theorem FS.WF.parent {fs : FS} (h : fs.WF) {e : Ent} (he : e ∈ fs.ents) :
    e.path = ["W"] ∨ e.path = ["O"] ∨ (2 ≤ e.path.length ∧ fs.isDir (parentOf e.path) = true) := h.2.2.2.2.2 e he

theorem FS.WF.find_mem {fs : FS} (h : fs.WF) {e : Ent} (he : e ∈ fs.ents) : fs.find? e.path = some e :=
  FS.find?_of_mem h.paths he

theorem FS.WF.ino_inj {fs : FS} (h : fs.WF) {e e' : Ent} (he : e ∈ fs.ents) (he' : e' ∈ fs.ents) (hi : e.ino = e'.ino) : e = e' :=
  inj_of_nodup_map h.inos he he' hi

theorem FS.WF.path_inj {fs : FS} (h : fs.WF) {e e' : Ent} (he : e ∈ fs.ents) (he' : e' ∈ fs.ents) (hi : e.path = e'.path) : e = e' :=
  inj_of_nodup_map h.paths he he' hi

theorem FS.WF.path_ne_nil {fs : FS} (h : fs.WF) {e : Ent} (he : e ∈ fs.ents) : e.path ≠ [] := by
  rcases h.parent he with h1 | h1 | h1
  · simp [h1]
  · simp [h1]
  · exact ne_nil_of_two_le h1.1

theorem wdOfIno_some {k : Kern} {ino wd : Nat} (h : k.wdOfIno ino = some wd) : (wd, ino) ∈ k.watches := by
  unfold Kern.wdOfIno at h
  cases hf : k.watches.find? (fun w => w.2 == ino) with
  | none => simp [hf] at h
  | some w =>
    simp [hf] at h
    have h1 := List.mem_of_find?_eq_some hf
    have h2 := List.find?_some hf
    simp at h2
    have : w = (wd, ino) := by cases w; simp_all
    rw [← this]; exact h1

theorem wdOfIno_none {k : Kern} {ino : Nat} : k.wdOfIno ino = none ↔ ∀ w ∈ k.watches, w.2 ≠ ino := by
  unfold Kern.wdOfIno
  simp [List.find?_eq_none]

theorem wdOfIno_of_mem {k : Kern} (hn : (k.watches.map (·.2)).Nodup) {wd ino : Nat} (h : (wd, ino) ∈ k.watches) :
    k.wdOfIno ino = some wd := by
  unfold Kern.wdOfIno
  rw [find?_key_of_mem (f := (·.2)) hn h]; rfl

theorem onEntry_some {k : Kern} {ino wd : Nat} (h : k.wdOfIno ino = some wd) (f : Flag) (d : Bool) (c : Nat) (n : String) :
    k.onEntry (some ino) f d c n = [⟨wd, f, d, c, some n⟩] := by simp [Kern.onEntry, h]
theorem onEntry_none {k : Kern} {ino : Nat} (h : k.wdOfIno ino = none) (f : Flag) (d : Bool) (c : Nat) (n : String) :
    k.onEntry (some ino) f d c n = [] := by simp [Kern.onEntry, h]
theorem onEntry_nodir {k : Kern} (f : Flag) (d : Bool) (c : Nat) (n : String) :
    k.onEntry none f d c n = [] := by simp [Kern.onEntry]
theorem onSelf_some {k : Kern} {ino wd : Nat} (h : k.wdOfIno ino = some wd) (f : Flag) (d : Bool) :
    k.onSelf ino f d = [⟨wd, f, d, 0, none⟩] := by simp [Kern.onSelf, h]
theorem onSelf_none {k : Kern} {ino : Nat} (h : k.wdOfIno ino = none) (f : Flag) (d : Bool) :
    k.onSelf ino f d = [] := by simp [Kern.onSelf, h]

theorem mem_onEntry {k : Kern} {i : Option Nat} {f : Flag} {d : Bool} {c : Nat} {n : String} {r : NRec}
    (h : r ∈ k.onEntry i f d c n) : ∃ ino wd, i = some ino ∧ k.wdOfIno ino = some wd ∧ r = ⟨wd, f, d, c, some n⟩ := by
  cases i with
  | none => rw [onEntry_nodir] at h; cases h
  | some ino =>
    cases hw : k.wdOfIno ino with
    | none => rw [onEntry_none hw] at h; cases h
    | some wd => rw [onEntry_some hw] at h; exact ⟨ino, wd, rfl, hw, List.mem_singleton.mp h⟩

theorem mem_onSelf {k : Kern} {ino : Nat} {f : Flag} {d : Bool} {r : NRec} (h : r ∈ k.onSelf ino f d) :
    ∃ wd, k.wdOfIno ino = some wd ∧ r = ⟨wd, f, d, 0, none⟩ := by
  cases hw : k.wdOfIno ino with
  | none => rw [onSelf_none hw] at h; cases h
  | some wd => rw [onSelf_some hw] at h; exact ⟨wd, rfl, List.mem_singleton.mp h⟩

def FS.add (fs : FS) (p : P) (d : Bool) : FS := { ents := fs.ents ++ [⟨p, d, fs.nextIno⟩], nextIno := fs.nextIno + 1 }

theorem FS.find?_add (fs : FS) (p : P) (d : Bool) (q : P) :
    (fs.add p d).find? q = (fs.find? q).or (if p = q then some ⟨p, d, fs.nextIno⟩ else none) := by
  unfold FS.find? FS.add
  simp only [List.find?_append, List.find?_cons, List.find?_nil]
  by_cases h : p = q
  · simp [h]
  · have hb : (p == q) = false := by simp [h]
    simp [h, hb]

theorem FS.isDir_add_of_isDir {fs : FS} {p q : P} {d : Bool} (h : fs.isDir q = true) : (fs.add p d).isDir q = true := by
  obtain ⟨e, he, hd⟩ := FS.isDir_iff.mp h
  exact FS.isDir_iff.mpr ⟨e, by rw [FS.find?_add, he]; rfl, hd⟩

theorem FS.WF.add {fs : FS} (hwf : fs.WF) {p : P} (hp : 2 ≤ p.length) (hne : fs.exists p = false)
    (hpar : fs.isDir (parentOf p) = true) (d : Bool) : (fs.add p d).WF := by
  have hnone := exists_false_iff.mp hne
  refine ⟨?_, ?_, ?_, FS.isDir_add_of_isDir hwf.rootW, FS.isDir_add_of_isDir hwf.rootO, ?_⟩
  · simp only [FS.add, List.map_append, List.map_cons, List.map_nil]
    refine List.nodup_append.mpr ⟨hwf.paths, by simp, ?_⟩
    intro a ha b hb; simp at hb; subst hb
    obtain ⟨e, he, rfl⟩ := List.mem_map.mp ha
    exact hnone e he
  · simp only [FS.add, List.map_append, List.map_cons, List.map_nil]
    refine List.nodup_append.mpr ⟨hwf.inos, by simp, ?_⟩
    intro a ha b hb; simp at hb; subst hb
    obtain ⟨e, he, rfl⟩ := List.mem_map.mp ha
    have := hwf.inoLt he; omega
  · intro e he
    simp only [FS.add, List.mem_append, List.mem_singleton] at he
    rcases he with he | he
    · have := hwf.2.2.1 e he; simp only [FS.add]; omega
    · subst he; simp only [FS.add]
      have : 0 < fs.nextIno := by
        obtain ⟨e, he, _⟩ := FS.isDir_iff.mp hwf.rootW
        have := hwf.inoLt (FS.find?_some he).1; omega
      omega
  · intro e he
    simp only [FS.add, List.mem_append, List.mem_singleton] at he
    rcases he with he | he
    · rcases hwf.parent he with h | h | h
      · exact Or.inl h
      · exact Or.inr (Or.inl h)
      · exact Or.inr (Or.inr ⟨h.1, FS.isDir_add_of_isDir h.2⟩)
    · subst he; exact Or.inr (Or.inr ⟨hp, FS.isDir_add_of_isDir hpar⟩)

theorem FS.mem_add {fs : FS} {p : P} {d : Bool} {e : Ent} : e ∈ (fs.add p d).ents ↔ e ∈ fs.ents ∨ e = ⟨p, d, fs.nextIno⟩ := by
  simp [FS.add]

def FS.del (fs : FS) (p : P) : FS := { fs with ents := fs.ents.filter (fun x => x.path != p) }

theorem FS.mem_del {fs : FS} {p : P} {e : Ent} : e ∈ (fs.del p).ents ↔ e ∈ fs.ents ∧ e.path ≠ p := by
  simp [FS.del]

theorem FS.find?_del (fs : FS) (p q : P) : (fs.del p).find? q = if q = p then none else fs.find? q := by
  unfold FS.find? FS.del
  simp only [List.find?_filter]
  by_cases h : q = p
  · subst h
    simp only [if_true]
    rw [List.find?_eq_none]
    intro x _; simp
  · simp only [h, if_false]
    congr 1; funext x
    by_cases hx : x.path = q
    · simp [hx, h]
    · simp [hx]

theorem FS.isDir_del {fs : FS} {p q : P} (hq : q ≠ p) : (fs.del p).isDir q = fs.isDir q := by
  unfold FS.isDir; rw [FS.find?_del]; simp [hq]

theorem FS.WF.del {fs : FS} (hwf : fs.WF) {p : P} (hp : 2 ≤ p.length)
    (hleaf : ∀ e ∈ fs.ents, parentOf e.path ≠ p ∨ e.path.length < 2) : (fs.del p).WF := by
  have hW : (["W"] : P) ≠ p := by intro h; subst h; simp at hp
  have hO : (["O"] : P) ≠ p := by intro h; subst h; simp at hp
  refine ⟨?_, ?_, ?_, ?_, ?_, ?_⟩
  · exact List.Nodup.sublist (List.Sublist.map _ List.filter_sublist) hwf.paths
  · exact List.Nodup.sublist (List.Sublist.map _ List.filter_sublist) hwf.inos
  · intro e he; exact hwf.2.2.1 e (FS.mem_del.mp he).1
  · rw [FS.isDir_del hW]; exact hwf.rootW
  · rw [FS.isDir_del hO]; exact hwf.rootO
  · intro e he
    have he' := FS.mem_del.mp he
    rcases hwf.parent he'.1 with h | h | h
    · exact Or.inl h
    · exact Or.inr (Or.inl h)
    · refine Or.inr (Or.inr ⟨h.1, ?_⟩)
      have : parentOf e.path ≠ p := by
        rcases hleaf e he'.1 with h1 | h1
        · exact h1
        · omega
      rw [FS.isDir_del this]; exact h.2

theorem FS.WF.file_leaf {fs : FS} (hwf : fs.WF) {p : P} {f : Ent} (hf : fs.find? p = some f) (hfile : f.isDir = false) :
    ∀ e ∈ fs.ents, parentOf e.path ≠ p ∨ e.path.length < 2 := by
  intro e he
  rcases hwf.parent he with h | h | h
  · right; simp [h]
  · right; simp [h]
  · left; intro hpp
    rw [hpp] at h
    obtain ⟨d, hd, hdd⟩ := FS.isDir_iff.mp h.2
    rw [hf] at hd; cases hd; rw [hfile] at hdd; cases hdd

end WD.Pipe
