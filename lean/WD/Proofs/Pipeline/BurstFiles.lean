/- bursts of file operations including renames and moves of files: read as ONE batch = drained one by one -/
import WD.Proofs.Pipeline.Burst
import WD.Proofs.Pipeline.RenameStatic
namespace WD.Pipe

def noFrom (c : Nat) (a : List Grouped) : Prop :=
  ∀ g ∈ a, match g with | .one r => ¬ (r.flag = .movedFrom ∧ r.cookie = c) | _ => True

theorem pairIn_append_fresh (t : LEv) (a b : List Grouped) (h : noFrom t.cookie a) :
    pairIn t (a ++ b) = (pairIn t b).map (fun l => a ++ l) := by
  induction a with
  | nil => simp only [List.nil_append]; cases pairIn t b <;> simp
  | cons g rest ih =>
    have hrest : noFrom t.cookie rest := fun x hx => h x (List.mem_cons_of_mem _ hx)
    have hg := h g (List.mem_cons_self ..)
    cases g with
    | one r =>
      simp only [List.cons_append, pairIn]
      have : (r.flag == Flag.movedFrom && r.cookie == t.cookie) = false := by
        simp only at hg
        cases hf : (r.flag == Flag.movedFrom) <;> simp
        intro hc; exact hg ⟨by simpa using hf, hc⟩
      simp only [this, Bool.false_eq_true, if_false, ih hrest]
      cases pairIn t b <;> rfl
    | two f t' =>
      simp only [List.cons_append, pairIn, ih hrest]
      cases pairIn t b <;> rfl

theorem groupStep_append_fresh (a b : List Grouped) (e : LEv) (h : e.flag = .movedTo → noFrom e.cookie a) :
    groupStep (a ++ b) e = a ++ groupStep b e := by
  unfold groupStep
  by_cases hf : e.flag = .movedTo
  · simp only [hf, beq_self_eq_true, if_true, pairIn_append_fresh e a b (h hf)]
    cases pairIn e b <;> simp
  · have : (e.flag == Flag.movedTo) = false := by simpa using hf
    simp [this]

theorem foldl_groupStep_append (a : List Grouped) (l : List LEv) (h : ∀ e ∈ l, e.flag = .movedTo → noFrom e.cookie a) :
    ∀ b, l.foldl groupStep (a ++ b) = a ++ l.foldl groupStep b := by
  induction l with
  | nil => intro b; rfl
  | cons e rest ih =>
    intro b
    simp only [List.foldl_cons]
    rw [groupStep_append_fresh a b e (h e (List.mem_cons_self ..))]
    exact ih (fun x hx => h x (List.mem_cons_of_mem _ hx)) _

theorem pairIn_some {t : LEv} : ∀ {acc g : List Grouped}, pairIn t acc = some g →
    ∃ a f b, acc = a ++ .one f :: b ∧ g = a ++ .two f t :: b
  | [], _, h => by cases h
  | .one y :: xs, g, h => by
    simp only [pairIn] at h
    split at h
    · cases h; exact ⟨[], y, xs, rfl, rfl⟩
    · obtain ⟨g', hp, rfl⟩ := Option.map_eq_some_iff.mp h
      obtain ⟨a, f, b, rfl, rfl⟩ := pairIn_some hp
      exact ⟨.one y :: a, f, b, rfl, rfl⟩
  | .two f' t' :: xs, g, h => by
    simp only [pairIn] at h
    obtain ⟨g', hp, rfl⟩ := Option.map_eq_some_iff.mp h
    obtain ⟨a, f, b, rfl, rfl⟩ := pairIn_some hp
    exact ⟨.two f' t' :: a, f, b, rfl, rfl⟩

theorem mem_groupStep_one {acc : List Grouped} {e r : LEv} (h : Grouped.one r ∈ groupStep acc e) :
    Grouped.one r ∈ acc ∨ r = e := by
  unfold groupStep at h
  split at h
  · split at h
    · next g hg =>
      obtain ⟨a, f, b, rfl, rfl⟩ := pairIn_some hg
      simp only [List.mem_append, List.mem_cons, reduceCtorEq, false_or] at h ⊢
      exact Or.inl (h.elim Or.inl (fun h => Or.inr (Or.inr h)))
    · simpa using h
  · simpa using h

theorem mem_group_one (l : List LEv) (r : LEv) (h : Grouped.one r ∈ group l) : r ∈ l := by
  have : ∀ (l' : List LEv) (acc : List Grouped), Grouped.one r ∈ l'.foldl groupStep acc → Grouped.one r ∈ acc ∨ r ∈ l' := by
    intro l'
    induction l' with
    | nil => intro acc h; exact Or.inl h
    | cons e rest ih =>
      intro acc h
      rcases ih _ h with h | h
      · exact (mem_groupStep_one h).elim Or.inl (fun h => Or.inr (h ▸ List.mem_cons_self ..))
      · exact Or.inr (List.mem_cons_of_mem _ h)
  exact (this l [] (group_eq_foldl l ▸ h)).resolve_left (by simp)

theorem group_append_fresh (l1 l2 : List LEv)
    (h : ∀ t ∈ l2, t.flag = .movedTo → ∀ f ∈ l1, f.flag = .movedFrom → f.cookie ≠ t.cookie) :
    group (l1 ++ l2) = group l1 ++ group l2 := by
  rw [group_eq_foldl, group_eq_foldl, group_eq_foldl, List.foldl_append]
  have := foldl_groupStep_append (l1.foldl groupStep []) l2 ?_ []
  · simpa using this
  · intro e he hf g hg
    cases g with
    | two _ _ => trivial
    | one r =>
      simp only
      rintro ⟨hr1, hr2⟩
      have hmem := mem_group_one l1 r (by rw [group_eq_foldl]; exact hg)
      exact h e he hf r hmem hr1 hr2

theorem gsOf_append_fresh (l1 l2 : List LEv)
    (h : ∀ t ∈ l2, t.flag = .movedTo → ∀ f ∈ l1, f.flag = .movedFrom → f.cookie ≠ t.cookie) :
    gsOf (l1 ++ l2) = gsOf l1 ++ gsOf l2 := by
  unfold gsOf; rw [group_append_fresh l1 l2 h, List.filter_append]

theorem movedOut_files_nil (levs : List LEv) (h : ∀ e ∈ levs, e.flag = .movedFrom → e.isDir = false) :
    movedOut (gsOf levs) = [] := by
  apply movedOut_nil_of
  intro g hg
  cases g with
  | two _ _ => trivial
  | one e =>
    simp only
    rintro ⟨h1, h2⟩
    rw [h e (mem_group_one levs e (List.mem_filter.1 hg).1) h1] at h2; cases h2

/-- what a burst needs to know about one file operation -/
structure FileOp (s : Sys) (op : Op) (fs1 : FS) (k1 : Kern) (recs : List NRec) (lib1 : Lib) (levs : List LEv)
    (evs : List PEv) : Prop where
  hk : kernelOp s.fs s.k op = (fs1, k1, recs)
  hck : s.k.nextCookie ≤ k1.nextCookie
  /-- the reader's work on these records depends neither on the file system nor on the kernel state it finds -/
  hl : ∀ fs' k', libBatch fs' k' s.lib recs = some (k', lib1, levs)
  hrec : lib1.recursive = true
  hfile : ∀ e ∈ levs, e.flag ≠ .ignored ∧ (e.flag = .movedFrom → e.isDir = false) ∧
    ((e.flag = .movedFrom ∨ e.flag = .movedTo) → s.k.nextCookie ≤ e.cookie ∧ e.cookie < k1.nextCookie)
  /-- … and neither does what the emitter makes of them -/
  hem : ∀ fs', emitAll fs' true s.full (gsOf levs) = (evs, false)
  hop : s.op op = ({ s with fs := fs1, k := k1, lib := lib1 }, evs)
  hinv : InvRec fs1 k1 lib1

theorem file_op_eq (s : Sys) (op : Op) (hs : s.stopped = false) (hc : s.crashed = false) {fs1 : FS} {k1 : Kern}
    {recs : List NRec} {lib1 : Lib} {levs : List LEv} {evs : List PEv} (hk : kernelOp s.fs s.k op = (fs1, k1, recs))
    (hl : libBatch fs1 k1 s.lib recs = some (k1, lib1, levs)) (hrec : lib1.recursive = true)
    (hfile : ∀ e ∈ levs, e.flag = .movedFrom → e.isDir = false)
    (hem : emitAll fs1 true s.full (gsOf levs) = (evs, false)) :
    s.op op = ({ s with fs := fs1, k := k1, lib := lib1 }, evs) := by
  have hop := Sys.op_eq s op hs hc hk hl (k3 := k1) (lib3 := lib1) (by rw [movedOut_files_nil levs hfile]; simp [forgetAll_nil])
  rw [hop, hrec, hem, hs]

theorem simple_of_valid (s : Sys) (op : Op) (inv : InvRec s.fs s.k s.lib) (hv : validOp s.fs op = true)
    (hk : simpleKind op = true) : ∃ fs1 recs path, SimpleOp s op fs1 recs path := by
  cases op with
  | create p => exact simple_create s p inv hv
  | write p => exact simple_write s p inv hv
  | chmod p => exact simple_chmod s p inv hv
  | unlink p => exact simple_unlink s p inv hv
  | _ => simp [simpleKind] at hk

theorem simpleFlag_plain {r : Bool} {f : Flag} {d : Bool} (h : simpleFlag r f d = true) :
    f ≠ .movedTo ∧ f ≠ .ignored ∧ f ≠ .movedFrom := by
  cases f <;> simp [simpleFlag] at h ⊢

theorem emit_simple_fs (fs fs' : FS) (full : Bool) (e : LEv) (h : simpleFlag true e.flag e.isDir = true) :
    emit fs true full (.one e) = emit fs' true full (.one e) := by
  cases hf : e.flag <;> simp [simpleFlag, hf] at h <;> simp [emit, hf]

theorem fileOp_of_simple (s : Sys) (op : Op) (inv : InvRec s.fs s.k s.lib) (hs : s.stopped = false) (hc : s.crashed = false)
    {fs1 : FS} {recs : List NRec} {path : NRec → P} (h : SimpleOp s op fs1 recs path) :
    FileOp s op fs1 s.k recs s.lib (recs.map (fun r => r.toLEv (path r)))
      (recs.flatMap (fun r => (emit fs1 true s.full (.one (r.toLEv (path r)))).1)) := by
  have hflags : ∀ e ∈ recs.map (fun r => r.toLEv (path r)), e.flag ≠ .movedTo ∧ e.flag ≠ .ignored ∧ e.flag ≠ .movedFrom := by
    intro e he
    obtain ⟨r, hr1, rfl⟩ := List.mem_map.mp he
    exact simpleFlag_plain (h.hr r hr1).1
  have hl : ∀ fs' k', libBatch fs' k' s.lib recs = some (k', s.lib, recs.map (fun r => r.toLEv (path r))) :=
    fun fs' k' => libBatch_simple fs' k' s.lib recs path (by rw [inv.isRec]; exact h.hr)
  have hem : ∀ fs', emitAll fs' true s.full (gsOf (recs.map (fun r => r.toLEv (path r)))) =
      (recs.flatMap (fun r => (emit fs1 true s.full (.one (r.toLEv (path r)))).1), false) := by
    intro fs'
    have hfs : ∀ r ∈ recs, emit fs' true s.full (.one (r.toLEv (path r))) = emit fs1 true s.full (.one (r.toLEv (path r))) :=
      fun r hr => emit_simple_fs fs' fs1 s.full _ (by simpa [NRec.toLEv] using (h.hr r hr).1)
    rw [gsOf_simple _ (fun e he => ⟨(hflags e he).1, (hflags e he).2.1⟩), emitAll_nostop]
    · simp only [List.flatMap_map]
      congr 1
      exact flatMap_congr' (fun r hr => by rw [hfs r hr])
    · intro g hg
      obtain ⟨e, he, rfl⟩ := List.mem_map.mp hg
      obtain ⟨r, hr1, rfl⟩ := List.mem_map.mp he
      rw [hfs r hr1]; exact h.hnostop r hr1
  refine ⟨h.hk, Nat.le_refl _, hl, inv.isRec, ?_, hem, ?_, inv.fs_change h.hwf h.hdirs⟩
  · intro e he
    obtain ⟨a, b, c⟩ := hflags e he
    exact ⟨b, fun x => absurd x c, fun x => x.elim (absurd · c) (absurd · a)⟩
  · exact file_op_eq s op hs hc h.hk (hl _ _) inv.isRec (fun e he x => absurd x (hflags e he).2.2) (hem _)

theorem rename_kernel_file {fs : FS} {k : Kern} {p q : P} {e : Ent} (ok : RenameOK fs p q e) (hfile : e.isDir = false) :
    kernelOp fs k (.rename p q) = (fs.renamed p q, { k with nextCookie := k.nextCookie + 1 },
      fromRecs fs k p false ++ toRecs fs k q false) := by
  rw [kernelOp_rename_quiet ok.he (renameVictim_file fun old ho => by rw [(ok.hold old ho).1, hfile]), hfile]

theorem fileOp_of_rename (s : Sys) (p q : P) (e : Ent) (inv : InvRec s.fs s.k s.lib) (hs : s.stopped = false)
    (hc : s.crashed = false) (ok : RenameOK s.fs p q e) (hfile : e.isDir = false) :
    ∃ recs lib1 levs evs, FileOp s (.rename p q) (s.fs.renamed p q) { s.k with nextCookie := s.k.nextCookie + 1 }
      recs lib1 levs evs := by
  have hpb := snoc_parent_base (ne_nil_of_two_le ok.hp2)
  have hqb := snoc_parent_base (ne_nil_of_two_le ok.hq2)
  have st := step_rename_static s p q e inv hs hc ok (Or.inl hfile)
  -- whatever the two parents queue: the drained step from the reader's and the emitter's results, the invariant from the step
  have build : ∀ {lib1 : Lib} {levs : List LEv} {evs : List PEv},
      (∀ fs' k', libBatch fs' k' s.lib (fromRecs s.fs s.k p false ++ toRecs s.fs s.k q false) = some (k', lib1, levs)) →
      lib1.recursive = true →
      (∀ x ∈ levs, x.flag ≠ .ignored ∧ x.isDir = false ∧ x.cookie = s.k.nextCookie) →
      (∀ fs', emitAll fs' true s.full (gsOf levs) = (evs, false)) →
      ∃ recs lib1 levs evs, FileOp s (.rename p q) (s.fs.renamed p q) { s.k with nextCookie := s.k.nextCookie + 1 }
        recs lib1 levs evs := by
    intro lib1 levs evs hl hrec hlevs hem
    have hk := rename_kernel_file (k := s.k) ok hfile
    have hop := file_op_eq s _ hs hc hk (hl _ _) hrec (fun x hx _ => (hlevs x hx).2.1) (hem _)
    have hinv : InvRec (s.fs.renamed p q) { s.k with nextCookie := s.k.nextCookie + 1 } lib1 := by
      have h1 := st.stop
      rw [hop] at h1
      have := st.inv (by rw [← h1]; exact hs)
      rw [hop] at this
      exact this
    refine ⟨_, _, _, _, ⟨hk, by simp, hl, hrec, ?_, hem, hop, hinv⟩⟩
    intro x hx
    obtain ⟨a, b, c⟩ := hlevs x hx
    exact ⟨a, fun _ => b, fun _ => by rw [c]; simp⟩
  rcases inv.parent_recs p with ⟨_, wdp, hp1, _, hrp⟩ | ⟨_, hrp⟩ <;>
  rcases inv.parent_recs q with ⟨_, wdq, hq1, _, hrq⟩ | ⟨_, hrq⟩
  · -- inside → inside: the two halves are paired
    refine build (lib1 := s.lib.remember s.k.nextCookie p) ?_ inv.isRec
      (levs := [⟨wdp, .movedFrom, false, s.k.nextCookie, some (baseName p), p⟩, ⟨wdq, .movedTo, false, s.k.nextCookie, some (baseName q), q⟩])
      (evs := [mkEv .FileMovedEvent p q, mkEv .DirModifiedEvent (parentOf p), mkEv .DirModifiedEvent (parentOf q)]) ?_ ?_
    · intro fs' k'
      simp only [fromRecs, toRecs, hrp, hrq, List.cons_append, List.nil_append]
      rw [libBatch_cons, libRecord_from _ _ _ _ _ _ _ _ hp1, hpb]
      simp only
      rw [libBatch_cons, libRecord_to_paired_file _ _ _ _ _ _ _ _ hq1 (ok.not_key_of_file inv hfile), hqb]
      simp [libBatch_nil]
    · intro x hx; simp at hx
      rcases hx with rfl | rfl <;> simp
    · intro fs'
      rw [gsOf_pair]
      · simp [emitAll_cons, emitAll_nil, emit]
      all_goals rfl
  · -- out of the tree
    refine build (lib1 := s.lib.remember s.k.nextCookie p) ?_ inv.isRec
      (levs := [⟨wdp, .movedFrom, false, s.k.nextCookie, some (baseName p), p⟩])
      (evs := (emit s.fs true s.full (.one ⟨wdp, .movedFrom, false, s.k.nextCookie, some (baseName p), p⟩)).1) ?_ ?_
    · intro fs' k'
      simp only [fromRecs, toRecs, hrp, hrq, List.append_nil]
      rw [libBatch_cons, libRecord_from _ _ _ _ _ _ _ _ hp1, hpb]
      simp [libBatch_nil]
    · intro x hx; simp at hx; subst hx; simp
    · intro fs'; rw [gsOf_one _ (by simp)]; cases s.full <;> simp [emitAll_cons, emitAll_nil, emit]
  · -- into the tree
    refine build (lib1 := s.lib) ?_ inv.isRec
      (levs := [⟨wdq, .movedTo, false, s.k.nextCookie, some (baseName q), q⟩])
      (evs := (emit s.fs true s.full (.one ⟨wdq, .movedTo, false, s.k.nextCookie, some (baseName q), q⟩)).1) ?_ ?_
    · intro fs' k'
      simp only [fromRecs, toRecs, hrp, hrq, List.nil_append]
      rw [libBatch_cons, libRecord_to_lone_file _ _ _ _ _ _ _ hq1 inv.cookies, hqb]
      simp [libBatch_nil]
    · intro x hx; simp at hx; subst hx; simp
    · intro fs'; rw [gsOf_one _ (by simp)]; cases s.full <;> simp [emitAll_cons, emitAll_nil, emit]
  · -- nothing of this is seen
    exact build (lib1 := s.lib) (levs := []) (evs := [])
      (fun _ _ => by simp only [fromRecs, toRecs, hrp, hrq, List.append_nil, libBatch_nil]) inv.isRec (by simp) (fun _ => by simp [gsOf, group, emitAll_nil])

/-- every operation of the burst is valid when it is issued, and a file operation -/
def allFile (s : Sys) : List Op → Bool
  | [] => true
  | op :: rest => validOp s.fs op && fileKind s.fs op && allFile (s.op op).1 rest

theorem fileOp_of_valid (s : Sys) (op : Op) (inv : InvRec s.fs s.k s.lib) (hs : s.stopped = false) (hc : s.crashed = false)
    (hv : validOp s.fs op = true) (hk : fileKind s.fs op = true) :
    ∃ fs1 k1 recs lib1 levs evs, FileOp s op fs1 k1 recs lib1 levs evs := by
  by_cases hsimple : simpleKind op = true
  · obtain ⟨fs1, recs, path, h⟩ := simple_of_valid s op inv hv hsimple
    exact ⟨_, _, _, _, _, _, fileOp_of_simple s op inv hs hc h⟩
  · cases op with
    | rename p q =>
      obtain ⟨e, ok⟩ := renameOK_of_valid hv
      have hfile : e.isDir = false := by
        simp only [fileKind] at hk
        obtain ⟨f, hf, hff⟩ := FS.isFile_iff.mp hk
        rw [ok.he] at hf; cases hf; exact hff
      obtain ⟨recs, lib1, levs, evs, h⟩ := fileOp_of_rename s p q e inv hs hc ok hfile
      exact ⟨_, _, _, _, _, _, h⟩
    | _ => simp [fileKind] at hk <;> simp [hk] at hsimple

theorem kernelOps_files (ops : List Op) : ∀ (s : Sys), InvRec s.fs s.k s.lib → s.stopped = false → s.crashed = false →
    allFile s ops = true →
    ∃ fsN kN recs libN levs,
      kernelOps s.fs s.k ops = (fsN, kN, recs) ∧
      (s.run ops).1 = { s with fs := fsN, k := kN, lib := libN } ∧
      (∀ fs' k', libBatch fs' k' s.lib recs = some (k', libN, levs)) ∧
      libN.recursive = true ∧
      (∀ e ∈ levs, e.flag ≠ .ignored ∧ (e.flag = .movedFrom → e.isDir = false) ∧
        ((e.flag = .movedFrom ∨ e.flag = .movedTo) → s.k.nextCookie ≤ e.cookie)) ∧
      (∀ fs', emitAll fs' true s.full (gsOf levs) = ((s.run ops).2.flatten, false)) := by
  induction ops with
  | nil =>
    intro s inv _ _ _
    exact ⟨s.fs, s.k, [], s.lib, [], rfl, rfl, fun _ _ => rfl, inv.isRec, by simp, fun _ => by simp [gsOf, group, emitAll_nil, Sys.run]⟩
  | cons op rest ih =>
    intro s inv hs hc hv
    simp only [allFile, Bool.and_eq_true] at hv
    obtain ⟨⟨hvalid, hkind⟩, hrest⟩ := hv
    obtain ⟨fs1, k1, r1, lib1, l1, ev1, hF⟩ := fileOp_of_valid s op inv hs hc hvalid hkind
    have hop := hF.hop
    rw [hop] at hrest
    obtain ⟨fsN, kN, r2, libN, l2, hk2, hrun2, hl2, hrecN, hfile2, hem2⟩ :=
      ih ({ s with fs := fs1, k := k1, lib := lib1 } : Sys) hF.hinv hs hc hrest
    refine ⟨fsN, kN, r1 ++ r2, libN, l1 ++ l2, ?_, ?_, ?_, hrecN, ?_, ?_⟩
    · exact kernelOps_cons hF.hk hk2
    · simp only [Sys.run, hop]
      exact hrun2
    · intro fs' k'
      rw [libBatch_append fs' k' s.lib r1 r2 (hF.hl fs' k')]
      have := hl2 fs' k'
      simp only at this
      rw [this]
    · intro e he
      rcases List.mem_append.1 he with h | h
      · obtain ⟨a, b, c⟩ := hF.hfile e h
        exact ⟨a, b, fun x => (c x).1⟩
      · obtain ⟨a, b, c⟩ := hfile2 e h
        exact ⟨a, b, fun x => Nat.le_trans hF.hck (c x)⟩
    · intro fs'
      have hfresh : ∀ t ∈ l2, t.flag = .movedTo → ∀ f ∈ l1, f.flag = .movedFrom → f.cookie ≠ t.cookie := by
        intro t ht htf f hf hff
        have h1 := ((hF.hfile f hf).2.2 (Or.inl hff)).2
        have h2 := (hfile2 t ht).2.2 (Or.inr htf)
        simp only at h2
        omega
      rw [gsOf_append_fresh l1 l2 hfresh, emitAll_append _ _ _ _ _ (by rw [hF.hem fs'])]
      have h2 := hem2 fs'
      simp only at h2
      rw [hF.hem fs', h2]
      simp [Sys.run, hop]

/-- **back-to-back regime, file operations**: a burst of file operations - creations, writes, attribute changes,
    removals, renames, replacements by rename, moves of files out of and into the tree - that the reader sees as ONE batch
    after the last of them leaves the observer in the same state and delivers the same events, in the same order, as the
    same operations drained one by one -/
theorem burst_files (s : Sys) (ops : List Op) (inv : InvRec s.fs s.k s.lib) (hs : s.stopped = false)
    (hc : s.crashed = false) (hv : allFile s ops = true) :
    s.burst ops = ((s.run ops).1, (s.run ops).2.flatten) := by
  obtain ⟨fsN, kN, recs, libN, levs, hk, hrun, hl, hrecN, hfile, hem⟩ := kernelOps_files ops s inv hs hc hv
  rw [hrun]
  exact Sys.burst_eq s ops hs hc hk (hl fsN kN) hrecN rfl (hem fsN) (movedOut_files_nil levs (fun e he => (hfile e he).2.1))

/-- every operation of the burst is valid when it is issued, and of a simple kind -/
def allSimple (s : Sys) : List Op → Bool
  | [] => true
  | op :: rest => validOp s.fs op && simpleKind op && allSimple (s.op op).1 rest

theorem allFile_of_allSimple (ops : List Op) : ∀ s : Sys, allSimple s ops = true → allFile s ops = true := by
  induction ops with
  | nil => intro _ _; rfl
  | cons op rest ih =>
    intro s h
    simp only [allSimple, Bool.and_eq_true] at h
    have hk : fileKind s.fs op = true := by
      cases op with
      | rename p q => simp [simpleKind] at h
      | _ => exact h.1.2
    simp only [allFile, h.1.1, hk, ih _ h.2, Bool.and_self]

/-- **back-to-back regime, simple operations**: a burst of file creations, writes, attribute changes and file removals
    that the reader sees as ONE batch after the last of them leaves the observer in the same state and delivers the same
    events, in the same order, as the same operations drained one by one -/
theorem burst_simple (s : Sys) (ops : List Op) (inv : InvRec s.fs s.k s.lib) (hs : s.stopped = false)
    (hc : s.crashed = false) (hv : allSimple s ops = true) :
    s.burst ops = ((s.run ops).1, (s.run ops).2.flatten) :=
  burst_files s ops inv hs hc (allFile_of_allSimple ops s hv)

theorem allValid_of_allFile (ops : List Op) : ∀ s : Sys, allFile s ops = true → allValid s ops = true := by
  induction ops with
  | nil => intro _ _; rfl
  | cons op rest ih =>
    intro s h
    simp only [allFile, Bool.and_eq_true] at h
    simp only [allValid, Bool.and_eq_true]
    exact ⟨h.1.1, ih _ h.2⟩

theorem run_append (s : Sys) (a b : List Op) :
    s.run (a ++ b) = (((s.run a).1.run b).1, (s.run a).2 ++ ((s.run a).1.run b).2) := by
  induction a generalizing s with
  | nil => simp [Sys.run]
  | cons o rest ih => simp only [List.cons_append, Sys.run, ih, List.cons_append]

end WD.Pipe
