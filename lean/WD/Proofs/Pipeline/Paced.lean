/- paced histories under a recursive watch: any mixture of drained operations, bursts of file operations and nested
   creation bursts, each burst read as one batch -/
import WD.Proofs.Pipeline.BurstGrow
import WD.Proofs.Pipeline.BurstFiles
import WD.Proofs.Pipeline.BurstMkRename
import WD.Proofs.Pipeline.BurstMoveIn
import WD.Proofs.Pipeline.BurstChain
import WD.Proofs.Pipeline.ReplayRun
namespace WD.Pipe

theorem burst_single (s : Sys) (op : Op) : s.burst [op] = ((s.run [op]).1, (s.run [op]).2.flatten) := by
  simp only [Sys.burst, Sys.run, Sys.op, kernelOps, List.append_nil, List.flatten_cons, List.flatten_nil]
  rcases kernelOp s.fs s.k op with ⟨fs1, k1, recs⟩
  simp only
  split
  · rfl
  · cases libBatch fs1 k1 s.lib recs with
    | none => rfl
    | some x =>
      obtain ⟨k2, lib2, levs⟩ := x
      simp only [List.length_singleton, departed_one]
      cases forgetAll fs1 k2 lib2 (if lib2.recursive = true then movedOut (gsOf levs) else []) <;> rfl

theorem allFile_no_root (ops : List Op) : ∀ s : Sys, allFile s ops = true → Op.rmdir ["W"] ∉ ops := by
  induction ops with
  | nil => intro _ _; simp
  | cons o rest ih =>
    intro s h
    simp only [allFile, Bool.and_eq_true] at h
    intro hmem
    rcases List.mem_cons.mp hmem with hm | hm
    · subst hm; simp [fileKind, simpleKind] at h
    · exact ih _ h.2 hm

/-- the kinds of burst the theorems cover: file operations, a populate burst, one operation of any kind (but the removal
    of the root), `mkdir; rename`, a directory moved in and renamed at once, a directory renamed twice in a row -/
def okBurst (s : Sys) (b : List Op) : Prop :=
  allFile s b = true ∨ allFill s.fs b = true ∨ (∃ op, b = [op] ∧ validOp s.fs op = true ∧ op ≠ .rmdir ["W"]) ∨
  (∃ p q, b = [.mkdir p, .rename p q] ∧ validOp s.fs (.mkdir p) = true ∧ 2 ≤ q.length ∧ s.fs.exists q = false ∧ p ≠ q ∧
    s.fs.isDir (parentOf q) = true ∧ watchedDir s.fs true (parentOf p) = true ∧ watchedDir s.fs true (parentOf q) = true) ∨
  (∃ o q1 q2 e, b = [.rename o q1, .rename q1 q2] ∧ RenameOK s.fs o q1 e ∧ RenameOK s.fs o q2 e ∧ e.isDir = true ∧
    s.fs.find? q1 = none ∧ s.fs.find? q2 = none ∧ q1 ≠ q2 ∧ isUnder q1 q2 = false ∧
    watchedDir s.fs true (parentOf o) = false ∧ watchedDir s.fs true (parentOf q1) = true ∧ watchedDir s.fs true (parentOf q2) = true) ∨
  (∃ a b1 c e, b = [.rename a b1, .rename b1 c] ∧ RenameOK s.fs a b1 e ∧ RenameOK s.fs a c e ∧ e.isDir = true ∧
    s.fs.find? b1 = none ∧ s.fs.find? c = none ∧ b1 ≠ c ∧ isUnder b1 c = false ∧
    watchedDir s.fs true (parentOf a) = true ∧ watchedDir s.fs true (parentOf b1) = true ∧ watchedDir s.fs true (parentOf c) = true)

def pacedOK (s : Sys) : List (List Op) → Prop
  | [] => True
  | b :: rest => okBurst s b ∧ pacedOK (s.burst b).1 rest

theorem paced_step (s : Sys) (b : List Op) (inv : InvRec s.fs s.k s.lib) (hs : s.stopped = false) (hc : s.crashed = false)
    (hok : okBurst s b) :
    InvRec (s.burst b).1.fs (s.burst b).1.k (s.burst b).1.lib ∧ (s.burst b).1.stopped = false ∧
    (s.burst b).1.crashed = false ∧ sameTree (replay (treeW s.fs) (s.burst b).2) (treeW (s.burst b).1.fs) := by
  have drained : s.burst b = ((s.run b).1, (s.run b).2.flatten) → allValid s b = true → Op.rmdir ["W"] ∉ b →
      InvRec (s.burst b).1.fs (s.burst b).1.k (s.burst b).1.lib ∧ (s.burst b).1.stopped = false ∧
      (s.burst b).1.crashed = false ∧ sameTree (replay (treeW s.fs) (s.burst b).2) (treeW (s.burst b).1.fs) := by
    intro he hv hroot
    obtain ⟨r1, r2, r3⟩ := run_keeps s b inv hs hc hv hroot
    rw [he]
    refine ⟨r1, r2, r3, ?_⟩
    simp only
    rw [(run_rec s b inv hs hc hv).1, run_fs]
    exact replay_run inv.wf s.full b (by rw [← allValid_eq_fsValid]; exact hv) hroot
  rcases hok with h | h | ⟨op, rfl, hv, hne⟩ | ⟨p, q, rfl, h1, h2, h3, h4, h5, h6, h7⟩ |
    ⟨o, q1, q2, e, rfl, k1, k2, k3, k4, k5, k6, k7, k8, k9, k10⟩ | ⟨a, b1, c, e, rfl, m1, m2, m3, m4, m5, m6, m7, m8, m9, m10⟩
  · exact drained (burst_files s b inv hs hc h) (allValid_of_allFile b s h) (allFile_no_root b s h)
  · obtain ⟨h1, h2, h3, h4, h5, _⟩ := burst_grow s b inv hs hc h
    exact ⟨h4, h2, h3, by rw [h1]; exact h5⟩
  · exact drained (burst_single s op) (by simp [allValid, hv]) (by simpa using fun h => hne h.symm)
  · obtain ⟨_, _, a3, a4, a5⟩ := burst_mkdir_rename s p q inv hs hc h1 h2 h3 h4 h5 h6 h7
    exact ⟨a5, a3, a4, (burst_mkdir_rename_replay s p q inv hs hc h1 h2 h3 h4 h5 h6 h7).2⟩
  · obtain ⟨a1, a2, a3, a4, a5⟩ := burst_movein_rename_state s o q1 q2 e inv hs hc k1 k2 k3 k4 k5 k6 k7 k8 k9 k10
    refine ⟨a5, a3, a4, ?_⟩
    rw [a1, a2]
    exact burst_movein_rename_replay s o q1 q2 e inv.wf k1 k2 k3 k4 k5 k6 k7 k8 k10 s.full
  · obtain ⟨a1, a2, a3, a4, a5⟩ := burst_rename_chain_state s a b1 c e inv hs hc m1 m2 m3 m4 m5 m6 m7 m8 m9 m10
    refine ⟨a5, a3, a4, ?_⟩
    rw [a1, a2]
    exact burst_rename_chain_replay s.fs a b1 c e inv.wf m1 m2 m3 m4 m5 m6 m7 m10

/-- **paced histories**: any sequence of bursts - single (drained) operations of every kind, bursts of file operations,
    nested creation bursts - each read as one batch: the reader never crashes, the emitter keeps running, the invariant
    holds after every burst, and replaying everything delivered on the initial tree gives the final tree -/
theorem paced_run (bs : List (List Op)) : ∀ (s : Sys), InvRec s.fs s.k s.lib → s.stopped = false → s.crashed = false →
    pacedOK s bs →
    InvRec (s.runBursts bs).1.fs (s.runBursts bs).1.k (s.runBursts bs).1.lib ∧ (s.runBursts bs).1.stopped = false ∧
    (s.runBursts bs).1.crashed = false ∧
    sameTree (replay (treeW s.fs) (s.runBursts bs).2.flatten) (treeW (s.runBursts bs).1.fs) := by
  induction bs with
  | nil => intro s inv hs hc _; exact ⟨inv, hs, hc, sameTree_refl _⟩
  | cons b rest ih =>
    intro s inv hs hc hok
    obtain ⟨i1, i2, i3, i4⟩ := paced_step s b inv hs hc hok.1
    obtain ⟨j1, j2, j3, j4⟩ := ih (s.burst b).1 i1 i2 i3 hok.2
    simp only [Sys.runBursts, List.flatten_cons, replay_append]
    exact ⟨j1, j2, j3, sameTree_trans (sameTree_replay i4 _) j4⟩

theorem allFile_of_check (s : Sys) (ops : List Op) (h : allFileB s ops = true) : allFile s ops = true := by
  have gen : ∀ (ops : List Op) (t : Sys) (b : Bool),
      (ops.foldl (fun (acc : FS × Bool) op => ((kernelOp acc.1 s.k op).1, acc.2 && validOp acc.1 op && fileKind acc.1 op)) (t.fs, b)).2 = true →
      b = true ∧ allFile t ops = true := by
    intro ops
    induction ops with
    | nil => intro t b h; exact ⟨h, rfl⟩
    | cons op rest ih =>
      intro t b h
      simp only [List.foldl_cons] at h
      have hfs : (kernelOp t.fs s.k op).1 = (t.op op).1.fs := by
        rw [Sys.op_fs, fsAfter, kernelOp_fs t.fs s.k ⟨[], 1, 1⟩]
      rw [hfs] at h
      obtain ⟨h1, h2⟩ := ih _ _ h
      simp only [Bool.and_eq_true] at h1
      exact ⟨h1.1.1, by simp only [allFile, h1.1.2, h1.2, Bool.true_and]; exact h2⟩
  exact (gen ops s true h).2

theorem renameOK_pair_of_check {fs : FS} {a b c : P} (h1 : fs.isDir a = true) (h2 : 2 ≤ a.length) (h3 : 2 ≤ b.length)
    (h4 : 2 ≤ c.length) (h5 : fs.exists b = false) (h6 : fs.exists c = false) (h7 : fs.isDir (parentOf b) = true)
    (h8 : fs.isDir (parentOf c) = true) (h9 : a ≠ b) (h10 : a ≠ c) (h11 : isUnder a b = false) (h12 : isUnder a c = false) :
    ∃ e, RenameOK fs a b e ∧ RenameOK fs a c e ∧ e.isDir = true ∧ fs.find? b = none ∧ fs.find? c = none := by
  obtain ⟨e, he, hed⟩ := FS.isDir_iff.mp h1
  have f1 := find?_none_of_exists_false h5
  have f2 := find?_none_of_exists_false h6
  exact ⟨e, ⟨h2, h3, he, h7, h9, h11, fun old ho => by rw [f1] at ho; cases ho⟩,
    ⟨h2, h4, he, h8, h10, h12, fun old ho => by rw [f2] at ho; cases ho⟩, hed, f1, f2⟩

theorem okBurst_of_check (s : Sys) (b : List Op) (h : okBurstB s b = true) : okBurst s b := by
  simp only [okBurstB, Bool.or_eq_true] at h
  rcases h with ((((h | h) | h) | h) | h) | h
  · exact Or.inl (allFile_of_check s b h)
  · exact Or.inr (Or.inl (allFill_of_check s b h))
  · unfold mkRenameB at h
    split at h
    · next p p' q =>
      simp only [Bool.and_eq_true, beq_iff_eq, decide_eq_true_eq, Bool.not_eq_true', bne_iff_ne, ne_eq] at h
      obtain ⟨⟨⟨⟨⟨⟨⟨rfl, a1⟩, a2⟩, a3⟩, a4⟩, a5⟩, a6⟩, a7⟩ := h
      exact Or.inr (Or.inr (Or.inr (Or.inl ⟨p, q, rfl, a1, a2, a3, a4, a5, a6, a7⟩)))
    · cases h
  · unfold moveInRenameB at h
    split at h
    · next o q1 q1' q2 =>
      simp only [Bool.and_eq_true, beq_iff_eq, decide_eq_true_eq, Bool.not_eq_true', bne_iff_ne, ne_eq] at h
      obtain ⟨⟨⟨⟨⟨⟨⟨⟨⟨⟨⟨⟨⟨⟨⟨⟨⟨rfl, b1⟩, b2⟩, b3⟩, b4⟩, b5⟩, b6⟩, b7⟩, b8⟩, b9⟩, b10⟩, b11⟩, b12⟩, b13⟩, b14⟩, b15⟩, b16⟩, b17⟩ := h
      obtain ⟨e, ok1, ok2, hed, f1, f2⟩ := renameOK_pair_of_check b1 b2 b3 b4 b5 b6 b7 b8 b9 b10 b11 b12
      exact Or.inr (Or.inr (Or.inr (Or.inr (Or.inl ⟨o, q1, q2, e, rfl, ok1, ok2, hed, f1, f2, b13, b14, b15, b16, b17⟩))))
    · cases h
  · unfold renameChainB at h
    split at h
    · next a b1 b1' c =>
      simp only [Bool.and_eq_true, beq_iff_eq, decide_eq_true_eq, Bool.not_eq_true', bne_iff_ne, ne_eq] at h
      obtain ⟨⟨⟨⟨⟨⟨⟨⟨⟨⟨⟨⟨⟨⟨⟨⟨⟨rfl, b1'⟩, b2⟩, b3⟩, b4⟩, b5⟩, b6⟩, b7⟩, b8⟩, b9⟩, b10⟩, b11⟩, b12⟩, b13⟩, b14⟩, b15⟩, b16⟩, b17⟩ := h
      obtain ⟨e, ok1, ok2, hed, f1, f2⟩ := renameOK_pair_of_check b1' b2 b3 b4 b5 b6 b7 b8 b9 b10 b11 b12
      exact Or.inr (Or.inr (Or.inr (Or.inr (Or.inr ⟨a, b1, c, e, rfl, ok1, ok2, hed, f1, f2, b13, b14, b15, b16, b17⟩))))
    · cases h
  · match b, h with
    | [op], h =>
      simp only [Bool.and_eq_true, bne_iff_ne, ne_eq] at h
      exact Or.inr (Or.inr (Or.inl ⟨op, rfl, h.1, h.2⟩))

theorem pacedOK_of_check (bs : List (List Op)) : ∀ s : Sys, pacedOKB s bs = true → pacedOK s bs := by
  induction bs with
  | nil => intro _ _; trivial
  | cons b rest ih =>
    intro s h
    simp only [pacedOKB, Bool.and_eq_true] at h
    exact ⟨okBurst_of_check s b h.1, ih _ h.2⟩

end WD.Pipe
