/- non-recursive watch: ANY burst of operations (directories included) read as one batch = drained one by one.
   A non-recursive watch has one kernel watch (the root's) and never looks at the file system: nothing it does depends on
   when it reads. -/
import WD.Proofs.Pipeline.FilterFlat
import WD.Proofs.Pipeline.BurstFiles
import WD.Proofs.Pipeline.Theorems
namespace WD.Pipe

theorem kernelOp_cookies (fs : FS) (k : Kern) (op : Op) :
    k.nextCookie ≤ (kernelOp fs k op).2.1.nextCookie ∧
    ∀ r ∈ (kernelOp fs k op).2.2, isMove r.flag = true →
      k.nextCookie ≤ r.cookie ∧ r.cookie < (kernelOp fs k op).2.1.nextCookie := by
  obtain ⟨h1, h2⟩ := kernelOp_moves fs k op
  refine ⟨h1, fun r hr hm => ?_⟩
  obtain ⟨_, hc, hlt⟩ := h2 r hr hm
  rw [hc]; exact ⟨Nat.le_refl _, hlt⟩

theorem libBatch_flat_indep (fs : FS) (recs : List NRec) : ∀ (k : Kern) (a : Lib), FlatMaps a → (∀ r ∈ recs, named r) →
    ∀ (k1 : Kern) (a1 : Lib) (levs : List LEv), libBatch fs k a recs = some (k1, a1, levs) →
    k1 = k ∧ levs = recs.map (fun r => r.toLEv ["W"]) ∧ FlatMaps a1 ∧
    ∀ fs' k', libBatch fs' k' a recs = some (k', a1, levs) := by
  induction recs with
  | nil =>
    intro k a fa _ k1 a1 levs h
    cases h
    exact ⟨rfl, rfl, fa, fun _ _ => rfl⟩
  | cons r rest ih =>
    intro k a fa hn k1 a1 levs h
    obtain ⟨kx, ax, evs, more, h1, h2, rfl⟩ := libBatch_cons_some.1 h
    have hw := fa.wd h1
    rw [libRecord_flat_eq fs k fa hw] at h1
    cases h1
    obtain ⟨e1, e2, e3, e4⟩ := ih k (flatLib a r) (fa.step (hn r (List.mem_cons_self ..)))
      (fun x hx => hn x (List.mem_cons_of_mem _ hx)) k1 a1 more h2
    exact ⟨e1, by rw [e2]; rfl, e3,
      fun fs' k' => libBatch_cons_some.2 ⟨_, _, _, _, libRecord_flat_eq fs' k' fa hw, e4 fs' k', rfl⟩⟩

theorem emit_flat_fs (fs fs' : FS) (full : Bool) (g : Grouped) : emit fs false full g = emit fs' false full g := by
  cases g with
  | two f t => simp [emit]
  | one e =>
    obtain ⟨wd, flag, isDir, cookie, name, src⟩ := e
    cases flag <;> first | rfl | (cases isDir <;> rfl)

theorem emitAll_flat_fs (fs fs' : FS) (full : Bool) (gs : List Grouped) : emitAll fs false full gs = emitAll fs' false full gs := by
  unfold emitAll
  congr 1
  funext acc g
  simp only [emitStep, emit_flat_fs fs fs' full g]

/-- one drained operation of a non-recursive watch, spelled out -/
structure FlatOp (s : Sys) (op : Op) (fs1 : FS) (k1 : Kern) (recs : List NRec) (lib1 : Lib) (evs : List PEv) : Prop where
  hk : kernelOp s.fs s.k op = (fs1, k1, recs)
  hl : ∀ fs' k', libBatch fs' k' s.lib recs = some (k', lib1, recs.map (fun r => r.toLEv ["W"]))
  hem : ∀ fs', emitAll fs' false s.full (gsOf (recs.map (fun r => r.toLEv ["W"]))) = (evs, false)
  hop : s.op op = ({ s with fs := fs1, k := k1, lib := lib1 }, evs)
  hinv : InvFlat fs1 k1 lib1

theorem flatOp_of_valid (s : Sys) (op : Op) (inv : InvFlat s.fs s.k s.lib) (hs : s.stopped = false) (hc : s.crashed = false)
    (hv : validOp s.fs op = true) (hne : op ≠ .rmdir ["W"]) :
    ∃ fs1 k1 recs lib1 evs, FlatOp s op fs1 k1 recs lib1 evs := by
  have st := step_flat s op inv hs hc hv
  have hcs : (contract s.fs false s.full op).2 = false := by
    cases h : (contract s.fs false s.full op).2
    · rfl
    · exact absurd ((contract_stop_iff s.fs false s.full op).mp h) hne
  rcases hker : kernelOp s.fs s.k op with ⟨fs1, k1, recs⟩
  have hnamed : ∀ r ∈ recs, named r := by
    intro r hr; exact kernelOp_named s.fs s.k op r (by rw [hker]; exact hr)
  have fa := inv.flatMaps
  have hnc := st.ncrash
  unfold Sys.op at hnc
  simp only [hker, hs, hc, Bool.or_self, Bool.false_eq_true, if_false] at hnc
  cases hlb : libBatch fs1 k1 s.lib recs with
  | none => simp [hlb] at hnc
  | some x =>
    obtain ⟨k2, lib2, levs⟩ := x
    obtain ⟨rfl, rfl, fa2, hind⟩ := libBatch_flat_indep fs1 recs k1 s.lib fa hnamed k2 lib2 levs hlb
    have hr2 : lib2.recursive = false := fa2.notRec
    have hf : forgetAll fs1 k2 lib2 (if lib2.recursive then movedOut (gsOf (recs.map (fun r => r.toLEv ["W"]))) else []) =
        some (k2, lib2) := by rw [hr2]; simp [forgetAll_nil]
    have hop := Sys.op_eq s op hs hc hker hlb hf
    rw [hr2] at hop
    have hstop : (emitAll fs1 false s.full (gsOf (recs.map (fun r => r.toLEv ["W"])))).2 = false := by
      have := st.stop
      rw [hop, hcs] at this
      exact this
    have hop' : s.op op = ({ s with fs := fs1, k := k2, lib := lib2 },
        (emitAll fs1 false s.full (gsOf (recs.map (fun r => r.toLEv ["W"])))).1) := by
      rw [hop, hstop, hs]
    refine ⟨fs1, k2, recs, lib2, _, ⟨hker, hind, ?_, hop', ?_⟩⟩
    · intro fs'
      rw [emitAll_flat_fs fs' fs1]
      exact Prod.ext rfl hstop
    · have := st.inv hcs
      rw [hop'] at this
      exact this

/-- every operation is valid when it is issued; none removes the watched root -/
def allValidNoRoot (s : Sys) : List Op → Bool
  | [] => true
  | op :: rest => validOp s.fs op && (op != .rmdir ["W"]) && allValidNoRoot (s.op op).1 rest

theorem kernelOps_flat (ops : List Op) : ∀ (s : Sys), InvFlat s.fs s.k s.lib → s.stopped = false → s.crashed = false →
    allValidNoRoot s ops = true →
    ∃ fsN kN recs libN,
      kernelOps s.fs s.k ops = (fsN, kN, recs) ∧
      (s.run ops).1 = { s with fs := fsN, k := kN, lib := libN } ∧
      (∀ fs' k', libBatch fs' k' s.lib recs = some (k', libN, recs.map (fun r => r.toLEv ["W"]))) ∧
      libN.recursive = false ∧
      (∀ r ∈ recs, isMove r.flag = true → s.k.nextCookie ≤ r.cookie ∧ r.cookie < kN.nextCookie) ∧
      s.k.nextCookie ≤ kN.nextCookie ∧
      (∀ fs', emitAll fs' false s.full (gsOf (recs.map (fun r => r.toLEv ["W"]))) = ((s.run ops).2.flatten, false)) := by
  induction ops with
  | nil =>
    intro s inv _ _ _
    exact ⟨s.fs, s.k, [], s.lib, rfl, rfl, fun _ _ => rfl, inv.notRec, by simp, Nat.le_refl _,
      fun _ => by simp [gsOf, group, emitAll_nil, Sys.run]⟩
  | cons op rest ih =>
    intro s inv hs hc hv
    simp only [allValidNoRoot, Bool.and_eq_true, bne_iff_ne, ne_eq] at hv
    obtain ⟨⟨hvalid, hne⟩, hrest⟩ := hv
    obtain ⟨fs1, k1, r1, lib1, ev1, hF⟩ := flatOp_of_valid s op inv hs hc hvalid hne
    have hop := hF.hop
    rw [hop] at hrest
    obtain ⟨fsN, kN, r2, libN, hk2, hrun2, hl2, hrecN, hck2, hle2, hem2⟩ :=
      ih ({ s with fs := fs1, k := k1, lib := lib1 } : Sys) hF.hinv hs hc hrest
    have hcook := kernelOp_cookies s.fs s.k op
    rw [hF.hk] at hcook
    obtain ⟨hle1, hck1⟩ := hcook
    refine ⟨fsN, kN, r1 ++ r2, libN, ?_, ?_, ?_, hrecN, ?_, ?_, ?_⟩
    · simp only [kernelOps, hF.hk]
      have : kernelOps fs1 k1 rest = (fsN, kN, r2) := hk2
      rw [this]
    · simp only [Sys.run, hop]
      exact hrun2
    · intro fs' k'
      rw [libBatch_append fs' k' s.lib r1 r2 (hF.hl fs' k')]
      have := hl2 fs' k'
      simp only at this
      rw [this]; simp
    · intro r hr hm
      rcases List.mem_append.1 hr with h | h
      · have := hck1 r h hm
        simp only at this hle2
        exact ⟨this.1, by omega⟩
      · have := hck2 r h hm
        simp only at this hle1
        exact ⟨by omega, this.2⟩
    · simp only at hle1 hle2; omega
    · intro fs'
      have hfresh : ∀ t ∈ r2.map (fun r => r.toLEv ["W"]), t.flag = .movedTo →
          ∀ f ∈ r1.map (fun r => r.toLEv ["W"]), f.flag = .movedFrom → f.cookie ≠ t.cookie := by
        intro t ht htf f hf hff
        obtain ⟨rt, hrt, rfl⟩ := List.mem_map.1 ht
        obtain ⟨rf, hrf, rfl⟩ := List.mem_map.1 hf
        simp only [NRec.toLEv] at htf hff ⊢
        have h1 := (hck1 rf hrf (by simp [isMove, hff])).2
        have h2 := (hck2 rt hrt (by simp [isMove, htf])).1
        simp only at h1 h2
        omega
      rw [List.map_append, gsOf_append_fresh _ _ hfresh, emitAll_append _ _ _ _ _ (by rw [hF.hem fs'])]
      have h2 := hem2 fs'
      simp only at h2
      rw [hF.hem fs', h2]
      simp [Sys.run, hop]

/-- **back-to-back regime, non-recursive watch**: ANY burst of valid operations that does not remove the watched root -
    files and directories, created, removed, renamed, moved in and out, at any depth - read as ONE batch after the last of
    them leaves the observer in the same state and delivers the same events, in the same order, as the same operations
    drained one by one: a non-recursive watch has one kernel watch, never changes its maps, generates no synthetic events
    and so never looks at the file system; only the pairing of moves could depend on the batching, and the kernel's
    cookies are fresh per rename -/
theorem burst_flat (s : Sys) (ops : List Op) (inv : InvFlat s.fs s.k s.lib) (hs : s.stopped = false)
    (hc : s.crashed = false) (hv : allValidNoRoot s ops = true) :
    s.burst ops = ((s.run ops).1, (s.run ops).2.flatten) := by
  obtain ⟨fsN, kN, recs, libN, hk, hrun, hl, hrecN, _, _, hem⟩ := kernelOps_flat ops s inv hs hc hv
  unfold Sys.burst
  simp only [hk, hs, hc, Bool.or_self, Bool.false_eq_true, if_false, hl fsN kN, hrecN, hem fsN, forgetAll_nil, hrun]

end WD.Pipe
