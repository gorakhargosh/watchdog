/- operations kind by kind: the contract's events, the entry a valid operation names, the file system after it -/
import WD.Proofs.Pipeline.Step
namespace WD.Pipe

variable {fs : FS} {p : P} {e : Ent}

section
variable (fs : FS) (r full : Bool) (p : P)

theorem contract_create : contract fs r full (.create p) =
    (if watchedDir fs r (parentOf p) then
      [mkEv .FileCreatedEvent p, dirMod p, mkEv .FileOpenedEvent p, mkEv .FileClosedEvent p, dirMod p] else [], false) := rfl
theorem contract_write : contract fs r full (.write p) =
    (if watchedDir fs r (parentOf p) then
      [mkEv .FileOpenedEvent p, mkEv .FileModifiedEvent p, mkEv .FileClosedEvent p, dirMod p] else [], false) := rfl
theorem contract_mkdir : contract fs r full (.mkdir p) =
    (if watchedDir fs r (parentOf p) then [mkEv .DirCreatedEvent p, dirMod p] else [], false) := rfl
theorem contract_unlink : contract fs r full (.unlink p) =
    (if watchedDir fs r (parentOf p) && fs.exists p then evDeleted false p else [], false) := rfl
theorem contract_rmdir : contract fs r full (.rmdir p) =
    if p == ["W"] then ([mkEv .DirDeletedEvent p], true)
    else (if watchedDir fs r (parentOf p) && fs.exists p then evDeleted true p else [], false) := rfl
theorem contract_chmod {fs : FS} {p : P} {e : Ent} (he : fs.find? p = some e) : contract fs r full (.chmod p) =
    ((if e.isDir && watchedDir fs r p then [mkEv .DirModifiedEvent p] else []) ++
     (if watchedDir fs r (parentOf p) then [mkEv (if e.isDir then .DirModifiedEvent else .FileModifiedEvent) p] else []), false) := by
  simp only [contract, he]
theorem contract_rmtreeOrd {fs : FS} {p : P} {e : Ent} (he : fs.find? p = some e) (order : List P) :
    contract fs r full (.rmtreeOrd p order) = (contractRemovals fs r (order.filterMap fs.find? ++ [e]), false) := by
  simp only [contract, he, Option.toList_some]

end

theorem ne_top_of_two_le {p : P} (h : 2 ≤ p.length) (n : String) : p ≠ [n] := by
  rintro rfl; cases Nat.not_succ_le_self _ h

theorem FS.WF.parent_dir (hwf : fs.WF) (he : fs.find? p = some e) (hp : 2 ≤ p.length) : fs.isDir (parentOf p) = true := by
  have hem := FS.find?_some he
  rcases hwf.parent hem.1 with h | h | h <;> rw [hem.2] at h
  · exact absurd h (ne_top_of_two_le hp _)
  · exact absurd h (ne_top_of_two_le hp _)
  · exact h.2

/-- `write` and `unlink` ask for a file; the two top directories are none -/
theorem FS.WF.file (hwf : fs.WF) (h : fs.isFile p = true) : ∃ f, fs.find? p = some f ∧ f.isDir = false ∧ 2 ≤ p.length := by
  obtain ⟨f, hf, hfile⟩ := FS.isFile_iff.mp h
  have hfm := FS.find?_some hf
  have hnd : fs.isDir p = false := by simp [FS.isDir, hf, hfile]
  refine ⟨f, hf, hfile, ?_⟩
  rcases hwf.parent hfm.1 with h | h | h <;> rw [hfm.2] at h
  · rw [h, hwf.rootW] at hnd; cases hnd
  · rw [h, hwf.rootO] at hnd; cases hnd
  · exact h.1

theorem validOp_create {fs : FS} {p : P} (h : validOp fs (.create p) = true) :
    2 ≤ p.length ∧ fs.exists p = false ∧ fs.isDir (parentOf p) = true := by
  have := h; simp [validOp] at this; exact ⟨this.1.1, this.1.2, this.2⟩

theorem validOp_mkdir {fs : FS} {p : P} (h : validOp fs (.mkdir p) = true) :
    2 ≤ p.length ∧ fs.exists p = false ∧ fs.isDir (parentOf p) = true := by
  have := h; simp [validOp] at this; exact ⟨this.1.1, this.1.2, this.2⟩

theorem validOp_chmod (h : validOp fs (.chmod p) = true) : 2 ≤ p.length ∧ ∃ e, fs.find? p = some e := by
  simp only [validOp, Bool.and_eq_true, decide_eq_true_eq] at h
  exact ⟨h.1, FS.exists_iff.mp h.2⟩

theorem validOp_rmdir (h : validOp fs (.rmdir p) = true) :
    ∃ e, fs.find? p = some e ∧ e.isDir = true ∧ (2 ≤ p.length ∨ p = ["W"]) ∧ (fs.children p).isEmpty = true := by
  simp only [validOp, Bool.and_eq_true, Bool.or_eq_true, decide_eq_true_eq, beq_iff_eq] at h
  obtain ⟨e, he, hd⟩ := FS.isDir_iff.mp h.1.2
  exact ⟨e, he, hd, h.1.1, h.2⟩

theorem removeEntry_fs (fs : FS) (k : Kern) (e : Ent) : (removeEntry fs k e).1 = fs.del e.path := rfl

theorem fsAfter_chmod (fs : FS) (p : P) : fsAfter fs (.chmod p) = fs := by
  simp only [fsAfter, kernelOp]; cases fs.find? p <;> rfl
theorem fsAfter_unlink (he : fs.find? p = some e) : fsAfter fs (.unlink p) = fs.del p := by
  simp only [fsAfter, kernelOp, he, removeEntry_fs, (FS.find?_some he).2]
theorem fsAfter_rmdir (he : fs.find? p = some e) : fsAfter fs (.rmdir p) = fs.del p := by
  simp only [fsAfter, kernelOp, he, removeEntry_fs, (FS.find?_some he).2]

end WD.Pipe
