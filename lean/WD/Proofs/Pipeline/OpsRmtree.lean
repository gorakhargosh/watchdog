/- recursive delete under a recursive watch -/
import WD.Proofs.Pipeline.OpsDir
namespace WD.Pipe

theorem removeAll_acc (es : List Ent) (fs : FS) (k : Kern) (acc : List NRec) :
    es.foldl (fun (a : FS × Kern × List NRec) x =>
      let (fs1, k1, r) := removeEntry a.1 a.2.1 x
      (fs1, k1, a.2.2 ++ r)) (fs, k, acc) =
    ((removeAll fs k es).1, (removeAll fs k es).2.1, acc ++ (removeAll fs k es).2.2) := by
  induction es generalizing fs k acc with
  | nil => simp [removeAll]
  | cons e rest ih =>
    simp only [removeAll, List.foldl_cons, List.nil_append]
    rw [ih, ih (acc := (removeEntry fs k e).2.2)]
    simp [List.append_assoc]

theorem removeAll_nil (fs : FS) (k : Kern) : removeAll fs k [] = (fs, k, []) := rfl

theorem removeAll_cons (fs : FS) (k : Kern) (e : Ent) (rest : List Ent) :
    removeAll fs k (e :: rest) =
      ((removeAll (removeEntry fs k e).1 (removeEntry fs k e).2.1 rest).1,
       (removeAll (removeEntry fs k e).1 (removeEntry fs k e).2.1 rest).2.1,
       (removeEntry fs k e).2.2 ++ (removeAll (removeEntry fs k e).1 (removeEntry fs k e).2.1 rest).2.2) := by
  conv => lhs; unfold removeAll
  simp only [List.foldl_cons, List.nil_append]
  rw [removeAll_acc]

/-- the entries can be removed one after the other: each is there, is not a top directory, and is a leaf
    when its turn comes -/
def EChain : FS → List Ent → Prop
  | _, [] => True
  | fs, e :: rest => e ∈ fs.ents ∧ 2 ≤ e.path.length ∧ (fs.del e.path).WF ∧ EChain (fs.del e.path) rest

def inTreePath (d : P) : Bool := d == ["W"] || isUnder ["W"] d

theorem watchedDir_parent_of_mem {fs : FS} (hwf : fs.WF) {e : Ent} (he : e ∈ fs.ents) (h2 : 2 ≤ e.path.length) :
    watchedDir fs true (parentOf e.path) = inTreePath (parentOf e.path) := by
  rcases hwf.parent he with h | h | h
  · rw [h] at h2; simp at h2
  · rw [h] at h2; simp at h2
  · simp [watchedDir, inTreePath, h.2]

theorem removeAll_ok {fs : FS} {k : Kern} {lib : Lib} (inv : InvRec fs k lib) (es : List Ent) (hch : EChain fs es) :
    ∃ lib' levs,
      (∀ fsX kX, libBatch fsX kX lib (removeAll fs k es).2.2 = some (kX, lib', levs)) ∧
      InvRec (removeAll fs k es).1 (removeAll fs k es).2.1 lib' ∧
      (∀ l ∈ levs, l.flag = .deleteSelf ∨ l.flag = .ignored ∨ l.flag = .delete) ∧
      (∀ l ∈ levs, l.flag = .deleteSelf → l.src ≠ ["W"]) ∧
      (∀ fsX full, (levs.filter (fun l => l.flag != .ignored)).flatMap (fun l => (emit fsX true full (.one l)).1) =
        es.flatMap (fun e => if inTreePath (parentOf e.path) then evDeleted e.isDir e.path else [])) := by
  induction es generalizing fs k lib with
  | nil =>
    exact ⟨lib, [], by intro fsX kX; rfl, by simpa [removeAll_nil] using inv, by simp, by simp, by simp⟩
  | cons e rest ih =>
    obtain ⟨he, h2, hwf', hrest⟩ := hch
    obtain ⟨lib1, levs1, ok⟩ := removeEntry_step inv he h2 hwf'
    have inv1 := ok.inv
    rw [← ok.fsEq] at inv1 hrest
    obtain ⟨lib2, levs2, hb2, inv2, fl2, nr2, ev2⟩ := ih inv1 hrest
    refine ⟨lib2, levs1 ++ levs2, ?_, ?_, ?_, ?_, ?_⟩
    · intro fsX kX
      rw [removeAll_cons]
      simp only
      rw [libBatch_append fsX kX lib _ _ (ok.batch fsX kX), hb2 fsX kX]
    · rw [removeAll_cons]; exact inv2
    · intro l hl
      rcases List.mem_append.mp hl with h | h
      · exact ok.flags l h
      · exact fl2 l h
    · intro l hl
      rcases List.mem_append.mp hl with h | h
      · exact ok.notRoot l h
      · exact nr2 l h
    · intro fsX full
      rw [List.filter_append, List.flatMap_append, ok.events fsX full, ev2 fsX full, List.flatMap_cons,
        watchedDir_parent_of_mem inv.wf he h2]

theorem echain_of_order (p : P) (hp2 : 2 ≤ p.length) (ep : Ent) (hepp : ep.path = p) :
    ∀ (rem : List Ent) (fs : FS), fs.WF → ep ∈ fs.ents →
      (∀ a ∈ rem, isUnder p a.path = true ∧ a ∈ fs.ents) →
      (∀ x ∈ fs.ents, isUnder p x.path = true → x ∈ rem) →
      (rem.map Ent.path).Pairwise (fun a b => isUnder a b = false) → (rem.map Ent.path).Nodup →
      EChain fs (rem ++ [ep]) := by
  intro rem
  induction rem with
  | nil =>
    intro fs hwf hep _ hdesc _ _
    refine ⟨hep, hepp ▸ hp2, ?_, trivial⟩
    rw [hepp]
    apply hwf.del hp2
    intro x hx
    by_cases hl : x.path.length < 2
    · exact Or.inr hl
    · left; intro hpar
      have hnn : x.path ≠ [] := by intro h; rw [h] at hl; simp at hl
      have := hdesc x hx (isUnder_of_parent hnn (Or.inl hpar))
      cases this
  | cons a rest ih =>
    intro fs hwf hep hrem hdesc hpw hnd
    simp only [List.map_cons, List.pairwise_cons, List.nodup_cons] at hpw hnd
    have ha := hrem a (List.mem_cons_self ..)
    have ha2 : 2 ≤ a.path.length := by have := isUnder_length ha.1; omega
    have hleaf : ∀ x ∈ fs.ents, parentOf x.path ≠ a.path ∨ x.path.length < 2 := by
      intro x hx
      by_cases hl : x.path.length < 2
      · exact Or.inr hl
      · left; intro hpar
        have hnn : x.path ≠ [] := by intro h; rw [h] at hl; simp at hl
        have hxa : isUnder a.path x.path = true := isUnder_of_parent hnn (Or.inl hpar)
        have hxp : isUnder p x.path = true := isUnder_trans ha.1 hxa
        have hxr := hdesc x hx hxp
        rcases List.mem_cons.mp hxr with h | h
        · subst h; rw [isUnder_irrefl] at hxa; cases hxa
        · have := hpw.1 x.path (List.mem_map.mpr ⟨x, h, rfl⟩)
          rw [hxa] at this; cases this
    have hwf' := hwf.del ha2 hleaf
    refine ⟨ha.2, ha2, hwf', ?_⟩
    apply ih (fs.del a.path) hwf'
    · exact FS.mem_del.mpr ⟨hep, by rw [hepp]; exact isUnder_ne ha.1⟩
    · intro b hb
      have hb' := hrem b (List.mem_cons_of_mem _ hb)
      refine ⟨hb'.1, FS.mem_del.mpr ⟨hb'.2, ?_⟩⟩
      intro hh; exact hnd.1 (hh ▸ List.mem_map.mpr ⟨b, hb, rfl⟩)
    · intro x hx hxp
      obtain ⟨hx1, hx2⟩ := FS.mem_del.mp hx
      rcases List.mem_cons.mp (hdesc x hx1 hxp) with h | h
      · subst h; exact absurd rfl hx2
      · exact h
    · exact hpw.2
    · exact hnd.2

theorem filterMap_find_paths {fs : FS} (order : List P) (h : ∀ q ∈ order, fs.exists q = true) :
    (order.filterMap fs.find?).map Ent.path = order := by
  induction order with
  | nil => rfl
  | cons q rest ih =>
    obtain ⟨e, he⟩ := FS.exists_iff.mp (h q (List.mem_cons_self ..))
    simp only [List.filterMap_cons, he, List.map_cons, (FS.find?_some he).2]
    rw [ih (fun x hx => h x (List.mem_cons_of_mem _ hx))]

theorem mem_filterMap_find {fs : FS} {order : List P} {e : Ent} (h : e ∈ order.filterMap fs.find?) :
    e ∈ fs.ents ∧ e.path ∈ order := by
  obtain ⟨q, hq, he⟩ := List.mem_filterMap.mp h
  have := FS.find?_some he
  exact ⟨this.1, this.2 ▸ hq⟩

variable {fs : FS} {p : P} {e : Ent} {order : List P}

theorem mem_removeAll_fs (es : List Ent) (fs : FS) (k : Kern) (x : Ent) :
    x ∈ (removeAll fs k es).1.ents ↔ x ∈ fs.ents ∧ x.path ∉ es.map Ent.path := by
  induction es generalizing fs k with
  | nil => simp [removeAll_nil]
  | cons e rest ih =>
    rw [removeAll_cons, ih, removeEntry_fs, FS.mem_del, List.map_cons, List.mem_cons, not_or, and_assoc]

theorem echain_wf (es : List Ent) (fs : FS) (k : Kern) (hwf : fs.WF) (h : EChain fs es) : (removeAll fs k es).1.WF := by
  induction es generalizing fs k with
  | nil => exact hwf
  | cons e rest ih =>
    rw [removeAll_cons]
    exact ih _ _ h.2.2.1 h.2.2.2

/-- the conditions under which `rmtree p` succeeds when what lies below `p` goes in the order `order` -/
structure RmtreeOK (fs : FS) (p : P) (order : List P) (e : Ent) : Prop where
  hp2 : 2 ≤ p.length
  he : fs.find? p = some e
  below : ∀ q ∈ order, isUnder p q = true ∧ fs.exists q = true
  all : ∀ x ∈ fs.ents, isUnder p x.path = true → x.path ∈ order
  nodup : order.Nodup
  deepFirst : order.Pairwise (fun a b => isUnder a b = false)


theorem rmtreeOK_of_valid (h : validOp fs (.rmtreeOrd p order) = true) : ∃ e, RmtreeOK fs p order e := by
  simp only [validOp, validRmtree, Bool.and_eq_true, decide_eq_true_eq, List.all_eq_true] at h
  obtain ⟨⟨⟨⟨⟨hp2, hdir⟩, hall⟩, hdesc⟩, hnd⟩, hpw⟩ := h
  obtain ⟨e, he, _⟩ := FS.isDir_iff.mp hdir
  refine ⟨e, hp2, he, hall, fun x hx hu => ?_, hnd, hpw⟩
  exact List.contains_iff_mem.mp (hdesc x (List.mem_filter.mpr ⟨hx, hu⟩))

theorem RmtreeOK.mem_ents (ok : RmtreeOK fs p order e) (hwf : fs.WF) {x : Ent} :
    x ∈ order.filterMap fs.find? ++ [e] ↔ x ∈ fs.ents ∧ (x.path = p ∨ isUnder p x.path = true) := by
  have hem := FS.find?_some ok.he
  rw [List.mem_append, List.mem_singleton]
  constructor
  · rintro (h | rfl)
    · obtain ⟨h1, h2⟩ := mem_filterMap_find h
      exact ⟨h1, Or.inr (ok.below _ h2).1⟩
    · exact ⟨hem.1, Or.inl hem.2⟩
  · rintro ⟨hx, h | h⟩
    · exact Or.inr (hwf.path_inj hx hem.1 (h.trans hem.2.symm))
    · exact Or.inl (List.mem_filterMap.mpr ⟨x.path, ok.all x hx h, hwf.find_mem hx⟩)

theorem RmtreeOK.two_le (ok : RmtreeOK fs p order e) {x : P} (h : x = p ∨ isUnder p x = true) : 2 ≤ x.length := by
  rcases h with rfl | h
  · exact ok.hp2
  · exact Nat.le_of_lt (Nat.lt_of_le_of_lt ok.hp2 (isUnder_length h))

theorem RmtreeOK.chain (ok : RmtreeOK fs p order e) (hwf : fs.WF) : EChain fs (order.filterMap fs.find? ++ [e]) := by
  have hem := FS.find?_some ok.he
  have hpaths := filterMap_find_paths (fs := fs) order (fun q hq => (ok.below q hq).2)
  apply echain_of_order p ok.hp2 e hem.2 _ fs hwf hem.1
  · intro a ha
    obtain ⟨h1, h2⟩ := mem_filterMap_find ha
    exact ⟨(ok.below _ h2).1, h1⟩
  · intro x hx hxp
    exact List.mem_filterMap.mpr ⟨x.path, ok.all x hx hxp, hwf.find_mem hx⟩
  · rw [hpaths]; exact ok.deepFirst
  · rw [hpaths]; exact ok.nodup

theorem RmtreeOK.fs_after (ok : RmtreeOK fs p order e) :
    fsAfter fs (.rmtreeOrd p order) = (removeAll fs ⟨[], 1, 1⟩ (order.filterMap fs.find? ++ [e])).1 := by
  simp only [fsAfter, kernelOp, ok.he]

theorem RmtreeOK.mem_after (ok : RmtreeOK fs p order e) (hwf : fs.WF) {x : Ent} :
    x ∈ (fsAfter fs (.rmtreeOrd p order)).ents ↔ x ∈ fs.ents ∧ x.path ≠ p ∧ isUnder p x.path = false := by
  rw [ok.fs_after, mem_removeAll_fs, List.mem_map, ← Bool.not_eq_true, ← not_or]
  refine and_congr_right fun hx => not_congr ⟨?_, fun h => ⟨x, (ok.mem_ents hwf).mpr ⟨hx, h⟩, rfl⟩⟩
  rintro ⟨x', hx', h⟩
  rw [← h]; exact ((ok.mem_ents hwf).mp hx').2

theorem step_rmtreeOrd (s : Sys) (p : P) (order : List P) (inv : InvRec s.fs s.k s.lib) (hs : s.stopped = false)
    (hc : s.crashed = false) (hv : validOp s.fs (.rmtreeOrd p order) = true) : StepRec s (.rmtreeOrd p order) := by
  obtain ⟨e, ok⟩ := rmtreeOK_of_valid hv
  obtain ⟨lib', levs, hb, inv', fl, nr, ev⟩ := removeAll_ok inv _ (ok.chain inv.wf)
  have hk : kernelOp s.fs s.k (.rmtreeOrd p order) =
      ((removeAll s.fs s.k (order.filterMap s.fs.find? ++ [e])).1, (removeAll s.fs s.k (order.filterMap s.fs.find? ++ [e])).2.1,
       (removeAll s.fs s.k (order.filterMap s.fs.find? ++ [e])).2.2) := by
    simp only [kernelOp, ok.he]
  apply step_removals s _ hs hc hk (hb _ _) fl nr
  · rw [ev, contract_rmtreeOrd true s.full ok.he, contractRemovals]
    apply flatMap_congr'
    intro x hx
    obtain ⟨hxm, hxp⟩ := (ok.mem_ents inv.wf).mp hx
    rw [watchedDir_parent_of_mem inv.wf hxm (ok.two_le hxp)]
  · rw [contract_rmtreeOrd true s.full ok.he]
  · exact inv'

theorem step_rmtree (s : Sys) (p : P) (inv : InvRec s.fs s.k s.lib) (hs : s.stopped = false)
    (hc : s.crashed = false) (hv : validOp s.fs (.rmtree p) = true) : StepRec s (.rmtree p) :=
  -- `rmtree p` is `rmtreeOrd p (canonOrder s.fs p)` by definition, for the kernel and for the contract
  have h := step_rmtreeOrd s p (canonOrder s.fs p) inv hs hc hv
  ⟨h.events, h.stop, h.ncrash, h.full, h.inv⟩

end WD.Pipe
