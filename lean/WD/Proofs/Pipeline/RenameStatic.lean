/- renames that move no directory of the tree: files (inside, in, out), and anything that stays outside -/
import WD.Proofs.Pipeline.Rename
namespace WD.Pipe

variable {fs : FS} {k : Kern} {lib : Lib} {p q : P} {e : Ent}

theorem fsAfter_rename (ok : RenameOK fs p q e) : fsAfter fs (.rename p q) = fs.renamed p q := by
  rw [fsAfter, kernelOp_rename _ ok.he]

theorem contract_rename_any (r full : Bool) (ok : RenameOK fs p q e) :
    contract fs r full (.rename p q) =
      if watchedDir fs r (parentOf p) && watchedDir fs r (parentOf q) then
        ([mkEv (movedCls e.isDir) p q, dirMod p, dirMod q] ++
         (if e.isDir && r then subMoved (fs.renamed p q) p q else []) ++ renameTail fs r q, false)
      else if watchedDir fs r (parentOf p) then
        ((if full then [mkEv (movedCls e.isDir) p [], dirMod p] else evDeleted e.isDir p) ++ renameTail fs r q, false)
      else if watchedDir fs r (parentOf q) then
        ((if full then [mkEv (movedCls e.isDir) [] q] else [mkEv (createdCls e.isDir) q]) ++ [dirMod q] ++
         (if e.isDir && r then subCreated (fs.renamed p q) q else []) ++ renameTail fs r q, false)
      else ([], false) := by
  simp only [contract, ok.he, fsAfter_rename ok]

theorem contract_rename (fs : FS) (full : Bool) (p q : P) (e : Ent) (ok : RenameOK fs p q e) :
    contract fs true full (.rename p q) =
      if watchedDir fs true (parentOf p) && watchedDir fs true (parentOf q) then
        ([mkEv (movedCls e.isDir) p q, dirMod p, dirMod q] ++
         (if e.isDir then subMoved (fs.renamed p q) p q else []) ++ renameTail fs true q, false)
      else if watchedDir fs true (parentOf p) then
        ((if full then [mkEv (movedCls e.isDir) p [], dirMod p] else evDeleted e.isDir p) ++ renameTail fs true q, false)
      else if watchedDir fs true (parentOf q) then
        ((if full then [mkEv (movedCls e.isDir) [] q] else [mkEv (createdCls e.isDir) q]) ++ [dirMod q] ++
         (if e.isDir then subCreated (fs.renamed p q) q else []) ++ renameTail fs true q, false)
      else ([], false) := by
  simp only [contract_rename_any true full ok, Bool.and_true]

theorem RenameOK.not_key_of_file (ok : RenameOK fs p q e) (inv : InvRec fs k lib) (hfile : e.isDir = false) :
    lookupP lib.wdForPath p = none := by
  cases h : lookupP lib.wdForPath p with
  | none => rfl
  | some wd =>
    obtain ⟨x, hx, hxp, hxt, _⟩ := inv.key_dir h
    have hem := FS.find?_some ok.he
    have := inv.wf.path_inj hx hem.1 (hxp.trans hem.2.symm); subst this
    simp [inTreeDir, hfile] at hxt

theorem step_rename_static (s : Sys) (p q : P) (e : Ent) (inv : InvRec s.fs s.k s.lib) (hs : s.stopped = false)
    (hc : s.crashed = false) (ok : RenameOK s.fs p q e)
    (hstatic : e.isDir = false ∨ (watchedDir s.fs true (parentOf p) = false ∧ watchedDir s.fs true (parentOf q) = false)) :
    StepRec s (.rename p q) := by
  obtain ⟨z, k0, rrep, hk, inv0, hck, hz⟩ := rename_kernel inv ok
  obtain ⟨rfl, rfl, htail⟩ : z = none ∧ rrep = [] ∧ renameTail s.fs true q = [] := by
    rcases hz with h | ⟨wd, _, hd, hwq, _⟩
    · exact h
    · rcases hstatic with h | h
      · rw [h] at hd; cases hd
      · rw [h.2] at hwq; cases hwq
  have hpb := snoc_parent_base (ne_nil_of_two_le ok.hp2)
  have hqb := snoc_parent_base (ne_nil_of_two_le ok.hq2)
  have invR : InvRec (s.fs.renamed p q) { k0 with nextCookie := s.k.nextCookie + 1 } s.lib :=
    (inv0.fs_change (ok.wf inv.wf) (ok.static_dirs inv.wf hstatic)).bump _ (by omega)
  have hcon := contract_rename s.fs s.full p q e ok
  rw [htail] at hcon
  simp only [List.append_nil, fromRecs, toRecs] at hk
  have hfile : watchedDir s.fs true (parentOf p) = true ∨ watchedDir s.fs true (parentOf q) = true → e.isDir = false := by
    intro hw
    rcases hstatic with h | h
    · exact h
    · rw [h.1, h.2] at hw; simp at hw
  rcases inv.parent_recs p with ⟨hwp, wdp, hp1, _, hrp⟩ | ⟨hwp, hrp⟩ <;>
  rcases inv.parent_recs q with ⟨hwq, wdq, hq1, _, hrq⟩ | ⟨hwq, hrq⟩ <;>
  rw [hrp, hrq] at hk
  · -- inside → inside
    have hf := hfile (Or.inl hwp)
    rw [hf] at hk
    refine StepOK.toRec <| StepOK.of_quiet s _ hs hc hk (lib2 := s.lib.remember s.k.nextCookie p)
      (levs := [⟨wdp, .movedFrom, false, s.k.nextCookie, some (baseName p), p⟩, ⟨wdq, .movedTo, false, s.k.nextCookie, some (baseName q), q⟩])
      ?_ inv.isRec (fun _ => ?_) ?_ (fun _ => invR.remember s.k.nextCookie p (Nat.lt_succ_self _))
    · rw [List.singleton_append, libBatch_cons, libRecord_from _ _ _ _ _ _ _ _ hp1, hpb]
      simp only
      rw [libBatch_cons, libRecord_to_paired_file _ _ _ _ _ _ _ _ hq1 (ok.not_key_of_file inv hf), hqb]
      rfl
    · rw [gsOf_pair _ _ (by rfl) (by rfl) (by rfl)]; rfl
    · rw [gsOf_pair _ _ (by rfl) (by rfl) (by rfl), hcon]
      simp [emitAll_cons, emitAll_nil, emit, hwp, hwq, hf, dirMod, mkEv, movedCls]
  · -- out of the tree
    have hf := hfile (Or.inl hwp)
    rw [hf, List.append_nil] at hk
    refine StepOK.toRec <| StepOK.of_quiet s _ hs hc hk (lib2 := s.lib.remember s.k.nextCookie p)
      (levs := [⟨wdp, .movedFrom, false, s.k.nextCookie, some (baseName p), p⟩]) ?_ inv.isRec (fun _ => ?_) ?_ (fun _ => invR.remember s.k.nextCookie p (Nat.lt_succ_self _))
    · rw [libBatch_cons, libRecord_from _ _ _ _ _ _ _ _ hp1, hpb]; rfl
    · rw [gsOf_one _ (by simp)]; rfl
    · rw [gsOf_one _ (by simp), hcon]
      cases s.full <;> simp [emitAll_cons, emitAll_nil, emit, hwp, hwq, hf, dirMod, mkEv, movedCls, evDeleted]
  · -- into the tree
    have hf := hfile (Or.inr hwq)
    rw [hf, List.nil_append] at hk
    refine StepOK.toRec <| StepOK.of_quiet s _ hs hc hk (levs := [⟨wdq, .movedTo, false, s.k.nextCookie, some (baseName q), q⟩])
      ?_ inv.isRec (fun _ => ?_) ?_ (fun _ => invR)
    · rw [libBatch_cons, libRecord_to_lone_file _ _ _ _ _ _ _ hq1 inv.cookies, hqb]; rfl
    · rw [gsOf_one _ (by simp)]; rfl
    · rw [gsOf_one _ (by simp), hcon]
      cases s.full <;> simp [emitAll_cons, emitAll_nil, emit, hwp, hwq, hf, dirMod, mkEv, movedCls, createdCls]
  · -- nothing of this is seen
    refine StepOK.toRec <| StepOK.of_quiet s _ hs hc hk (libBatch_nil _ _ _) inv.isRec (fun _ => rfl) ?_ (fun _ => invR)
    rw [hcon]; simp [hwp, hwq]; rfl

end WD.Pipe
