/- the pipeline invariant (recursive watch) and what it says about single records -/
import WD.Proofs.Pipeline.FSFacts
namespace WD.Pipe

/-- kernel watches, `_path_for_wd` and `_wd_for_path` are one bijection between watch descriptors and
    the directories that exist at or below the root, under their real current paths -/
structure InvOn (cov : Ent → Prop) (z : Option Nat) (fs : FS) (k : Kern) (lib : Lib) : Prop where
  wf : fs.WF
  isRec : lib.recursive = true
  kwd : (k.watches.map (·.1)).Nodup
  kino : (k.watches.map (·.2)).Nodup
  klt : ∀ w ∈ k.watches, w.1 < k.nextWd
  good : ∀ w ∈ k.watches, ∃ e ∈ fs.ents, e.ino = w.2 ∧ inTreeDir e = true ∧
           lookupW lib.pathForWd w.1 = some e.path ∧ lookupP lib.wdForPath e.path = some w.1
  cover : ∀ e ∈ fs.ents, inTreeDir e = true → cov e → ∃ wd, (wd, e.ino) ∈ k.watches
  pfwDom : ∀ wd p, lookupW lib.pathForWd wd = some p → (∃ ino, (wd, ino) ∈ k.watches) ∨ z = some wd
  zlt : ∀ w, z = some w → w < k.nextWd
  zdead : ∀ w ∈ k.watches, z ≠ some w.1
  wfpInv : ∀ p wd, lookupP lib.wdForPath p = some wd → lookupW lib.pathForWd wd = some p
  wfpNodup : (lib.wdForPath.map (·.1)).Nodup
  pfwNodup : (lib.pathForWd.map (·.1)).Nodup
  cookies : ∀ x ∈ lib.movedFrom, x.1 < k.nextCookie

/-- the invariant proper: every directory of the tree is covered (C02) -/
abbrev InvRec (fs : FS) (k : Kern) (lib : Lib) : Prop := InvOn (fun _ => True) none fs k lib

variable {fs : FS} {k : Kern} {lib : Lib} {cov : Ent → Prop} {z : Option Nat}

theorem InvOn.watched (inv : InvOn cov z fs k lib) {e : Ent} (he : e ∈ fs.ents) (hd : inTreeDir e = true) (hc : cov e) :
    ∃ wd, k.wdOfIno e.ino = some wd ∧ (wd, e.ino) ∈ k.watches ∧ lookupW lib.pathForWd wd = some e.path ∧
      lookupP lib.wdForPath e.path = some wd := by
  obtain ⟨wd, hw⟩ := inv.cover e he hd hc
  obtain ⟨e', he', hi, _, h1, h2⟩ := inv.good _ hw
  have : e' = e := inv.wf.ino_inj he' he hi
  subst this
  exact ⟨wd, wdOfIno_of_mem inv.kino hw, hw, h1, h2⟩

theorem InvOn.unwatched (inv : InvOn cov z fs k lib) {e : Ent} (he : e ∈ fs.ents) (hd : inTreeDir e = false) :
    k.wdOfIno e.ino = none := by
  rw [wdOfIno_none]
  intro w hw hi
  obtain ⟨e', he', hi', hd', _⟩ := inv.good w hw
  have : e' = e := inv.wf.ino_inj he' he (hi'.trans hi)
  subst this
  rw [hd] at hd'; cases hd'

theorem InvOn.watch_ino_lt (inv : InvOn cov z fs k lib) {w : Nat × Nat} (hw : w ∈ k.watches) : w.2 < fs.nextIno := by
  obtain ⟨e', he', hi', _⟩ := inv.good w hw
  rw [← hi']; exact inv.wf.inoLt he'

theorem InvOn.fresh_unwatched (inv : InvOn cov z fs k lib) : k.wdOfIno fs.nextIno = none := by
  rw [wdOfIno_none]
  intro w hw hi
  have := inv.watch_ino_lt hw
  omega

theorem InvOn.key_dir (inv : InvOn cov none fs k lib) {p : P} {wd : Nat} (h : lookupP lib.wdForPath p = some wd) :
    ∃ e ∈ fs.ents, e.path = p ∧ inTreeDir e = true ∧ (wd, e.ino) ∈ k.watches := by
  have h1 := inv.wfpInv p wd h
  obtain ⟨ino, hw⟩ := (inv.pfwDom wd p h1).resolve_right (by simp)
  obtain ⟨e, he, hi, hd, h2, _⟩ := inv.good _ hw
  simp only at hi h2
  rw [h1] at h2
  refine ⟨e, he, (Option.some.inj h2).symm, hd, ?_⟩
  rw [hi]; exact hw

theorem inTreeDir_iff {e : Ent} : inTreeDir e = true ↔ e.isDir = true ∧ (e.path = ["W"] ∨ isUnder ["W"] e.path = true) := by
  unfold inTreeDir; simp

theorem watchedDir_rec_iff {fs : FS} {d : P} :
    watchedDir fs true d = true ↔ ∃ e, fs.find? d = some e ∧ inTreeDir e = true := by
  unfold watchedDir
  constructor
  · intro h
    simp only [Bool.and_eq_true, Bool.or_eq_true, beq_iff_eq, Bool.true_and] at h
    obtain ⟨e, he, hd⟩ := FS.isDir_iff.mp h.1
    refine ⟨e, he, ?_⟩
    have hp := (FS.find?_some he).2
    rw [inTreeDir_iff, hp]; exact ⟨hd, h.2⟩
  · rintro ⟨e, he, hd⟩
    have hp := (FS.find?_some he).2
    rw [inTreeDir_iff, hp] at hd
    simp only [Bool.and_eq_true, Bool.or_eq_true, beq_iff_eq, Bool.true_and]
    exact ⟨FS.isDir_iff.mpr ⟨e, he, hd.1⟩, hd.2⟩

theorem watchedDir_rec_false {fs : FS} {d : P} {e : Ent} (he : fs.find? d = some e) (h : watchedDir fs true d = false) :
    inTreeDir e = false := by
  cases hd : inTreeDir e with
  | false => rfl
  | true => rw [watchedDir_rec_iff.mpr ⟨e, he, hd⟩] at h; cases h

theorem InvRec.parent_recs (inv : InvRec fs k lib) (p : P) :
    (watchedDir fs true (parentOf p) = true ∧ ∃ wd, lookupW lib.pathForWd wd = some (parentOf p) ∧
        lookupP lib.wdForPath (parentOf p) = some wd ∧ ∀ f b c,
        k.onEntry ((fs.find? (parentOf p)).map (·.ino)) f b c (baseName p) = [⟨wd, f, b, c, some (baseName p)⟩]) ∨
    (watchedDir fs true (parentOf p) = false ∧ ∀ f b c,
        k.onEntry ((fs.find? (parentOf p)).map (·.ino)) f b c (baseName p) = []) := by
  cases hf : fs.find? (parentOf p) with
  | none =>
    right
    refine ⟨?_, by simp [Kern.onEntry]⟩
    cases hw : watchedDir fs true (parentOf p) with
    | false => rfl
    | true => obtain ⟨e, he, _⟩ := watchedDir_rec_iff.mp hw; rw [hf] at he; cases he
  | some d =>
    have hd := FS.find?_some hf
    cases ht : inTreeDir d with
    | true =>
      left
      obtain ⟨wd, h1, _, h2, h3⟩ := inv.watched hd.1 ht trivial
      rw [hd.2] at h2 h3
      exact ⟨watchedDir_rec_iff.mpr ⟨d, hf, ht⟩, wd, h2, h3, by intro f b c; simp [onEntry_some h1]⟩
    | false =>
      right
      refine ⟨?_, by intro f b c; simp [onEntry_none (inv.unwatched hd.1 ht)]⟩
      cases hw : watchedDir fs true (parentOf p) with
      | false => rfl
      | true =>
        obtain ⟨e, he, hte⟩ := watchedDir_rec_iff.mp hw
        rw [hf] at he; cases he; rw [ht] at hte; cases hte

theorem InvRec.parent_watched {p : P} (inv : InvRec fs k lib) (hw : watchedDir fs true (parentOf p) = true) :
    ∃ wd, lookupW lib.pathForWd wd = some (parentOf p) ∧ ∀ f b c,
      k.onEntry ((fs.find? (parentOf p)).map (·.ino)) f b c (baseName p) = [⟨wd, f, b, c, some (baseName p)⟩] := by
  rcases inv.parent_recs p with ⟨_, wd, h1, _, h3⟩ | ⟨h, _⟩
  · exact ⟨wd, h1, h3⟩
  · rw [hw] at h; cases h

theorem InvRec.parent_unwatched {p : P} (inv : InvRec fs k lib) (hw : watchedDir fs true (parentOf p) = false) (f : Flag) (b : Bool)
    (c : Nat) : k.onEntry ((fs.find? (parentOf p)).map (·.ino)) f b c (baseName p) = [] := by
  rcases inv.parent_recs p with ⟨h, _⟩ | ⟨_, h⟩
  · rw [hw] at h; cases h
  · exact h f b c

theorem isUnderW_of_watched_parent {fs : FS} {p : P} (hp : p ≠ []) (hw : watchedDir fs true (parentOf p) = true) : isUnder ["W"] p = true := by
  unfold watchedDir at hw
  simp only [Bool.and_eq_true, Bool.or_eq_true, beq_iff_eq, Bool.true_and] at hw
  exact isUnder_of_parent hp hw.2

/-- records that do not touch the maps -/
def simpleFlag (recursive : Bool) (f : Flag) (isDir : Bool) : Bool :=
  match f with
  | .movedFrom | .movedTo | .ignored => false
  | .create => !(recursive && isDir)
  | _ => true

def NRec.src (r : NRec) (wdPath : P) : P := match r.name with | none => wdPath | some n => wdPath ++ [n]
def NRec.toLEv (r : NRec) (wdPath : P) : LEv := ⟨r.wd, r.flag, r.isDir, r.cookie, r.name, r.src wdPath⟩

theorem libRecord_simple (fs : FS) (k : Kern) (lib : Lib) (r : NRec) (wp : P)
    (hs : simpleFlag lib.recursive r.flag r.isDir = true) (hw : lookupW lib.pathForWd r.wd = some wp) :
    libRecord fs k lib r = some (k, lib, [r.toLEv wp]) := by
  obtain ⟨wd, flag, isDir, cookie, name⟩ := r
  simp only at hw hs
  unfold libRecord
  simp only [hw]
  cases flag with
  | movedFrom => cases hs
  | movedTo => cases hs
  | ignored => cases hs
  | create =>
    have : (lib.recursive && isDir) = false := by
      cases h : (lib.recursive && isDir) with
      | false => rfl
      | true => simp [simpleFlag, h] at hs
    simp only [this, Bool.false_eq_true, if_false]; rfl
  | _ => rfl

theorem libBatch_nil (fs : FS) (k : Kern) (lib : Lib) : libBatch fs k lib [] = some (k, lib, []) := rfl

theorem libBatch_cons (fs : FS) (k : Kern) (lib : Lib) (r : NRec) (rest : List NRec) :
    libBatch fs k lib (r :: rest) =
      match libRecord fs k lib r with
      | none => none
      | some (k1, l1, evs) =>
        match libBatch fs k1 l1 rest with
        | none => none
        | some (k2, l2, more) => some (k2, l2, evs ++ more) := rfl

theorem libBatch_append (fs : FS) (k : Kern) (lib : Lib) (r1 r2 : List NRec) {k1 : Kern} {l1 : Lib} {e1 : List LEv}
    (h1 : libBatch fs k lib r1 = some (k1, l1, e1)) :
    libBatch fs k lib (r1 ++ r2) =
      match libBatch fs k1 l1 r2 with
      | none => none
      | some (k2, l2, e2) => some (k2, l2, e1 ++ e2) := by
  induction r1 generalizing k lib k1 l1 e1 with
  | nil =>
    simp only [libBatch_nil, Option.some.injEq, Prod.mk.injEq] at h1
    obtain ⟨rfl, rfl, rfl⟩ := h1
    simp only [List.nil_append]
    cases libBatch fs k lib r2 with
    | none => rfl
    | some x => rfl
  | cons r rest ih =>
    simp only [List.cons_append, libBatch_cons] at h1 ⊢
    cases hr : libRecord fs k lib r with
    | none => simp [hr] at h1
    | some x =>
      obtain ⟨ka, la, ea⟩ := x
      simp only [hr] at h1 ⊢
      cases hb : libBatch fs ka la rest with
      | none => simp [hb] at h1
      | some y =>
        obtain ⟨kb, lb, eb⟩ := y
        simp only [hb, Option.some.injEq, Prod.mk.injEq] at h1
        obtain ⟨rfl, rfl, rfl⟩ := h1
        rw [ih ka la hb]
        cases libBatch fs kb lb r2 with
        | none => rfl
        | some z => simp [List.append_assoc]

theorem libBatch_simple (fs : FS) (k : Kern) (lib : Lib) (recs : List NRec) (path : NRec → P)
    (h : ∀ r ∈ recs, simpleFlag lib.recursive r.flag r.isDir = true ∧ lookupW lib.pathForWd r.wd = some (path r)) :
    libBatch fs k lib recs = some (k, lib, recs.map (fun r => r.toLEv (path r))) := by
  induction recs with
  | nil => rfl
  | cons r rest ih =>
    have hr := h r (List.mem_cons_self ..)
    rw [libBatch_cons, libRecord_simple fs k lib r (path r) hr.1 hr.2]
    simp only
    rw [ih (fun x hx => h x (List.mem_cons_of_mem _ hx))]
    simp

end WD.Pipe
