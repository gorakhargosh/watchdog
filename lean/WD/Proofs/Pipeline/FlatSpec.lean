/- what the non-recursive contract says: only the root and its direct children are ever named -/
import WD.Proofs.Pipeline.Flat
namespace WD.Pipe

/-- a path the non-recursive watch may name: absent, the root, or a direct child of the root -/
def shallow (p : P) : Prop := p = [] ∨ p = ["W"] ∨ (p.length = 2 ∧ parentOf p = ["W"])

theorem shallow_len {p : P} (h : shallow p) : p.length ≤ 2 := by
  rcases h with h | h | h
  · rw [h]; simp
  · rw [h]; simp
  · omega

theorem shallow_of_watched {fs : FS} {p : P} (hp : p ≠ []) (h : watchedDir fs false (parentOf p) = true) : shallow p ∧ shallow (parentOf p) := by
  rw [watchedDir_flat] at h
  simp only [Bool.and_eq_true, beq_iff_eq] at h
  have hb := snoc_parent_base hp
  refine ⟨Or.inr (Or.inr ⟨?_, h.2⟩), Or.inr (Or.inl h.2)⟩
  rw [← hb, h.2]; rfl

theorem PEv_shallow_mk (c : EvClass) (a b : P) (s : Bool) (ha : shallow a) (hb : shallow b) :
    shallow (mkEv c a b s).src ∧ shallow (mkEv c a b s).dest := ⟨ha, hb⟩

/-- every event of the non-recursive contract names the root or one of its direct children — nothing deeper -/
theorem contract_flat_shallow (fs : FS) (hwf : fs.WF) (full : Bool) (op : Op) (hv : validOp fs op = true) :
    ∀ e ∈ (contract fs false full op).1, shallow e.src ∧ shallow e.dest := by
  have hnil : shallow ([] : P) := Or.inl rfl
  have hch : ∀ (p : P), p ≠ [] → watchedDir fs false (parentOf p) = true →
      (∀ c, shallow (mkEv c p).src ∧ shallow (mkEv c p).dest) ∧ (shallow (dirMod p).src ∧ shallow (dirMod p).dest) :=
    fun p hp hw => have ⟨h1, h2⟩ := shallow_of_watched hp hw; ⟨fun _ => ⟨h1, hnil⟩, h2, hnil⟩
  have hev : ∀ (d : Bool) (p : P), p ≠ [] → watchedDir fs false (parentOf p) = true →
      ∀ e ∈ evDeleted d p, shallow e.src ∧ shallow e.dest := fun d p hp hw =>
    List.forall_mem_cons.mpr ⟨(hch p hp hw).1 _, List.forall_mem_singleton.mpr (hch p hp hw).2⟩
  have hrm : ∀ es : List Ent, (∀ x ∈ es, x ∈ fs.ents) →
      ∀ e ∈ contractRemovals fs false es, shallow e.src ∧ shallow e.dest := by
    intro es hes e he
    obtain ⟨x, hx, hex⟩ := List.mem_flatMap.mp he
    split at hex
    · rename_i hw; exact hev x.isDir x.path (hwf.path_ne_nil (hes x hx)) hw e hex
    · cases hex
  have hfind : ∀ (p : P) (order : List P), ∀ x ∈ order.filterMap fs.find? ++ (fs.find? p).toList, x ∈ fs.ents := by
    intro p order x hx
    rcases List.mem_append.mp hx with h | h
    · exact (mem_filterMap_find h).1
    · exact (FS.find?_some (Option.mem_toList.mp h)).1
  cases op with
  | create p =>
    rw [contract_create]; split
    · rename_i hw
      obtain ⟨h1, h2⟩ := hch p (ne_nil_of_two_le (validOp_create hv).1) hw
      simp only [List.forall_mem_cons]
      exact ⟨h1 _, h2, h1 _, h1 _, h2, fun _ h => nomatch h⟩
    · exact fun _ h => nomatch h
  | mkdir p =>
    rw [contract_mkdir]; split
    · rename_i hw
      obtain ⟨h1, h2⟩ := hch p (ne_nil_of_two_le (validOp_mkdir hv).1) hw
      exact List.forall_mem_cons.mpr ⟨h1 _, List.forall_mem_singleton.mpr h2⟩
    · exact fun _ h => nomatch h
  | write p =>
    obtain ⟨_, _, _, hp2⟩ := hwf.file hv
    rw [contract_write]; split
    · rename_i hw
      obtain ⟨h1, h2⟩ := hch p (ne_nil_of_two_le hp2) hw
      simp only [List.forall_mem_cons]
      exact ⟨h1 _, h1 _, h1 _, h2, fun _ h => nomatch h⟩
    · exact fun _ h => nomatch h
  | chmod p =>
    obtain ⟨hp2, x, hx⟩ := validOp_chmod hv
    have hb : (p == ["W"]) = false := beq_eq_false_iff_ne.mpr (ne_top_of_two_le hp2 "W")
    simp only [contract_chmod false full hx, watchedDir_flat fs p, hb, Bool.and_false, Bool.false_eq_true, if_false, List.nil_append]
    split
    · rename_i hw; exact List.forall_mem_singleton.mpr ((hch p (ne_nil_of_two_le hp2) hw).1 _)
    · exact fun _ h => nomatch h
  | unlink p =>
    obtain ⟨_, _, _, hp2⟩ := hwf.file hv
    rw [contract_unlink]; split
    · rename_i hw; exact hev false p (ne_nil_of_two_le hp2) (Bool.and_eq_true_iff.mp hw).1
    · exact fun _ h => nomatch h
  | rmdir p =>
    obtain ⟨x, hx, _⟩ := validOp_rmdir hv
    have hxm := FS.find?_some hx
    rw [contract_rmdir]; split
    · rename_i hW
      rw [beq_iff_eq.mp hW]
      exact List.forall_mem_singleton.mpr ⟨Or.inr (Or.inl rfl), hnil⟩
    · split
      · rename_i hw; exact hev true p (hxm.2 ▸ hwf.path_ne_nil hxm.1) (Bool.and_eq_true_iff.mp hw).1
      · exact fun _ h => nomatch h
  | rmtree p => exact hrm _ (hfind p _)
  | rmtreeOrd p order => exact hrm _ (hfind p order)
  | rename p q =>
    obtain ⟨x, ok⟩ := renameOK_of_valid hv
    have hpn := ne_nil_of_two_le ok.hp2
    have hqn := ne_nil_of_two_le ok.hq2
    rw [contract_rename_flat fs full p q x ok]
    cases hwp : watchedDir fs false (parentOf p) <;> cases hwq : watchedDir fs false (parentOf q) <;>
      simp only [Bool.and_self, Bool.and_false, Bool.and_true, if_true, if_false, Bool.false_eq_true]
    · exact fun _ h => nomatch h
    · obtain ⟨hq1, hq2⟩ := hch q hqn hwq
      refine List.forall_mem_append.mpr ⟨?_, List.forall_mem_singleton.mpr hq2⟩
      cases full <;> simp only [if_true, if_false, Bool.false_eq_true, List.forall_mem_singleton]
      · exact hq1 _
      · exact ⟨hnil, (hq1 .FileMovedEvent).1⟩
    · cases full
      · exact hev x.isDir p hpn hwp
      · exact List.forall_mem_cons.mpr ⟨(hch p hpn hwp).1 _, List.forall_mem_singleton.mpr (hch p hpn hwp).2⟩
    · obtain ⟨hp1, hp2⟩ := hch p hpn hwp
      obtain ⟨hq1, hq2⟩ := hch q hqn hwq
      simp only [List.forall_mem_cons]
      exact ⟨⟨(hp1 .FileMovedEvent).1, (hq1 .FileMovedEvent).1⟩, hp2, hq2, fun _ h => nomatch h⟩

theorem contractRun_flat_shallow (fs : FS) (hwf : fs.WF) (full : Bool) (ops : List Op) (hv : fsValid fs ops = true) :
    ∀ evs ∈ contractRun fs false full ops, ∀ e ∈ evs, shallow e.src ∧ shallow e.dest := by
  induction ops generalizing fs with
  | nil => intro evs h; simp [contractRun] at h
  | cons op rest ih =>
    simp only [fsValid, Bool.and_eq_true] at hv
    intro evs hevs
    simp only [contractRun] at hevs
    cases hst : (contract fs false full op).2 with
    | true =>
      simp only [hst, if_true, List.mem_cons, List.mem_map] at hevs
      rcases hevs with rfl | ⟨_, _, rfl⟩
      · exact contract_flat_shallow fs hwf full op hv.1
      · intro e he; simp at he
    | false =>
      simp only [hst, Bool.false_eq_true, if_false, List.mem_cons] at hevs
      have hne : op ≠ .rmdir ["W"] := by
        intro h; have := (contract_stop_iff fs false full op).mpr h; rw [hst] at this; cases this
      rcases hevs with rfl | h
      · exact contract_flat_shallow fs hwf full op hv.1
      · exact ih _ (wf_after hwf op hv.1 hne) hv.2 evs h

end WD.Pipe
