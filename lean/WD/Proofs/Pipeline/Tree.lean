/- C01's replay: trees as sets of (path, kind), what the events do to them, and the tree a watch answers for
   (everything below the root, or — non-recursive — the root's direct children) -/
import WD.Proofs.Pipeline.Theorems
namespace WD.Pipe

theorem mem_treeW {fs : FS} {y : P × Bool} :
    y ∈ treeW fs ↔ ∃ e ∈ fs.ents, e.path = y.1 ∧ e.isDir = y.2 ∧ isUnder ["W"] y.1 = true := by
  simp only [treeW, List.mem_map, List.mem_filter]
  constructor
  · rintro ⟨e, ⟨he, hu⟩, rfl⟩; exact ⟨e, he, rfl, rfl, hu⟩
  · rintro ⟨e, he, h1, h2, h3⟩; exact ⟨e, ⟨he, h1 ▸ h3⟩, Prod.ext h1 h2⟩

theorem treeW_path_inj {fs : FS} (hwf : fs.WF) : ∀ x ∈ treeW fs, ∀ y ∈ treeW fs, x.1 = y.1 → x = y := by
  intro x hx y hy hxy
  obtain ⟨u, hu, hu1, hu2, _⟩ := mem_treeW.mp hx
  obtain ⟨v, hv, hv1, hv2, _⟩ := mem_treeW.mp hy
  have : u = v := hwf.path_inj hu hv (by rw [hu1, hv1, hxy])
  subst this
  exact Prod.ext hxy (by rw [← hu2, ← hv2])

theorem mem_setEntry {t : Tree} {p : P} {d : Bool} {y : P × Bool} :
    y ∈ setEntry t p d ↔ (y ∈ t ∧ y.1 ≠ p) ∨ y = (p, d) := by
  simp [setEntry, List.mem_filter]

theorem mem_eraseSub {t : Tree} {p : P} {y : P × Bool} :
    y ∈ eraseSub t p ↔ y ∈ t ∧ y.1 ≠ p ∧ isUnder p y.1 = false := by
  simp [eraseSub, List.mem_filter]

theorem applyEv_created (t : Tree) (c : EvClass) (h : c.eventType = "created") (p q : P) (s : Bool) :
    applyEv t ⟨c, p, q, s⟩ = setEntry t p c.isDirectory := by simp [applyEv, h]
theorem applyEv_deleted (t : Tree) (c : EvClass) (h : c.eventType = "deleted") (p q : P) (s : Bool) :
    applyEv t ⟨c, p, q, s⟩ = eraseSub t p := by simp [applyEv, h]
theorem applyEv_moved (t : Tree) (c : EvClass) (h : c.eventType = "moved") (p q : P) (s : Bool) :
    applyEv t ⟨c, p, q, s⟩ =
      (let t1 := if p = [] then t else eraseSub t p
       if q = [] then t1 else setEntry t1 q c.isDirectory) := by simp [applyEv, h]
theorem applyEv_other (t : Tree) (c : EvClass)
    (h : c.eventType ≠ "created" ∧ c.eventType ≠ "deleted" ∧ c.eventType ≠ "moved") (p q : P) (s : Bool) :
    applyEv t ⟨c, p, q, s⟩ = t := by
  simp only [applyEv]
  split
  · rename_i h1; exact absurd h1 h.1
  · rename_i h1; exact absurd h1 h.2.1
  · rename_i h1; exact absurd h1 h.2.2
  · rfl

theorem movedCls_type (d : Bool) : (movedCls d).eventType = "moved" := by cases d <;> rfl
theorem movedCls_isDir (d : Bool) : (movedCls d).isDirectory = d := by cases d <;> rfl
theorem createdCls_type (d : Bool) : (createdCls d).eventType = "created" := by cases d <;> rfl
theorem createdCls_isDir (d : Bool) : (createdCls d).isDirectory = d := by cases d <;> rfl

theorem applyEv_mk_created (t : Tree) (d : Bool) (p : P) : applyEv t (mkEv (createdCls d) p) = setEntry t p d := by
  have := applyEv_created t _ (createdCls_type d) p [] false
  rw [createdCls_isDir] at this; exact this
theorem applyEv_mk_fcreated (t : Tree) (p : P) : applyEv t (mkEv .FileCreatedEvent p) = setEntry t p false :=
  applyEv_mk_created t false p
theorem applyEv_mk_dcreated (t : Tree) (p : P) : applyEv t (mkEv .DirCreatedEvent p) = setEntry t p true :=
  applyEv_mk_created t true p
theorem applyEv_mk_opened (t : Tree) (p : P) : applyEv t (mkEv .FileOpenedEvent p) = t := applyEv_other _ _ (by decide) _ _ _
theorem applyEv_mk_closed (t : Tree) (p : P) : applyEv t (mkEv .FileClosedEvent p) = t := applyEv_other _ _ (by decide) _ _ _
theorem applyEv_mk_fmod (t : Tree) (p : P) : applyEv t (mkEv .FileModifiedEvent p) = t := applyEv_other _ _ (by decide) _ _ _
theorem applyEv_mk_dmod (t : Tree) (p : P) : applyEv t (mkEv .DirModifiedEvent p) = t := applyEv_other _ _ (by decide) _ _ _
theorem applyEv_dirMod (t : Tree) (p : P) : applyEv t (dirMod p) = t := applyEv_mk_dmod t _

theorem applyEv_mk_moved (t : Tree) (d : Bool) (p q : P) (hp : p ≠ []) (hq : q ≠ []) :
    applyEv t (mkEv (movedCls d) p q) = setEntry (eraseSub t p) q d := by
  have := applyEv_moved t _ (movedCls_type d) p q false
  simp only [hp, hq, ↓reduceIte, movedCls_isDir] at this; exact this
theorem applyEv_mk_moved_out (t : Tree) (d : Bool) (p : P) (hp : p ≠ []) :
    applyEv t (mkEv (movedCls d) p []) = eraseSub t p := by
  have := applyEv_moved t _ (movedCls_type d) p [] false
  simp only [hp, ↓reduceIte] at this; exact this
theorem applyEv_mk_moved_in (t : Tree) (d : Bool) (q : P) (hq : q ≠ []) :
    applyEv t (mkEv (movedCls d) [] q) = setEntry t q d := by
  have := applyEv_moved t _ (movedCls_type d) [] q false
  simp only [hq, ↓reduceIte, movedCls_isDir] at this; exact this

theorem replay_nil (t : Tree) : replay t [] = t := rfl
theorem replay_cons (t : Tree) (e : PEv) (es : List PEv) : replay t (e :: es) = replay (applyEv t e) es := rfl
theorem replay_append (t : Tree) (a b : List PEv) : replay t (a ++ b) = replay (replay t a) b := by
  simp [replay, List.foldl_append]

theorem replay_evDeleted (t : Tree) (d : Bool) (p : P) : replay t (evDeleted d p) = eraseSub t p := by
  simp only [evDeleted, replay_cons, replay_nil, applyEv_dirMod]
  cases d <;> exact applyEv_deleted _ _ rfl _ _ _

theorem sameTree_refl (t : Tree) : sameTree t t := fun _ => Iff.rfl
theorem sameTree_trans {a b c : Tree} (h1 : sameTree a b) (h2 : sameTree b c) : sameTree a c := fun x => (h1 x).trans (h2 x)
theorem sameTree_symm {a b : Tree} (h : sameTree a b) : sameTree b a := fun x => (h x).symm

theorem sameTree_setEntry {a b : Tree} (h : sameTree a b) (p : P) (d : Bool) : sameTree (setEntry a p d) (setEntry b p d) := by
  intro y; rw [mem_setEntry, mem_setEntry, h y]
theorem sameTree_eraseSub {a b : Tree} (h : sameTree a b) (p : P) : sameTree (eraseSub a p) (eraseSub b p) := by
  intro y; rw [mem_eraseSub, mem_eraseSub, h y]

theorem sameTree_applyEv {a b : Tree} (h : sameTree a b) (e : PEv) : sameTree (applyEv a e) (applyEv b e) := by
  simp only [applyEv]
  split
  · exact sameTree_setEntry h _ _
  · exact sameTree_eraseSub h _
  · have h1 : sameTree (if e.src = [] then a else eraseSub a e.src) (if e.src = [] then b else eraseSub b e.src) := by
      split
      · exact h
      · exact sameTree_eraseSub h _
    split
    · exact h1
    · exact sameTree_setEntry h1 _ _
  · exact h

theorem sameTree_replay {a b : Tree} (h : sameTree a b) (es : List PEv) : sameTree (replay a es) (replay b es) := by
  induction es generalizing a b with
  | nil => exact h
  | cons e rest ih => exact ih (sameTree_applyEv h e)

/-- the paths a watch answers for: everything below the root, or (non-recursive) its direct children only -/
def inWatch (r : Bool) (p : P) : Bool := isUnder ["W"] p && (r || p.length == 2)

theorem inWatch_true (p : P) : inWatch true p = isUnder ["W"] p := by simp only [inWatch, Bool.true_or, Bool.and_true]

def treeOf : Bool → FS → Tree
  | true => treeW
  | false => treeW1

theorem mem_treeOf {r : Bool} {fs : FS} {y : P × Bool} :
    y ∈ treeOf r fs ↔ ∃ e ∈ fs.ents, e.path = y.1 ∧ e.isDir = y.2 ∧ inWatch r y.1 = true := by
  cases r
  · simp only [treeOf, treeW1, List.mem_filter, mem_treeW, inWatch, Bool.false_or, Bool.and_eq_true, beq_iff_eq,
      decide_eq_true_eq]
    constructor
    · rintro ⟨⟨e, he, h1, h2, h3⟩, h4⟩; exact ⟨e, he, h1, h2, h3, h4⟩
    · rintro ⟨e, he, h1, h2, h3, h4⟩; exact ⟨⟨e, he, h1, h2, h3⟩, h4⟩
  · simp only [treeOf, mem_treeW, inWatch_true]

theorem inWatch_of_mem {r : Bool} {fs : FS} {y : P × Bool} (h : y ∈ treeOf r fs) : inWatch r y.1 = true := by
  obtain ⟨_, _, _, _, h3⟩ := mem_treeOf.mp h; exact h3

theorem inWatch_eq_watched {fs : FS} (r : Bool) {p : P} (hp : 2 ≤ p.length) (hpar : fs.isDir (parentOf p) = true) :
    inWatch r p = watchedDir fs r (parentOf p) := by
  cases r
  · -- a direct child of the root is what has the root for its parent
    simp only [inWatch, watchedDir, hpar, Bool.false_or, Bool.false_and, Bool.or_false, Bool.true_and]
    by_cases h : parentOf p = ["W"]
    · have hb := snoc_parent_base (ne_nil_of_two_le hp)
      have hu : isUnder ["W"] p = true := by rw [← hb, h]; exact isUnder_snoc _ _
      have hl : p.length = 2 := by rw [← hb, h]; rfl
      simp [hu, hl, h]
    · have : ¬(isUnder ["W"] p = true ∧ p.length = 2) := fun ⟨hu, hl⟩ =>
        (isUnder_parent hu).elim h fun h1 => by
          have := isUnder_length h1; rw [parentOf_length, hl] at this; exact absurd this (by decide)
      rw [beq_eq_false_iff_ne.mpr h]
      exact Bool.eq_false_iff.mpr fun hc => this (by simpa using hc)
  · rw [inWatch_true]; exact isUnderW_iff_parent hp hpar

theorem inWatch_below {r : Bool} {a x : P} (ha : 2 ≤ a.length) (h : isUnder a x = true) : inWatch r x = (r && inWatch r a) := by
  cases r
  · have := isUnder_length h
    have : (x.length == 2) = false := by rw [beq_eq_false_iff_ne]; omega
    simp [inWatch, this]
  · simp [inWatch, isUnderW_of_under ha h]

theorem eraseSub_outside {r : Bool} {fs : FS} {p : P} (hp : 2 ≤ p.length) (hu : inWatch r p = false) :
    sameTree (eraseSub (treeOf r fs) p) (treeOf r fs) := by
  intro y
  rw [mem_eraseSub]
  refine ⟨fun h => h.1, fun h => ⟨h, ?_, ?_⟩⟩
  · intro hh; rw [← hh, inWatch_of_mem h] at hu; cases hu
  · cases hc : isUnder p y.1 with
    | false => rfl
    | true => have := inWatch_of_mem h; rw [inWatch_below hp hc, hu, Bool.and_false] at this; cases this

end WD.Pipe
