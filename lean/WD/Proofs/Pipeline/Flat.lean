/- the non-recursive watch: one kernel watch, on the root; only the root's direct children are reported -/
import WD.Proofs.Pipeline.Theorems
namespace WD.Pipe

structure InvFlat (fs : FS) (k : Kern) (lib : Lib) : Prop where
  wf : fs.WF
  notRec : lib.recursive = false
  root : ∃ r w0, fs.find? ["W"] = some r ∧ r.isDir = true ∧ k.watches = [(w0, r.ino)] ∧
           lib.pathForWd = [(w0, ["W"])] ∧ lib.wdForPath = [(["W"], w0)]
  cookies : ∀ x ∈ lib.movedFrom, x.1 < k.nextCookie
  srcs : ∀ x ∈ lib.movedFrom, x.2 ≠ ["W"]

structure StepFlat (s : Sys) (op : Op) : Prop where
  events : (s.op op).2 = (contract s.fs false s.full op).1
  stop : (s.op op).1.stopped = (contract s.fs false s.full op).2
  ncrash : (s.op op).1.crashed = false
  full : (s.op op).1.full = s.full
  inv : (contract s.fs false s.full op).2 = false → InvFlat (s.op op).1.fs (s.op op).1.k (s.op op).1.lib

variable {fs : FS} {k : Kern} {lib : Lib}

theorem watchedDir_flat (fs : FS) (d : P) : watchedDir fs false d = (fs.isDir d && d == ["W"]) := by
  simp [watchedDir]

theorem InvFlat.unwatched (inv : InvFlat fs k lib) {e : Ent} (he : e ∈ fs.ents) (hp : e.path ≠ ["W"]) : k.wdOfIno e.ino = none := by
  obtain ⟨r, w0, hr, _, hkw, _, _⟩ := inv.root
  have hrm := FS.find?_some hr
  rw [wdOfIno_none]; intro w hw; rw [hkw] at hw; simp at hw; subst hw
  intro hi; have := inv.wf.ino_inj hrm.1 he hi; subst this; exact hp hrm.2

theorem InvFlat.parent_recs (inv : InvFlat fs k lib) (p : P) :
    (watchedDir fs false (parentOf p) = true ∧ parentOf p = ["W"] ∧ ∃ w0, lookupW lib.pathForWd w0 = some ["W"] ∧ ∀ f b c,
        k.onEntry ((fs.find? (parentOf p)).map (·.ino)) f b c (baseName p) = [⟨w0, f, b, c, some (baseName p)⟩]) ∨
    (watchedDir fs false (parentOf p) = false ∧ ∀ f b c,
        k.onEntry ((fs.find? (parentOf p)).map (·.ino)) f b c (baseName p) = []) := by
  obtain ⟨r, w0, hr, hrd, hkw, hpfw, _⟩ := inv.root
  by_cases hp : parentOf p = ["W"]
  · left
    refine ⟨by rw [watchedDir_flat, hp]; simp [FS.isDir, hr, hrd], hp, w0, by simp [hpfw, lookupW_cons], ?_⟩
    intro f b c
    rw [hp, hr]
    have : k.wdOfIno r.ino = some w0 := by simp [Kern.wdOfIno, hkw]
    simp [Kern.onEntry, this]
  · right
    have hb : (parentOf p == ["W"]) = false := by simp [hp]
    refine ⟨by rw [watchedDir_flat, hb]; simp, ?_⟩
    intro f b c
    cases hf : fs.find? (parentOf p) with
    | none => simp [Kern.onEntry]
    | some d =>
      have hd := FS.find?_some hf
      simp [Kern.onEntry, inv.unwatched hd.1 (hd.2 ▸ hp)]

theorem libRecord_to_flat (fs : FS) (k : Kern) (lib : Lib) (wd : Nat) (d : Bool) (c : Nat) (n : String) (w0 : Nat)
    (hw : lookupW lib.pathForWd wd = some ["W"]) (hrec : lib.recursive = false) (hwfp : lib.wdForPath = [(["W"], w0)])
    (hsrc : ∀ x ∈ lib.movedFrom, x.2 ≠ ["W"]) :
    libRecord fs k lib ⟨wd, .movedTo, d, c, some n⟩ = some (k, lib, [⟨wd, .movedTo, d, c, some n, ["W", n]⟩]) := by
  simp only [libRecord, hw, hrec, Bool.false_and, Bool.false_eq_true, if_false]
  cases hf : lib.movedFrom.find? (fun x => x.1 == c) with
  | none => simp
  | some x =>
    have hx := List.mem_of_find?_eq_some hf
    have : lookupP lib.wdForPath x.2 = none := by
      rw [hwfp, lookupP_cons]; simp [lookupP_nil]; exact fun h => hsrc x hx h.symm
    simp [this]

theorem StepOK.toFlat {s : Sys} {op : Op} (h : StepOK false InvFlat s op) : StepFlat s op :=
  ⟨h.events, h.stop, h.ncrash, h.full, h.inv⟩

/-- a non-recursive watch forgets no tree, so the reader's state is final -/
theorem step_flat_of (s : Sys) (op : Op) (hs : s.stopped = false) (hc : s.crashed = false)
    {fs1 : FS} {k1 k2 : Kern} {recs : List NRec} {lib2 : Lib} {levs : List LEv}
    (hk : kernelOp s.fs s.k op = (fs1, k1, recs)) (hl : libBatch fs1 k1 s.lib recs = some (k2, lib2, levs))
    (hnr : lib2.recursive = false) (hinv : (contract s.fs false s.full op).2 = false → InvFlat fs1 k2 lib2)
    (hem : emitAll fs1 false s.full (gsOf levs) = contract s.fs false s.full op) : StepFlat s op :=
  (StepOK.of_quiet s op hs hc hk hl hnr (fun h => nomatch h) hem hinv).toFlat

theorem step_simple_flat (s : Sys) (op : Op) (inv : InvFlat s.fs s.k s.lib) (hs : s.stopped = false) (hc : s.crashed = false)
    (fs1 : FS) (recs : List NRec) (path : NRec → P)
    (hk : kernelOp s.fs s.k op = (fs1, s.k, recs))
    (hr : ∀ r ∈ recs, simpleFlag false r.flag r.isDir = true ∧ lookupW s.lib.pathForWd r.wd = some (path r))
    (hinv : InvFlat fs1 s.k s.lib)
    (hnostop : ∀ r ∈ recs, (emit fs1 false s.full (.one (r.toLEv (path r)))).2 = false)
    (hev : recs.flatMap (fun r => (emit fs1 false s.full (.one (r.toLEv (path r)))).1) = (contract s.fs false s.full op).1)
    (hst : (contract s.fs false s.full op).2 = false) : StepFlat s op :=
  (StepOK.simple s op hs hc inv.notRec path hk hr hnostop hev hst hinv).toFlat

/-- the flags of records about an entry of a watched directory that neither touch the maps nor stop the emitter;
    what the emitter makes of such a record depends on the flag, the kind and the entry's path alone (`plainEvs`
    fixes the other arguments of `emit` arbitrarily, `emit_plain` says they do not matter) -/
def plainFlag : Flag → Bool
  | .create | .open | .closeWrite | .closeNoWrite | .modify | .attrib | .delete => true
  | _ => false

def plainEvs (x : Flag × Bool) (p : P) : List PEv := (emit FS.init false false (.one ⟨0, x.1, x.2, 0, none, p⟩)).1

theorem simpleFlag_of_plain {f : Flag} (h : plainFlag f = true) (b : Bool) : simpleFlag false f b = true := by
  cases f <;> first | rfl | cases h

theorem emit_plain {x : Flag × Bool} (h : plainFlag x.1 = true) (fs : FS) (r full : Bool) (w c : Nat) (n : Option String) (p : P) :
    emit fs r full (.one ⟨w, x.1, x.2, c, n, p⟩) = (plainEvs x p, false) := by
  obtain ⟨f, b⟩ := x
  cases f <;> first | (cases b <;> rfl) | cases h

theorem step_flat_entry (s : Sys) (op : Op) (inv : InvFlat s.fs s.k s.lib) (hs : s.stopped = false) (hc : s.crashed = false)
    {p : P} (hp : p ≠ []) (fs1 : FS) (fl : List (Flag × Bool)) (hfl : ∀ x ∈ fl, plainFlag x.1 = true)
    (hk : kernelOp s.fs s.k op =
      (fs1, s.k, fl.flatMap fun x => s.k.onEntry ((s.fs.find? (parentOf p)).map (·.ino)) x.1 x.2 0 (baseName p)))
    (hinv : InvFlat fs1 s.k s.lib)
    (hcon : contract s.fs false s.full op =
      (if watchedDir s.fs false (parentOf p) then fl.flatMap (plainEvs · p) else [], false)) : StepFlat s op := by
  rcases inv.parent_recs p with ⟨hw, hpw, w0, h1, hrec⟩ | ⟨hw, hrec⟩
  · have hsrc : ∀ x : Flag × Bool, (⟨w0, x.1, x.2, 0, some (baseName p)⟩ : NRec).toLEv ["W"] = ⟨w0, x.1, x.2, 0, some (baseName p), p⟩ := by
      intro x; simp only [NRec.toLEv, NRec.src, ← hpw, snoc_parent_base hp]
    simp only [hrec, ← List.map_eq_flatMap] at hk
    rw [hw, if_pos rfl] at hcon
    refine step_simple_flat s op inv hs hc fs1 _ (fun _ => ["W"]) hk ?_ hinv ?_ ?_ (by rw [hcon])
    · intro r hr
      obtain ⟨x, hx, rfl⟩ := List.mem_map.mp hr
      exact ⟨simpleFlag_of_plain (hfl x hx) _, h1⟩
    · intro r hr
      obtain ⟨x, hx, rfl⟩ := List.mem_map.mp hr
      rw [hsrc, emit_plain (hfl x hx)]
    · rw [List.flatMap_map, hcon]
      exact flatMap_congr' fun x hx => by rw [hsrc, emit_plain (hfl x hx)]
  · simp only [hrec, List.flatMap_eq_nil_iff.mpr fun _ _ => rfl] at hk
    rw [hw] at hcon
    exact step_simple_flat s op inv hs hc fs1 [] (fun _ => []) hk (fun _ h => nomatch h) hinv (fun _ h => nomatch h)
      (by rw [hcon]; rfl) (by rw [hcon])

theorem InvFlat.fs_change {fs1 : FS} (inv : InvFlat fs k lib) (hwf : fs1.WF) (h : fs1.find? ["W"] = fs.find? ["W"]) : InvFlat fs1 k lib :=
  { wf := hwf, notRec := inv.notRec, root := by rw [h]; exact inv.root, cookies := inv.cookies, srcs := inv.srcs }

theorem InvFlat.bump (inv : InvFlat fs k lib) : InvFlat fs { k with nextCookie := k.nextCookie + 1 } lib :=
  { inv with cookies := fun x hx => Nat.lt_succ_of_lt (inv.cookies x hx) }

theorem InvFlat.remember (inv : InvFlat fs k lib) {c : Nat} {src : P} (hc : c < k.nextCookie) (hsrc : src ≠ ["W"]) :
    InvFlat fs k (lib.remember c src) :=
  { inv with
    cookies := fun x hx => (List.mem_cons.mp hx).elim (fun h => h ▸ hc) (inv.cookies x)
    srcs := fun x hx => (List.mem_cons.mp hx).elim (fun h => h ▸ hsrc) (inv.srcs x) }

theorem find_W_add {fs : FS} {p : P} (hp : 2 ≤ p.length) (d : Bool) : (fs.add p d).find? ["W"] = fs.find? ["W"] := by
  simp [FS.find?_add, ne_top_of_two_le hp "W"]

theorem find_W_del {fs : FS} {p : P} (hp : 2 ≤ p.length) : (fs.del p).find? ["W"] = fs.find? ["W"] := by
  rw [FS.find?_del, if_neg (ne_top_of_two_le hp "W").symm]

theorem flat_create (s : Sys) (p : P) (inv : InvFlat s.fs s.k s.lib) (hs : s.stopped = false) (hc : s.crashed = false)
    (hv : validOp s.fs (.create p) = true) : StepFlat s (.create p) := by
  obtain ⟨hp, hne, hpar⟩ := validOp_create hv
  refine step_flat_entry s _ inv hs hc (ne_nil_of_two_le hp) (s.fs.add p false)
    [(.create, false), (.open, false), (.closeWrite, false)] (by decide) ?_
    (inv.fs_change (inv.wf.add hp hne hpar false) (find_W_add hp false)) ?_
  · simp [kernelOp, FS.add]
  · rw [contract_create]; split <;> rfl

theorem flat_mkdir (s : Sys) (p : P) (inv : InvFlat s.fs s.k s.lib) (hs : s.stopped = false) (hc : s.crashed = false)
    (hv : validOp s.fs (.mkdir p) = true) : StepFlat s (.mkdir p) := by
  obtain ⟨hp, hne, hpar⟩ := validOp_mkdir hv
  refine step_flat_entry s _ inv hs hc (ne_nil_of_two_le hp) (s.fs.add p true) [(.create, true)] (by decide) ?_
    (inv.fs_change (inv.wf.add hp hne hpar true) (find_W_add hp true)) ?_
  · simp [kernelOp, FS.add]
  · rw [contract_mkdir]; split <;> rfl

theorem flat_write (s : Sys) (p : P) (inv : InvFlat s.fs s.k s.lib) (hs : s.stopped = false) (hc : s.crashed = false)
    (hv : validOp s.fs (.write p) = true) : StepFlat s (.write p) := by
  obtain ⟨f, hf, _, hp2⟩ := inv.wf.file hv
  refine step_flat_entry s _ inv hs hc (ne_nil_of_two_le hp2) s.fs
    [(.open, false), (.modify, false), (.closeWrite, false)] (by decide) ?_ inv ?_
  · simp [kernelOp]
  · rw [contract_write]; split <;> rfl

theorem flat_chmod (s : Sys) (p : P) (inv : InvFlat s.fs s.k s.lib) (hs : s.stopped = false) (hc : s.crashed = false)
    (hv : validOp s.fs (.chmod p) = true) : StepFlat s (.chmod p) := by
  obtain ⟨hp2, e, he⟩ := validOp_chmod hv
  have hem := FS.find?_some he
  have hnW := ne_top_of_two_le hp2 "W"
  -- the entry itself is not the root: it carries no watch and the contract has no event of its own for it
  have hself : (if e.isDir then s.k.onSelf e.ino .attrib true else []) = [] := by
    simp [onSelf_none (inv.unwatched hem.1 (hem.2 ▸ hnW))]
  have hwp : (e.isDir && watchedDir s.fs false p) = false := by simp [watchedDir_flat, hnW]
  refine step_flat_entry s _ inv hs hc (ne_nil_of_two_le hp2) s.fs [(.attrib, e.isDir)]
    (fun x hx => by rw [List.mem_singleton.mp hx]; rfl) ?_ inv ?_
  · simp only [kernelOp, he, hself, List.nil_append, List.flatMap_cons, List.flatMap_nil, List.append_nil]
  · simp only [contract_chmod false s.full he, hwp, Bool.false_eq_true, if_false, List.nil_append]
    cases e.isDir <;> split <;> rfl

theorem flat_removeEntry {fs : FS} {k : Kern} {lib : Lib} (inv : InvFlat fs k lib) {e : Ent} (he : e ∈ fs.ents) (hp2 : 2 ≤ e.path.length) :
    removeEntry fs k e = (fs.del e.path, k, k.onEntry ((fs.find? (parentOf e.path)).map (·.ino)) .delete e.isDir 0 (baseName e.path)) := by
  have hun := inv.unwatched he (ne_top_of_two_le hp2 "W")
  have hk1 : (if e.isDir then k.dropWatch e.ino else k) = k := by cases e.isDir <;> simp [dropWatch_unwatched hun]
  simp [removeEntry, onSelf_none hun, hk1, FS.del]

theorem flat_unlink (s : Sys) (p : P) (inv : InvFlat s.fs s.k s.lib) (hs : s.stopped = false) (hc : s.crashed = false)
    (hv : validOp s.fs (.unlink p) = true) : StepFlat s (.unlink p) := by
  obtain ⟨f, hf, hfile, hp2⟩ := inv.wf.file hv
  have hfm := FS.find?_some hf
  have hk0 := flat_removeEntry inv hfm.1 (hfm.2 ▸ hp2)
  rw [hfm.2, hfile] at hk0
  refine step_flat_entry s _ inv hs hc (ne_nil_of_two_le hp2) (s.fs.del p) [(.delete, false)] (by decide) ?_
    (inv.fs_change (inv.wf.del hp2 (inv.wf.file_leaf hf hfile)) (find_W_del hp2)) ?_
  · simp only [kernelOp, hf, hk0, List.flatMap_cons, List.flatMap_nil, List.append_nil]
  · simp only [contract_unlink, FS.exists_iff.mpr ⟨f, hf⟩, Bool.and_true]; split <;> rfl

theorem flat_rmdir (s : Sys) (p : P) (inv : InvFlat s.fs s.k s.lib) (hs : s.stopped = false) (hc : s.crashed = false)
    (hv : validOp s.fs (.rmdir p) = true) : StepFlat s (.rmdir p) := by
  obtain ⟨e, he, hd, hp, hch⟩ := validOp_rmdir hv
  have hem := FS.find?_some he
  have hex : s.fs.exists p = true := FS.exists_iff.mpr ⟨e, he⟩
  by_cases hW : p = ["W"]
  · -- the root itself goes: DELETE_SELF stops the emitter, IGNORED takes the watch out of the maps
    subst hW
    obtain ⟨r, w0, hr, hrd, hkw, hpfw, hwfp⟩ := inv.root
    rw [he] at hr; cases hr
    have h1 : s.k.wdOfIno e.ino = some w0 := by simp [Kern.wdOfIno, hkw]
    have h2 : lookupW s.lib.pathForWd w0 = some ["W"] := by simp [hpfw, lookupW_cons]
    have h3 : lookupP s.lib.wdForPath ["W"] = some w0 := by simp [hwfp, lookupP_cons]
    have hpar : s.fs.find? (parentOf ["W"]) = none := by
      rw [FS.find?_none]; intro x hx; exact fun h => inv.wf.path_ne_nil hx (by simpa [parentOf] using h)
    have hk : kernelOp s.fs s.k (.rmdir ["W"]) = (s.fs.del ["W"], s.k.dropWatch e.ino,
        [⟨w0, .deleteSelf, false, 0, none⟩, ⟨w0, .ignored, false, 0, none⟩]) := by
      simp [kernelOp, he, removeEntry, hd, hem.2, onSelf_some h1, hpar, Kern.onEntry, FS.del]
    have hl := libBatch_gone (s.fs.del ["W"]) (s.k.dropWatch e.ino) s.lib w0 ["W"] h2 h3
    refine step_flat_of s _ hs hc hk hl inv.notRec (fun h => nomatch h) ?_
    rw [gsOf_noTo _ (by intro x hx; simp at hx; rcases hx with rfl | rfl <;> simp)]
    rfl
  · have hp2 : 2 ≤ p.length := hp.resolve_right hW
    have hk0 := flat_removeEntry inv hem.1 (hem.2 ▸ hp2)
    rw [hem.2, hd] at hk0
    refine step_flat_entry s _ inv hs hc (ne_nil_of_two_le hp2) (s.fs.del p) [(.delete, true)] (by decide) ?_
      (inv.fs_change (inv.wf.del hp2 (FS.dir_leaf hch)) (find_W_del hp2)) ?_
    · simp only [kernelOp, he, hk0, List.flatMap_cons, List.flatMap_nil, List.append_nil]
    · simp only [contract_rmdir, beq_eq_false_iff_ne.mpr hW, Bool.false_eq_true, if_false, hex, Bool.and_true]; split <;> rfl

theorem flat_removeAll {fs : FS} {k : Kern} {lib : Lib} (inv : InvFlat fs k lib) (es : List Ent) (hch : EChain fs es) :
    ∃ recs, removeAll fs k es = ((removeAll fs k es).1, k, recs) ∧ InvFlat (removeAll fs k es).1 k lib ∧
      (∀ r ∈ recs, r.flag = .delete ∧ lookupW lib.pathForWd r.wd = some ["W"] ∧ ∃ n, r.name = some n) ∧
      (∀ fsX full, recs.flatMap (fun r => (emit fsX false full (.one (r.toLEv ["W"]))).1) =
        es.flatMap (fun e => if parentOf e.path = ["W"] then evDeleted e.isDir e.path else [])) := by
  induction es generalizing fs with
  | nil => exact ⟨[], rfl, by simpa [removeAll_nil] using inv, by simp, by simp⟩
  | cons e rest ih =>
    obtain ⟨he, h2, hwf', hrest⟩ := hch
    have hk0 := flat_removeEntry (k := k) inv he h2
    have inv1 : InvFlat (fs.del e.path) k lib := inv.fs_change hwf' (find_W_del h2)
    obtain ⟨recs2, hr2, i2, f2, e2⟩ := ih inv1 hrest
    have hpb := snoc_parent_base (ne_nil_of_two_le h2)
    rw [removeAll_cons]
    simp only [hk0]
    rcases inv.parent_recs e.path with ⟨_, hpw, w0, h1, hrec⟩ | ⟨hw, hrec⟩
    · refine ⟨⟨w0, .delete, e.isDir, 0, some (baseName e.path)⟩ :: recs2, ?_, i2, ?_, ?_⟩
      · rw [hr2]; simp [hrec]
      · intro r hr
        rcases List.mem_cons.mp hr with rfl | hr
        · exact ⟨rfl, h1, _, rfl⟩
        · exact f2 r hr
      · intro fsX full
        simp only [List.flatMap_cons, e2 fsX full, hpw, if_true]
        simp [emit, NRec.toLEv, NRec.src, evDeleted, dirMod, mkEv, ← hpw, hpb]
    · have hnp : parentOf e.path ≠ ["W"] := by
        intro h
        obtain ⟨r, _, hr, hrd, _⟩ := inv.root
        rw [watchedDir_flat, h] at hw
        simp [FS.isDir, hr, hrd] at hw
      refine ⟨recs2, ?_, i2, f2, ?_⟩
      · rw [hr2]; simp [hrec]
      · intro fsX full
        simp only [List.flatMap_cons, e2 fsX full, hnp, if_false, List.nil_append]

theorem flat_rmtreeOrd (s : Sys) (p : P) (order : List P) (inv : InvFlat s.fs s.k s.lib) (hs : s.stopped = false)
    (hc : s.crashed = false) (hv : validOp s.fs (.rmtreeOrd p order) = true) : StepFlat s (.rmtreeOrd p order) := by
  obtain ⟨e, ok⟩ := rmtreeOK_of_valid hv
  obtain ⟨recs, hr, hinv, hfl, hev⟩ := flat_removeAll inv _ (ok.chain inv.wf)
  have hk : kernelOp s.fs s.k (.rmtreeOrd p order) =
      ((removeAll s.fs s.k (order.filterMap s.fs.find? ++ [e])).1, s.k, recs) := by
    simp only [kernelOp, ok.he]; exact hr
  apply step_simple_flat s _ inv hs hc _ recs (fun _ => ["W"]) hk
  · intro r hr'; obtain ⟨h1, h2, _⟩ := hfl r hr'; simp [simpleFlag, h1, h2]
  · exact hinv
  · intro r hr'; obtain ⟨h1, _, _⟩ := hfl r hr'; simp [emit, NRec.toLEv, h1]
  · rw [hev]
    rw [contract_rmtreeOrd false s.full ok.he, contractRemovals]
    apply flatMap_congr'
    intro x hx
    obtain ⟨hxm, hxp⟩ := (ok.mem_ents inv.wf).mp hx
    have hx2 := ok.two_le hxp
    rw [watchedDir_flat, inv.wf.parent_dir (inv.wf.find_mem hxm) hx2, Bool.true_and]
    by_cases hpw' : parentOf x.path = ["W"] <;> simp [hpw']
  · rw [contract_rmtreeOrd false s.full ok.he]

theorem flat_rmtree (s : Sys) (p : P) (inv : InvFlat s.fs s.k s.lib) (hs : s.stopped = false)
    (hc : s.crashed = false) (hv : validOp s.fs (.rmtree p) = true) : StepFlat s (.rmtree p) :=
  -- `rmtree p` is `rmtreeOrd p (canonOrder s.fs p)` by definition, for the kernel and for the contract
  have h := flat_rmtreeOrd s p (canonOrder s.fs p) inv hs hc hv
  ⟨h.events, h.stop, h.ncrash, h.full, h.inv⟩

variable {p q : P} {e : Ent}

theorem contract_rename_flat (fs : FS) (full : Bool) (p q : P) (e : Ent) (ok : RenameOK fs p q e) :
    contract fs false full (.rename p q) =
      if watchedDir fs false (parentOf p) && watchedDir fs false (parentOf q) then
        ([mkEv (movedCls e.isDir) p q, dirMod p, dirMod q], false)
      else if watchedDir fs false (parentOf p) then
        (if full then [mkEv (movedCls e.isDir) p [], dirMod p] else evDeleted e.isDir p, false)
      else if watchedDir fs false (parentOf q) then
        ((if full then [mkEv (movedCls e.isDir) [] q] else [mkEv (createdCls e.isDir) q]) ++ [dirMod q], false)
      else ([], false) := by
  have hb : (q == ["W"]) = false := beq_eq_false_iff_ne.mpr (ne_top_of_two_le ok.hq2 "W")
  have htail : renameTail fs false q = [] := by
    simp only [renameTail]
    cases fs.find? q with
    | none => rfl
    | some old => simp [watchedDir_flat, hb]
  simp only [contract_rename_any false full ok, htail, Bool.and_false, Bool.false_eq_true, if_false, List.append_nil]

theorem find_W_renamed (hwf : fs.WF) (ok : RenameOK fs p q e) : (fs.renamed p q).find? ["W"] = fs.find? ["W"] := by
  obtain ⟨r, hr, _⟩ := FS.isDir_iff.mp hwf.rootW
  have hrm := FS.find?_some hr
  have hp : r.path ≠ p := hrm.2 ▸ (ne_top_of_two_le ok.hp2 "W").symm
  have hq : r.path ≠ q := hrm.2 ▸ (ne_top_of_two_le ok.hq2 "W").symm
  have hu : isUnder p r.path = false := by
    cases h : isUnder p r.path with
    | false => rfl
    | true =>
      have hl := isUnder_length h
      rw [hrm.2] at hl
      have h1 : (["W"] : P).length = 1 := rfl
      have := ok.hp2
      omega
  have := find_renamed_fixed hwf ok hrm.1 hp hu hq
  rw [hrm.2] at this; rw [this, hr]

theorem flat_rename (s : Sys) (p q : P) (inv : InvFlat s.fs s.k s.lib) (hs : s.stopped = false)
    (hc : s.crashed = false) (hv : validOp s.fs (.rename p q) = true) : StepFlat s (.rename p q) := by
  obtain ⟨e, ok⟩ := renameOK_of_valid hv
  have hk := kernelOp_rename_quiet (k := s.k) ok.he (renameVictim_unwatched fun old ho =>
    inv.unwatched (FS.find?_some ho).1 ((FS.find?_some ho).2 ▸ ne_top_of_two_le ok.hq2 "W"))
  have hpb := snoc_parent_base (ne_nil_of_two_le ok.hp2)
  have hqb := snoc_parent_base (ne_nil_of_two_le ok.hq2)
  have hcon := contract_rename_flat s.fs s.full p q e ok
  obtain ⟨r0, w00, hr0, hrd0, hkw0, hpfw0, hwfp0⟩ := inv.root
  have hpW := ne_top_of_two_le ok.hp2 "W"
  let kB : Kern := { s.k with nextCookie := s.k.nextCookie + 1 }
  have invR : InvFlat (s.fs.renamed p q) kB s.lib := (inv.fs_change (ok.wf inv.wf) (find_W_renamed inv.wf ok)).bump
  have invRm : InvFlat (s.fs.renamed p q) kB (s.lib.remember s.k.nextCookie p) := invR.remember (Nat.lt_succ_self _) hpW
  rcases inv.parent_recs p with ⟨hwp, hpp, wdp, hp1, hrp⟩ | ⟨hwp, hrp⟩ <;>
  rcases inv.parent_recs q with ⟨hwq, hqp, wdq, hq1, hrq⟩ | ⟨hwq, hrq⟩
  · -- both direct children of the root: one paired move
    have hqW : (["W", baseName q] : P) = q := by rw [← hqb, hqp]; rfl
    have hl : libBatch (s.fs.renamed p q) kB s.lib
        [⟨wdp, .movedFrom, e.isDir, s.k.nextCookie, some (baseName p)⟩, ⟨wdq, .movedTo, e.isDir, s.k.nextCookie, some (baseName q)⟩] =
        some (kB, s.lib.remember s.k.nextCookie p, [⟨wdp, .movedFrom, e.isDir, s.k.nextCookie, some (baseName p), p⟩,
          ⟨wdq, .movedTo, e.isDir, s.k.nextCookie, some (baseName q), q⟩]) := by
      rw [libBatch_cons, libRecord_from _ _ _ _ _ _ _ _ hp1, ← hpp, hpb]
      simp only
      rw [libBatch_cons, libRecord_to_flat _ _ (s.lib.remember s.k.nextCookie p) _ _ _ _ w00 hq1 inv.notRec hwfp0 invRm.srcs, hqW]
      rfl
    refine step_flat_of s _ hs hc (by rw [hk, fromRecs, toRecs, hrp, hrq]; rfl) hl inv.notRec (fun _ => invRm) ?_
    rw [gsOf_pair _ _ (by rfl) (by rfl) (by rfl), hcon, hwp, hwq]
    simp only [emitAll_cons, emitAll_nil, emit, Bool.and_false, Bool.false_eq_true, if_false, List.append_nil]
    rfl
  · -- leaves the root's children
    have hl : libBatch (s.fs.renamed p q) kB s.lib [⟨wdp, .movedFrom, e.isDir, s.k.nextCookie, some (baseName p)⟩] =
        some (kB, s.lib.remember s.k.nextCookie p, [⟨wdp, .movedFrom, e.isDir, s.k.nextCookie, some (baseName p), p⟩]) := by
      rw [libBatch_cons, libRecord_from _ _ _ _ _ _ _ _ hp1, ← hpp, hpb]
      rfl
    refine step_flat_of s _ hs hc (by rw [hk, fromRecs, toRecs, hrp, hrq]; rfl) hl inv.notRec (fun _ => invRm) ?_
    rw [gsOf_one _ (by intro h; cases h), hcon, hwp, hwq]
    cases s.full <;> rfl
  · -- arrives among the root's children
    have hqW : (["W", baseName q] : P) = q := by rw [← hqb, hqp]; rfl
    have hl : libBatch (s.fs.renamed p q) kB s.lib [⟨wdq, .movedTo, e.isDir, s.k.nextCookie, some (baseName q)⟩] =
        some (kB, s.lib, [⟨wdq, .movedTo, e.isDir, s.k.nextCookie, some (baseName q), q⟩]) := by
      rw [libBatch_cons, libRecord_to_flat _ _ _ _ _ _ _ w00 hq1 inv.notRec hwfp0 inv.srcs, hqW]
      rfl
    refine step_flat_of s _ hs hc (by rw [hk, fromRecs, toRecs, hrp, hrq]; rfl) hl inv.notRec (fun _ => invR) ?_
    rw [gsOf_one _ (by intro h; cases h), hcon, hwp, hwq]
    simp only [emitAll_cons, emitAll_nil, emit, Bool.and_false, Bool.false_eq_true, if_false, List.append_nil]
    cases s.full <;> rfl
  · refine step_flat_of s _ hs hc (by rw [hk, fromRecs, toRecs, hrp, hrq]; rfl) (libBatch_nil _ _ _) inv.notRec (fun _ => invR) ?_
    rw [hcon, hwp, hwq]; rfl

theorem step_flat (s : Sys) (op : Op) (inv : InvFlat s.fs s.k s.lib) (hs : s.stopped = false)
    (hc : s.crashed = false) (hv : validOp s.fs op = true) : StepFlat s op := by
  cases op with
  | create p => exact flat_create s p inv hs hc hv
  | write p => exact flat_write s p inv hs hc hv
  | chmod p => exact flat_chmod s p inv hs hc hv
  | unlink p => exact flat_unlink s p inv hs hc hv
  | mkdir p => exact flat_mkdir s p inv hs hc hv
  | rmdir p => exact flat_rmdir s p inv hs hc hv
  | rmtree p => exact flat_rmtree s p inv hs hc hv
  | rename p q => exact flat_rename s p q inv hs hc hv
  | rmtreeOrd p order => exact flat_rmtreeOrd s p order inv hs hc hv

theorem stepOK_flat (s : Sys) (op : Op) (inv : InvFlat s.fs s.k s.lib) (hs : s.stopped = false) (hc : s.crashed = false)
    (hv : validOp s.fs op = true) : StepOK false InvFlat s op :=
  have st := step_flat s op inv hs hc hv
  ⟨st.events, st.stop, st.ncrash, st.full, st.inv⟩

theorem run_flat_all (s : Sys) (ops : List Op) (inv : InvFlat s.fs s.k s.lib) (hs : s.stopped = false) (hc : s.crashed = false)
    (hv : allValid s ops = true) :
    (s.run ops).2 = contractRun s.fs false s.full ops ∧ (s.run ops).1.crashed = false ∧
    ((s.run ops).1.stopped = true ↔ Op.rmdir ["W"] ∈ ops) ∧
    ((s.run ops).1.stopped = false → InvFlat (s.run ops).1.fs (s.run ops).1.k (s.run ops).1.lib) :=
  run_of_step false InvFlat stepOK_flat s ops inv hs hc hv

/-- REFINEMENT (non-recursive watch): a history of valid operations delivers exactly the contract's events (which
    only ever concern the root and its direct children), never crashes the reader, keeps the invariant -/
theorem run_flat (s : Sys) (ops : List Op) (inv : InvFlat s.fs s.k s.lib) (hs : s.stopped = false) (hc : s.crashed = false)
    (hv : allValid s ops = true) :
    (s.run ops).2 = contractRun s.fs false s.full ops ∧ (s.run ops).1.crashed = false ∧
    ((s.run ops).1.stopped = false → InvFlat (s.run ops).1.fs (s.run ops).1.k (s.run ops).1.lib) :=
  have h := run_flat_all s ops inv hs hc hv
  ⟨h.1, h.2.1, h.2.2.2⟩

theorem start_flat (fs0 : FS) (hwf : fs0.WF) (full : Bool) :
    InvFlat (Sys.start fs0 false full).fs (Sys.start fs0 false full).k (Sys.start fs0 false full).lib ∧
    (Sys.start fs0 false full).stopped = false ∧ (Sys.start fs0 false full).crashed = false ∧
    (Sys.start fs0 false full).fs = fs0 ∧ (Sys.start fs0 false full).full = full := by
  obtain ⟨r, hr, hrd⟩ := FS.isDir_iff.mp hwf.rootW
  have hrm := FS.find?_some hr
  have haw := addWatch_new (fs := fs0) (k := ⟨[], 1, 1⟩) (lib := ⟨[], [], [], false⟩) (e := r) (by rw [hrm.2]; exact hr)
    (by simp [Kern.wdOfIno])
  rw [hrm.2] at haw
  have hstart : Sys.start fs0 false full =
      { fs := fs0, k := (⟨[], 1, 1⟩ : Kern).withWatch r.ino, lib := (⟨[], [], [], false⟩ : Lib).withWatch ["W"] 1, full := full } := by
    simp only [Sys.start, libInit, Bool.false_eq_true, if_false, haw]
  rw [hstart]
  refine ⟨?_, rfl, rfl, rfl, rfl⟩
  exact
    { wf := hwf, notRec := rfl,
      root := ⟨r, 1, hr, hrd, by simp [Kern.withWatch], by simp [Lib.withWatch, setW, lookupW_nil],
        by simp [Lib.withWatch, setP, lookupP_nil]⟩,
      cookies := by simp [Lib.withWatch], srcs := by simp [Lib.withWatch] }

/-- everything that is said about a drained history of a non-recursive watch, from the start of the watch -/
theorem history_flat (fs0 : FS) (hwf : fs0.WF) (full : Bool) (ops : List Op)
    (hv : allValid (Sys.start fs0 false full) ops = true) :
    ((Sys.start fs0 false full).run ops).2 = contractRun fs0 false full ops ∧
    ((Sys.start fs0 false full).run ops).1.crashed = false ∧
    (((Sys.start fs0 false full).run ops).1.stopped = true ↔ Op.rmdir ["W"] ∈ ops) ∧
    (((Sys.start fs0 false full).run ops).1.stopped = false →
      InvFlat ((Sys.start fs0 false full).run ops).1.fs ((Sys.start fs0 false full).run ops).1.k
        ((Sys.start fs0 false full).run ops).1.lib) :=
  history_of_step false InvFlat stepOK_flat fs0 full ops (start_flat fs0 hwf full) hv

theorem after_history_flat (fs0 : FS) (hwf : fs0.WF) (full : Bool) (pre : List Op)
    (hv : allValid (Sys.start fs0 false full) pre = true) (hroot : Op.rmdir ["W"] ∉ pre) :
    InvFlat ((Sys.start fs0 false full).run pre).1.fs ((Sys.start fs0 false full).run pre).1.k ((Sys.start fs0 false full).run pre).1.lib ∧
    ((Sys.start fs0 false full).run pre).1.stopped = false ∧ ((Sys.start fs0 false full).run pre).1.crashed = false :=
  after_of_step false InvFlat stepOK_flat fs0 full pre (start_flat fs0 hwf full) hv hroot

end WD.Pipe
