/- operations on directories under a recursive watch: mkdir, rmdir, rmtree -/
import WD.Proofs.Pipeline.Watch
import WD.Proofs.Pipeline.OpsFile
namespace WD.Pipe

variable {fs : FS} {k : Kern} {lib : Lib} {cov : Ent → Prop} {z : Option Nat}

theorem InvOn.mono {cov' : Ent → Prop} (inv : InvOn cov z fs k lib)
    (h : ∀ e ∈ fs.ents, inTreeDir e = true → cov' e → cov e) : InvOn cov' z fs k lib :=
  { inv with cover := fun e he hd hc => inv.cover e he hd (h e he hd hc) }

theorem InvOn.fs_grow {fs1 : FS} (inv : InvOn cov z fs k lib) (hwf : fs1.WF) (h : ∀ e ∈ fs.ents, e ∈ fs1.ents) :
    InvOn (fun e => cov e ∧ e ∈ fs.ents) z fs1 k lib :=
  { inv with
    wf := hwf
    good := fun w hw => by
      obtain ⟨e, he, h1⟩ := inv.good w hw
      exact ⟨e, h e he, h1⟩
    cover := fun e _ hd hc => inv.cover e hc.2 hd hc.1 }

theorem FS.WF.ancestor_dir {fs : FS} (hwf : fs.WF) : ∀ (n : Nat) (e : Ent), e ∈ fs.ents → e.path.length = n →
    ∀ a : P, a ≠ [] → isUnder a e.path = true → fs.isDir a = true := by
  intro n
  induction n using Nat.strongRecOn with
  | ind n ih =>
    intro e he hn a ha hu
    rcases hwf.parent he with h | h | h
    · rw [h] at hu; have hl := isUnder_length hu
      have h1 : ([("W" : String)] : P).length = 1 := rfl
      have h2 : ([("O" : String)] : P).length = 1 := rfl
      exact absurd (List.length_eq_zero_iff.mp (by omega)) ha
    · rw [h] at hu; have hl := isUnder_length hu
      have h1 : ([("W" : String)] : P).length = 1 := rfl
      have h2 : ([("O" : String)] : P).length = 1 := rfl
      exact absurd (List.length_eq_zero_iff.mp (by omega)) ha
    · rcases isUnder_parent hu with hp | hp
      · rw [← hp]; exact h.2
      · obtain ⟨d, hd, _⟩ := FS.isDir_iff.mp h.2
        have hdm := FS.find?_some hd
        have hl : d.path.length < n := by rw [hdm.2, parentOf_length]; omega
        exact ih _ hl d hdm.1 rfl a ha (hdm.2 ▸ hp)

theorem FS.WF.no_descendants_of_missing {fs : FS} (hwf : fs.WF) {p : P} (hp : p ≠ []) (hne : fs.exists p = false) :
    ∀ e ∈ fs.ents, isUnder p e.path = false := by
  intro e he
  cases h : isUnder p e.path with
  | false => rfl
  | true =>
    have := hwf.ancestor_dir _ e he rfl p hp h
    obtain ⟨d, hd, _⟩ := FS.isDir_iff.mp this
    simp [FS.exists, hd] at hne

theorem inTreeDir_of_parent {fs : FS} {p : P} (hp : 2 ≤ p.length) (hpar : fs.isDir (parentOf p) = true) (ino : Nat) :
    inTreeDir ⟨p, true, ino⟩ = watchedDir fs true (parentOf p) := by
  unfold inTreeDir watchedDir
  simp only [Bool.true_and, hpar]
  have hne : p ≠ ["W"] := by intro h; subst h; simp at hp
  have hnn := ne_nil_of_two_le hp
  cases hu : isUnder ["W"] p with
  | true =>
    have e1 : (p == ["W"]) = false := by simp [hne]
    rcases isUnder_parent hu with h | h
    · simp [e1, h]
    · simp [e1, h]
  | false =>
    have h1 : parentOf p ≠ ["W"] := by
      intro h; have := isUnder_of_parent hnn (Or.inl h); rw [hu] at this; cases this
    have h2 : isUnder ["W"] (parentOf p) = false := by
      cases h : isUnder ["W"] (parentOf p) with
      | false => rfl
      | true => have := isUnder_of_parent hnn (Or.inr h); rw [hu] at this; cases this
    have e1 : (p == ["W"]) = false := by simp [hne]
    have e2 : (parentOf p == ["W"]) = false := by simp [h1]
    simp [e1, e2, h2]

theorem step_mkdir (s : Sys) (p : P) (inv : InvRec s.fs s.k s.lib) (hs : s.stopped = false) (hc : s.crashed = false)
    (hv : validOp s.fs (.mkdir p) = true) : StepRec s (.mkdir p) := by
  obtain ⟨hp, hne, hpar⟩ := validOp_mkdir hv
  have hnn := ne_nil_of_two_le hp
  have hpb := snoc_parent_base hnn
  have hwf1 := inv.wf.add hp hne hpar true
  have hit := inTreeDir_of_parent hp hpar s.fs.nextIno
  rcases inv.parent_recs p with ⟨hw, wd, h1, _, hrec⟩ | ⟨hw, hrec⟩
  · -- the new directory gets its watch
    have hfnone : s.fs.find? p = none := FS.find?_none.mpr (exists_false_iff.mp hne)
    have hfind : (s.fs.add p true).find? p = some ⟨p, true, s.fs.nextIno⟩ := by
      rw [FS.find?_add, hfnone]; simp
    have hdesc : (s.fs.add p true).descendants p = [] := by
      unfold FS.descendants
      rw [List.filter_eq_nil_iff]
      intro e he
      rcases FS.mem_add.mp he with he | he
      · simp [inv.wf.no_descendants_of_missing hnn hne e he]
      · subst he; simp [isUnder_irrefl]
    have hk : kernelOp s.fs s.k (.mkdir p) = (s.fs.add p true, s.k, [⟨wd, .create, true, 0, some (baseName p)⟩]) := by
      simp [kernelOp, hrec, FS.add]
    have haw := addWatch_new (fs := s.fs.add p true) (k := s.k) (lib := s.lib) (e := ⟨p, true, s.fs.nextIno⟩) hfind inv.fresh_unwatched
    have hl : libBatch (s.fs.add p true) s.k s.lib [⟨wd, .create, true, 0, some (baseName p)⟩] =
        some (s.k.withWatch s.fs.nextIno, s.lib.withWatch p s.k.nextWd, [⟨wd, .create, true, 0, some (baseName p), p⟩]) := by
      simp only [libBatch_cons, libBatch_nil, libRecord, h1, hpb, inv.isRec, Bool.and_self, if_true]
      simp only at haw
      simp [haw, hdesc]
    have hnew : (⟨p, true, s.fs.nextIno⟩ : Ent) ∈ (s.fs.add p true).ents := FS.mem_add.mpr (Or.inr rfl)
    have i1 := inv.fs_grow hwf1 (fun e he => FS.mem_add.mpr (Or.inl he))
    have i2 := i1.addWatch hnew (by rw [hit, hw]) inv.fresh_unwatched
    refine StepOK.toRec <| StepOK.of_ones s _ hs hc hk hl inv.isRec (by simp) (fun l hl _ => by rw [List.mem_singleton.mp hl]; rfl) ?_ rfl (i2.mono ?_)
    · simp only [contract, hw, if_true]; rfl
    · intro e he _ _
      rcases FS.mem_add.mp he with h | h
      · exact Or.inl ⟨trivial, h⟩
      · exact Or.inr h
  · refine step_simple s _ inv hs hc (s.fs.add p true) [] (fun _ => parentOf p) ⟨?_, ?_, ?_, ?_, ?_, ?_, ?_⟩
    · simp [kernelOp, hrec, FS.add]
    · simp
    · exact hwf1
    · intro e he; rw [FS.mem_add]
      constructor
      · rintro (h | h)
        · exact h
        · subst h; rw [hit, hw] at he; cases he
      · exact Or.inl
    · simp
    · simp [contract, hw]
    · simp [contract]

/-- what the removal of one entry (unlink / rmdir, alone or as a step of rmtree) does to the pipeline -/
structure RemovalOK (fs : FS) (k : Kern) (lib : Lib) (e : Ent) (lib' : Lib) (levs : List LEv) : Prop where
  fsEq : (removeEntry fs k e).1 = fs.del e.path
  batch : ∀ fsX kX, libBatch fsX kX lib (removeEntry fs k e).2.2 = some (kX, lib', levs)
  inv : InvRec (fs.del e.path) (removeEntry fs k e).2.1 lib'
  flags : ∀ l ∈ levs, l.flag = .deleteSelf ∨ l.flag = .ignored ∨ l.flag = .delete
  notRoot : ∀ l ∈ levs, l.flag = .deleteSelf → l.src ≠ ["W"]
  events : ∀ fsX full, (levs.filter (fun l => l.flag != .ignored)).flatMap (fun l => (emit fsX true full (.one l)).1) =
      if watchedDir fs true (parentOf e.path) then evDeleted e.isDir e.path else []

theorem removeEntry_step {fs : FS} {k : Kern} {lib : Lib} (inv : InvRec fs k lib) {e : Ent} (he : e ∈ fs.ents)
    (hp2 : 2 ≤ e.path.length) (hwf' : (fs.del e.path).WF) : ∃ lib' levs, RemovalOK fs k lib e lib' levs := by
  have hpb := snoc_parent_base (ne_nil_of_two_le hp2)
  have hnW : e.path ≠ ["W"] := by intro h; rw [h] at hp2; simp at hp2
  -- the records on the entry's own watch (a directory of the tree only): the watch goes, both maps forget it
  obtain ⟨recsS, lib1, levsS, hrS, hbS, inv1, hflS, hpres⟩ : ∃ recsS lib1 levsS,
      (if e.isDir then k.onSelf e.ino .deleteSelf false ++ k.onSelf e.ino .ignored false else []) = recsS ∧
      (∀ fsX kX, libBatch fsX kX lib recsS = some (kX, lib1, levsS)) ∧
      InvRec (fs.del e.path) (if e.isDir then k.dropWatch e.ino else k) lib1 ∧
      (∀ l ∈ levsS, (l.flag = .deleteSelf ∨ l.flag = .ignored) ∧ l.src = e.path) ∧
      (∀ w, lookupW lib.pathForWd w = some (parentOf e.path) → lookupW lib1.pathForWd w = some (parentOf e.path)) := by
    cases ht : inTreeDir e with
    | true =>
      have hd : e.isDir = true := (inTreeDir_iff.mp ht).1
      obtain ⟨wd, h1, hw, h2, h3⟩ := inv.watched he ht trivial
      refine ⟨[⟨wd, .deleteSelf, false, 0, none⟩, ⟨wd, .ignored, false, 0, none⟩], lib.forget e.path wd,
        [⟨wd, .deleteSelf, false, 0, none, e.path⟩, ⟨wd, .ignored, false, 0, none, e.path⟩], ?_, ?_, ?_, ?_, ?_⟩
      · rw [hd, if_pos rfl, onSelf_some h1, onSelf_some h1]; rfl
      · exact fun fsX kX => libBatch_gone fsX kX lib wd e.path h2 h3
      · rw [hd, if_pos rfl]; exact inv.dropWatch he hw hwf'
      · intro l hl; simp at hl; rcases hl with rfl | rfl <;> simp
      · intro w hwp
        have hne : w ≠ wd := by
          intro hh; rw [hh, h2] at hwp
          have := congrArg List.length (Option.some.inj hwp); rw [parentOf_length] at this; omega
        simp [Lib.forget, lookupW_filter_ne, hne, hwp]
    | false =>
      have hun := inv.unwatched he ht
      refine ⟨[], lib, [], by simp [onSelf_none hun], fun _ _ => rfl, ?_, by simp, fun _ h => h⟩
      have hk1 : (if e.isDir then k.dropWatch e.ino else k) = k := by
        cases e.isDir <;> simp [dropWatch_unwatched hun]
      rw [hk1]
      apply inv.fs_change hwf'
      intro x hx; rw [FS.mem_del]
      refine ⟨fun h => h.1, fun h => ⟨h, ?_⟩⟩
      intro hp; have := inv.wf.path_inj h he hp; subst this; rw [ht] at hx; cases hx
  obtain ⟨recsP, levsP, hrP, hbP, hflP, hevP⟩ : ∃ recsP levsP,
      k.onEntry ((fs.find? (parentOf e.path)).map (·.ino)) .delete e.isDir 0 (baseName e.path) = recsP ∧
      (∀ fsX kX, libBatch fsX kX lib1 recsP = some (kX, lib1, levsP)) ∧ (∀ l ∈ levsP, l.flag = .delete) ∧
      (∀ fsX full, levsP.flatMap (fun l => (emit fsX true full (.one l)).1) =
        if watchedDir fs true (parentOf e.path) then evDeleted e.isDir e.path else []) := by
    rcases inv.parent_recs e.path with ⟨hwp, wdp, hp1, _, hrec⟩ | ⟨hwp, hrec⟩
    · refine ⟨_, [⟨wdp, .delete, e.isDir, 0, some (baseName e.path), e.path⟩], hrec _ _ _, ?_, by simp, ?_⟩
      · intro fsX kX
        rw [libBatch_cons, libRecord_simple fsX kX _ ⟨wdp, .delete, e.isDir, 0, some (baseName e.path)⟩ (parentOf e.path) rfl (hpres _ hp1)]
        simp only [libBatch_nil, NRec.toLEv, NRec.src, hpb, List.append_nil]
      · intro fsX full; rw [hwp]; rfl
    · exact ⟨_, [], hrec _ _ _, fun _ _ => rfl, by simp, fun _ _ => by rw [hwp]; rfl⟩
  refine ⟨lib1, levsS ++ levsP, rfl, ?_, inv1, ?_, ?_, ?_⟩
  · intro fsX kX
    simp only [removeEntry, hrS, hrP]
    rw [libBatch_append fsX kX lib _ _ (hbS fsX kX), hbP fsX kX]
  · intro l hl
    rcases List.mem_append.mp hl with h | h
    · rcases (hflS l h).1 with h1 | h1
      · exact Or.inl h1
      · exact Or.inr (Or.inl h1)
    · exact Or.inr (Or.inr (hflP l h))
  · intro l hl hf
    rcases List.mem_append.mp hl with h | h
    · rw [(hflS l h).2]; exact hnW
    · rw [hflP l h] at hf; cases hf
  · intro fsX full
    have hS : (levsS.filter (fun l => l.flag != .ignored)).flatMap (fun l => (emit fsX true full (.one l)).1) = [] := by
      rw [List.flatMap_eq_nil_iff]
      intro l hl
      obtain ⟨hl1, hl2⟩ := List.mem_filter.mp hl
      rcases (hflS l hl1).1 with h1 | h1
      · simp [emit, h1, (hflS l hl1).2, hnW]
      · simp [h1] at hl2
    rw [List.filter_append, List.flatMap_append, hS, List.nil_append,
      List.filter_eq_self.mpr (fun l hl => by simp [hflP l hl]), hevP]

theorem step_removals (s : Sys) (op : Op) (hs : s.stopped = false) (hc : s.crashed = false)
    {fs1 : FS} {k1 : Kern} {recs : List NRec} {lib' : Lib} {levs : List LEv}
    (hk : kernelOp s.fs s.k op = (fs1, k1, recs))
    (hb : libBatch fs1 k1 s.lib recs = some (k1, lib', levs))
    (flags : ∀ l ∈ levs, l.flag = .deleteSelf ∨ l.flag = .ignored ∨ l.flag = .delete)
    (notRoot : ∀ l ∈ levs, l.flag = .deleteSelf → l.src ≠ ["W"])
    (hev : (levs.filter (fun l => l.flag != .ignored)).flatMap (fun l => (emit fs1 true s.full (.one l)).1) =
      (contract s.fs true s.full op).1)
    (hst : (contract s.fs true s.full op).2 = false) (hinv : InvRec fs1 k1 lib') : StepRec s op := by
  refine StepOK.toRec <| StepOK.of_ones s op hs hc hk hb hinv.isRec ?_ ?_ hev hst hinv
  · intro l hl; rcases flags l hl with h | h | h <;> simp [h]
  · intro l hl _
    rcases flags l hl with h | h | h
    · simp [emit, h, notRoot l hl h]
    · simp [emit, h]
    · simp [emit, h]

theorem FS.dir_leaf {fs : FS} {p : P} (hch : (fs.children p).isEmpty = true) :
    ∀ e ∈ fs.ents, parentOf e.path ≠ p ∨ e.path.length < 2 := by
  intro e he
  by_cases hl : e.path.length < 2
  · exact Or.inr hl
  · left; intro hpp
    have hnn : e.path ≠ [] := by intro h; rw [h] at hl; simp at hl
    have : e ∈ fs.children p := by
      unfold FS.children
      rw [List.mem_filter]
      refine ⟨he, ?_⟩
      have hb := snoc_parent_base hnn
      rw [hpp] at hb
      rw [← hb]; simp
    rw [List.isEmpty_iff] at hch
    rw [hch] at this; cases this

theorem step_rmdir (s : Sys) (p : P) (inv : InvRec s.fs s.k s.lib) (hs : s.stopped = false) (hc : s.crashed = false)
    (hv : validOp s.fs (.rmdir p) = true) : StepRec s (.rmdir p) := by
  obtain ⟨e, he, hd, hp, hch⟩ := validOp_rmdir hv
  have hem := FS.find?_some he
  have hex : s.fs.exists p = true := FS.exists_iff.mpr ⟨e, he⟩
  by_cases hW : p = ["W"]
  · -- the watched root itself goes away: one DirDeletedEvent, the emitter stops
    subst hW
    have ht : inTreeDir e = true := by rw [inTreeDir_iff]; exact ⟨hd, Or.inl hem.2⟩
    obtain ⟨wd, h1, hw, h2, h3⟩ := inv.watched hem.1 ht trivial
    rw [hem.2] at h2 h3
    have hpar : s.fs.find? (parentOf ["W"]) = none := by
      rw [FS.find?_none]; intro x hx; exact fun h => inv.wf.path_ne_nil hx (by simpa [parentOf] using h)
    have hk : kernelOp s.fs s.k (.rmdir ["W"]) = (s.fs.del ["W"], s.k.dropWatch e.ino,
        [⟨wd, .deleteSelf, false, 0, none⟩, ⟨wd, .ignored, false, 0, none⟩]) := by
      simp [kernelOp, he, removeEntry, hd, hem.2, onSelf_some h1, hpar, Kern.onEntry, FS.del]
    have hl := libBatch_gone (s.fs.del ["W"]) (s.k.dropWatch e.ino) s.lib wd ["W"] h2 h3
    have hgs : gsOf [(⟨wd, .deleteSelf, false, 0, none, ["W"]⟩ : LEv), ⟨wd, .ignored, false, 0, none, ["W"]⟩] =
        [.one ⟨wd, .deleteSelf, false, 0, none, ["W"]⟩] := by
      rw [gsOf_noTo]; · simp
      · intro x hx; simp at hx; rcases hx with rfl | rfl <;> simp
    refine StepOK.toRec <| StepOK.of_quiet s _ hs hc hk hl inv.isRec (fun _ => by rw [hgs]; rfl) ?_ (fun h => by simp [contract] at h)
    rw [hgs]; simp [emitAll_cons, emit, contract, mkEv]
  · have hp2 : 2 ≤ p.length := hp.resolve_right hW
    have hwf' : (s.fs.del e.path).WF := by rw [hem.2]; exact inv.wf.del hp2 (FS.dir_leaf hch)
    obtain ⟨lib', levs, ok⟩ := removeEntry_step inv hem.1 (hem.2 ▸ hp2) hwf'
    have hk : kernelOp s.fs s.k (.rmdir p) = removeEntry s.fs s.k e := by simp [kernelOp, he]
    have hk' : kernelOp s.fs s.k (.rmdir p) = (s.fs.del e.path, (removeEntry s.fs s.k e).2.1, (removeEntry s.fs s.k e).2.2) := by
      rw [hk, ← ok.fsEq]
    apply step_removals s _ hs hc hk' (ok.batch _ _) ok.flags ok.notRoot
    · rw [ok.events]; simp [contract, hW, hem.2, hex, hd]
    · simp [contract, hW]
    · exact ok.inv

end WD.Pipe
