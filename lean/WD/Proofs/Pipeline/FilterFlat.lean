/- the filtered pipeline under a NON-recursive watch: the mask may also leave out CREATE / MOVED_FROM / MOVED_TO (both
   halves or neither); the library's state then differs from the unfiltered one's in the remembered MOVED_FROMs only,
   which a non-recursive watch never uses -/
import WD.Proofs.Pipeline.Filter
import WD.Proofs.Pipeline.Flat
namespace WD.Pipe

/-- the maps of a non-recursive watch: their only key / value is the root (or they are empty: root gone) -/
structure FlatMaps (lib : Lib) : Prop where
  notRec : lib.recursive = false
  keys : ∀ x ∈ lib.wdForPath, x.1 = ["W"]
  vals : ∀ x ∈ lib.pathForWd, x.2 = ["W"]
  srcs : ∀ x ∈ lib.movedFrom, x.2 ≠ ["W"]

/-- same maps; the second library remembers fewer MOVED_FROMs -/
structure Sim (a b : Lib) : Prop where
  r : b.recursive = a.recursive
  wfp : b.wdForPath = a.wdForPath
  pfw : b.pathForWd = a.pathForWd
  sub : ∀ x ∈ b.movedFrom, x ∈ a.movedFrom

theorem Sim.refl (a : Lib) : Sim a a := ⟨rfl, rfl, rfl, fun _ h => h⟩

theorem Sim.flat {a b : Lib} (h : Sim a b) (fa : FlatMaps a) : FlatMaps b :=
  ⟨by rw [h.r]; exact fa.notRec, by rw [h.wfp]; exact fa.keys, by rw [h.pfw]; exact fa.vals,
   fun x hx => fa.srcs x (h.sub x hx)⟩

theorem InvFlat.flatMaps {fs : FS} {k : Kern} {lib : Lib} (inv : InvFlat fs k lib) : FlatMaps lib := by
  obtain ⟨r, w0, _, _, _, hp, hw⟩ := inv.root
  exact ⟨inv.notRec, by rw [hw]; simp, by rw [hp]; simp, inv.srcs⟩

theorem FlatMaps.lookupP_none {lib : Lib} (f : FlatMaps lib) {p : P} (hp : p ≠ ["W"]) : lookupP lib.wdForPath p = none := by
  cases h : lookupP lib.wdForPath p with
  | none => rfl
  | some w => exact absurd (f.keys _ (lookupP_some_mem h)) (by simpa using hp)

theorem FlatMaps.wd {fs : FS} {k : Kern} {lib : Lib} (f : FlatMaps lib) {r : NRec} {x : Kern × Lib × List LEv}
    (h : libRecord fs k lib r = some x) : lookupW lib.pathForWd r.wd = some ["W"] := by
  obtain ⟨wp, hw⟩ := libRecord_wd h
  rw [hw, show wp = ["W"] from f.vals _ (lookupW_some_mem hw)]

/-- what one record does to the library of a non-recursive watch -/
def flatLib (lib : Lib) (r : NRec) : Lib :=
  match r.flag with
  | .movedFrom => { lib with movedFrom := (r.cookie, r.src ["W"]) :: lib.movedFrom }
  | .ignored => { lib with
      wdForPath := (if lookupP lib.wdForPath ["W"] == some r.wd then lib.wdForPath.filter (fun x => x.1 != ["W"]) else lib.wdForPath),
      pathForWd := lib.pathForWd.filter (fun x => x.1 != r.wd) }
  | _ => lib

theorem libRecord_flat_eq (fs : FS) (k : Kern) {a : Lib} {r : NRec} (fa : FlatMaps a)
    (hw : lookupW a.pathForWd r.wd = some ["W"]) :
    libRecord fs k a r = some (k, flatLib a r, [r.toLEv ["W"]]) := by
  by_cases hsim : simpleFlag false r.flag r.isDir = true
  · rw [libRecord_simple fs k a r ["W"] (by rw [fa.notRec]; exact hsim) hw]
    have : flatLib a r = a := by
      unfold flatLib
      cases hf : r.flag <;> simp [simpleFlag, hf] at hsim <;> rfl
    rw [this]
  · obtain ⟨wd, flag, isDir, cookie, name⟩ := r
    simp only at hw
    cases flag <;> simp [simpleFlag] at hsim
    · cases name <;> simp [libRecord, hw, flatLib, NRec.toLEv, NRec.src]
    · -- MOVED_TO: a remembered source is never the root, so there is no watch to re-key
      simp only [libRecord, hw, fa.notRec, Bool.false_and, Bool.false_eq_true, if_false, flatLib, NRec.toLEv, NRec.src]
      cases hfd : a.movedFrom.find? (fun x => x.1 == cookie) with
      | none => cases name <;> simp
      | some x => cases name <;> simp [fa.lookupP_none (fa.srcs x (List.mem_of_find?_eq_some hfd))]
    · cases name <;> simp [libRecord, hw, flatLib, NRec.toLEv, NRec.src]

theorem FlatMaps.step {a : Lib} (fa : FlatMaps a) {r : NRec} (hn : named r) : FlatMaps (flatLib a r) := by
  unfold flatLib
  split
  · next hf =>
    refine ⟨fa.notRec, fa.keys, fa.vals, fun x hx => ?_⟩
    rcases List.mem_cons.1 hx with rfl | hx
    · obtain ⟨n, hnm⟩ := Option.isSome_iff_exists.1 (hn hf)
      simp [NRec.src, hnm]
    · exact fa.srcs x hx
  · refine ⟨fa.notRec, fun x hx => ?_, fun x hx => fa.vals x (List.mem_filter.1 hx).1, fa.srcs⟩
    simp only at hx
    split at hx
    · exact fa.keys x (List.mem_filter.1 hx).1
    · exact fa.keys x hx
  · exact fa

theorem Sim.step {a b : Lib} (hs : Sim a b) (r : NRec) : Sim (flatLib a r) (flatLib b r) := by
  unfold flatLib
  split
  · refine ⟨hs.r, hs.wfp, hs.pfw, fun x hx => ?_⟩
    rcases List.mem_cons.1 hx with rfl | hx
    · exact List.mem_cons_self ..
    · exact List.mem_cons_of_mem _ (hs.sub x hx)
  · exact ⟨hs.r, by simp only [hs.wfp], by simp only [hs.pfw], hs.sub⟩
  · exact hs

theorem Sim.step_left {a b : Lib} (hs : Sim a b) {r : NRec} (hni : r.flag ≠ .ignored) : Sim (flatLib a r) b := by
  unfold flatLib
  split
  · exact ⟨hs.r, hs.wfp, hs.pfw, fun x hx => List.mem_cons_of_mem _ (hs.sub x hx)⟩
  · next hf => exact absurd hf hni
  · exact hs

theorem libRecord_sim {fs : FS} {k : Kern} {a b : Lib} {r : NRec} (fa : FlatMaps a) (hs : Sim a b) (hn : named r)
    {k1 : Kern} {a1 : Lib} {ev : List LEv} (h : libRecord fs k a r = some (k1, a1, ev)) :
    ∃ b1, libRecord fs k b r = some (k1, b1, ev) ∧ Sim a1 b1 ∧ FlatMaps a1 := by
  have hw := fa.wd h
  rw [libRecord_flat_eq fs k fa hw] at h
  cases h
  exact ⟨_, libRecord_flat_eq fs k (hs.flat fa) (hs.pfw ▸ hw), hs.step r, fa.step hn⟩

/-- what is left out by the mask only ever yields rejected events (non-recursive emitter) -/
structure CompleteF (m : Flag → Bool) (acc : EvClass → Bool) : Prop where
  one : ∀ (fs : FS) (full : Bool) (e : LEv), m e.flag = false → e.flag ≠ .ignored →
    (∀ ev ∈ (emit fs false full (.one e)).1, acc ev.cls = false) ∧ (emit fs false full (.one e)).2 = false
  two : m .movedFrom = false → ∀ (fs : FS) (full : Bool) (f t : LEv), ∀ ev ∈ (emit fs false full (.two f t)).1, acc ev.cls = false

structure SimS (s sM : Sys) : Prop where
  fs : sM.fs = s.fs
  k : sM.k = s.k
  full : sM.full = s.full
  stopped : sM.stopped = s.stopped
  crashed : sM.crashed = s.crashed
  lib : Sim s.lib sM.lib

theorem stages_flat {m : Flag → Bool} {acc : EvClass → Bool} (hcl : m .movedFrom = m .movedTo) (hc : CompleteF m acc) :
    Stages m acc (keepG' m) (fun a b => FlatMaps a ∧ Sim a b) :=
  { recursive := by intro a b h; exact h.2.r
    batch := by
      intro fs k a b recs k' a' levs hn hR h
      refine libBatch_maskSim (m := m) (fun a b => FlatMaps a ∧ Sim a b) named ?_ ?_ recs k a b k' a' levs hn hR h
      · -- a kept record: both readers process it
        intro k a b r k1 a1 evs hn hr hR h1
        have hw := hR.1.wd h1
        rw [libRecord_flat_eq fs k hR.1 hw] at h1
        cases h1
        exact ⟨_, libRecord_flat_eq fs k (hR.2.flat hR.1) (hR.2.pfw ▸ hw), ⟨hR.1.step hn, hR.2.step r⟩,
          by simp [keepL, NRec.toLEv, hr]⟩
      · -- a dropped record: only the unmasked reader does
        intro k a b r k1 a1 evs hn hr hR h1
        rw [libRecord_flat_eq fs k hR.1 (hR.1.wd h1)] at h1
        cases h1
        have hni : r.flag ≠ .ignored := fun e => by simp [e] at hr
        exact ⟨rfl, ⟨hR.1.step hn, hR.2.step_left hni⟩, by simp [keepL, NRec.toLEv, hr]⟩
    group := gsOf_filter' hcl
    emit := by
      intro a b hR fs full levs
      rw [hR.1.notRec]
      refine emitAll_drop (keepG' m) fs false full (gsOf levs) fun g hg hk => ?_
      cases g with
      | one e =>
        exact hc.one fs full e (Bool.or_eq_false_iff.1 hk).2 (by simpa [Grouped.keep] using gsOf_keep levs _ hg)
      | two f t =>
        have hm : m .movedFrom = false := by
          simpa [keepG', keepL, show f.flag = .movedFrom from fromOK_gsOf levs _ hg] using hk
        exact ⟨hc.two hm fs full f t, rfl⟩
    forget := by
      intro a b hR fs k levs k3 a3 hf
      simp only [hR.1.notRec, Bool.false_eq_true, if_false, forgetAll, Option.some.injEq, Prod.mk.injEq] at hf ⊢
      exact ⟨_, ⟨hf.1, rfl⟩, hf.2 ▸ hR⟩ }

theorem runF_flat {m : Flag → Bool} {acc : EvClass → Bool} (hcl : m .movedFrom = m .movedTo) (hc : CompleteF m acc)
    (ops : List Op) (s sM : Sys) (hsim : SimS s sM) (hflat : FlatMaps s.lib) (hnc : (s.run ops).1.crashed = false) :
    (sM.runF m acc ops).2 = (s.run ops).2.map (fun evs => evs.filter (fun e => acc e.cls)) ∧
    SimS (s.run ops).1 (sM.runF m acc ops).1 := by
  obtain ⟨h1, h2⟩ := runF_sim (stages_flat hcl hc) ops s sM
    ⟨hsim.fs, hsim.k, hsim.full, hsim.stopped, hsim.crashed, hflat, hsim.lib⟩ hnc
  exact ⟨h1, h2.fs, h2.k, h2.full, h2.stopped, h2.crashed, h2.lib.2⟩

def classesOfF (fl : Flag) (d full : Bool) : List EvClass :=
  match fl with
  | .create => [if d then .DirCreatedEvent else .FileCreatedEvent, .DirModifiedEvent]
  | .movedFrom => [if full then (if d then .DirMovedEvent else .FileMovedEvent)
                   else (if d then .DirDeletedEvent else .FileDeletedEvent), .DirModifiedEvent]
  | .movedTo => [if full then (if d then .DirMovedEvent else .FileMovedEvent)
                 else (if d then .DirCreatedEvent else .FileCreatedEvent), .DirModifiedEvent]
  | _ => classesOf fl d

def maskableFlags : List Flag := optionalFlags ++ [.create, .movedFrom, .movedTo]

theorem emit_maskable (fs : FS) (full : Bool) (e : LEv) (h : e.flag ∈ maskableFlags) :
    (emit fs false full (.one e)).1.map (·.cls) = classesOfF e.flag e.isDir full ∧
    (emit fs false full (.one e)).2 = false := by
  rcases List.mem_append.1 h with h | h
  · have := emit_optional fs false full e h
    have hc : classesOfF e.flag e.isDir full = classesOf e.flag e.isDir := by
      simp only [optionalFlags, List.mem_cons, List.mem_nil_iff, or_false] at h
      rcases h with h | h | h | h | h | h <;> rw [h] <;> rfl
    rwa [hc]
  · obtain ⟨wd, flag, isDir, cookie, name, src⟩ := e
    simp only [List.mem_cons, List.mem_nil_iff, or_false] at h
    rcases h with rfl | rfl | rfl <;> cases isDir <;> cases full <;> exact ⟨rfl, rfl⟩

def completeBF (m : Flag → Bool) (acc : EvClass → Bool) : Bool :=
  m .deleteSelf &&
  maskableFlags.all (fun fl => m fl || [true, false].all (fun d => [true, false].all (fun full =>
    (classesOfF fl d full).all (fun c => !acc c)))) &&
  (m .movedFrom || (!acc .DirMovedEvent && !acc .FileMovedEvent && !acc .DirModifiedEvent))

theorem CompleteF_of_check {m : Flag → Bool} {acc : EvClass → Bool} (h : completeBF m acc = true) : CompleteF m acc := by
  simp only [completeBF, Bool.and_eq_true] at h
  obtain ⟨⟨hds, hall⟩, hpair⟩ := h
  refine ⟨?_, ?_⟩
  · intro fs full e hm hne
    have hopt : e.flag ∈ maskableFlags := by
      cases hf : e.flag <;> first | decide | (rw [hf] at hm hne; simp [hds] at hm hne)
    obtain ⟨c1, c2⟩ := emit_maskable fs full e hopt
    refine ⟨?_, c2⟩
    intro ev hev
    have hcls : ev.cls ∈ classesOfF e.flag e.isDir full := by rw [← c1]; exact List.mem_map_of_mem hev
    have := List.all_eq_true.1 hall e.flag hopt
    simp only [hm, Bool.false_or] at this
    have h2 := List.all_eq_true.1 this e.isDir (by cases e.isDir <;> simp)
    have h3 := List.all_eq_true.1 h2 full (by cases full <;> simp)
    simpa using List.all_eq_true.1 h3 ev.cls hcls
  · intro hm fs full f t ev hev
    simp only [hm, Bool.false_or, Bool.and_eq_true, Bool.not_eq_true'] at hpair
    simp only [emit, Bool.and_false, Bool.false_eq_true, if_false, List.append_nil, List.mem_cons, List.mem_nil_iff,
      or_false] at hev
    rcases hev with rfl | rfl | rfl
    · simp only [mkEv]; split
      · exact hpair.1.1
      · exact hpair.1.2
    · exact hpair.2
    · exact hpair.2

theorem CompleteF.union {m1 m2 : Flag → Bool} {a1 a2 : EvClass → Bool} (h1 : CompleteF m1 a1) (h2 : CompleteF m2 a2) :
    CompleteF (fun f => m1 f || m2 f) (fun c => a1 c || a2 c) := by
  refine ⟨?_, ?_⟩
  · intro fs full e hm hne
    simp only [Bool.or_eq_false_iff] at hm
    obtain ⟨x1, y1⟩ := h1.one fs full e hm.1 hne
    obtain ⟨x2, _⟩ := h2.one fs full e hm.2 hne
    exact ⟨fun ev hev => by simp [x1 ev hev, x2 ev hev], y1⟩
  · intro hm fs full f t ev hev
    simp only [Bool.or_eq_false_iff] at hm
    simp [h1.two hm.1 fs full f t ev hev, h2.two hm.2 fs full f t ev hev]

end WD.Pipe
