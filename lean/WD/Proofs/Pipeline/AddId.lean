/- `_add_dir_watch` over a tree that is watched already (every directory under its current path): nothing changes -/
import WD.Proofs.Pipeline.RenameIn
namespace WD.Pipe

variable {fs : FS} {k : Kern} {lib : Lib} {cov : Ent → Prop} {z : Option Nat}

theorem addStep_id (inv : InvOn cov z fs k lib) {e : Ent} (he : e ∈ fs.ents) (hd : inTreeDir e = true) (hc : cov e) :
    addStep fs (k, lib) e = (k, lib) := by
  obtain ⟨wd, h1, _, h3, h4⟩ := inv.watched he hd hc
  -- the descriptor is known under this path only: nothing stale to drop
  have hfil : lib.wdForPath.filter (fun x => x.2 != wd || x.1 == e.path) = lib.wdForPath := by
    rw [List.filter_eq_self]
    intro x hx
    by_cases hxw : x.2 = wd
    · have hl : lookupP lib.wdForPath x.1 = some x.2 := lookupP_of_mem inv.wfpNodup (by cases x; exact hx)
      have := inv.wfpInv _ _ hl
      rw [hxw, h3] at this
      simp [Option.some.inj this]
    · simp [hxw]
  unfold addStep addWatch
  simp only [inv.wf.find_mem he, h1]
  rw [hfil, setP_id inv.wfpNodup h4, setW_id inv.pfwNodup h3]

theorem addTreeWatches_id (inv : InvOn cov z fs k lib) (p : P)
    (h : ∀ e ∈ (fs.find? p).toList ++ (fs.descendants p).filter (·.isDir), e ∈ fs.ents ∧ inTreeDir e = true ∧ cov e) :
    addTreeWatches fs k lib p = (k, lib) := by
  rw [addTreeWatches_eq]
  generalize (fs.find? p).toList ++ (fs.descendants p).filter (·.isDir) = ds at h
  induction ds with
  | nil => rfl
  | cons d rest ih =>
    simp only [List.foldl_cons]
    obtain ⟨h1, h2, h3⟩ := h d (by simp)
    rw [addStep_id inv h1 h2 h3]
    exact ih (fun e he => h e (List.mem_cons_of_mem _ he))

end WD.Pipe
