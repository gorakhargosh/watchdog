/- a directory arrives from outside the watched tree: it is watched, with what it holds -/
import WD.Proofs.Pipeline.RenameStatic
namespace WD.Pipe

variable {fs : FS} {k : Kern} {lib : Lib} {cov : Ent → Prop} {z : Option Nat}

def addStep (fs : FS) (acc : Kern × Lib) (e : Ent) : Kern × Lib :=
  match addWatch fs acc.1 acc.2 e.path with
  | some (k1, l1, _) => (k1, l1)
  | none => acc

theorem addTreeWatches_eq (fs : FS) (k : Kern) (lib : Lib) (p : P) :
    addTreeWatches fs k lib p = ((fs.find? p).toList ++ (fs.descendants p).filter (·.isDir)).foldl (addStep fs) (k, lib) := rfl

theorem addTree_fold (hwf : fs.WF) (ds : List Ent) : ∀ (k : Kern) (lib : Lib) (cov : Ent → Prop),
    InvOn cov z fs k lib → ds.Nodup → (∀ d ∈ ds, d ∈ fs.ents ∧ inTreeDir d = true ∧ k.wdOfIno d.ino = none) →
    InvOn (fun y => cov y ∨ y ∈ ds) z fs (ds.foldl (addStep fs) (k, lib)).1 (ds.foldl (addStep fs) (k, lib)).2 ∧
    (∀ w, w < k.nextWd → lookupW (ds.foldl (addStep fs) (k, lib)).2.pathForWd w = lookupW lib.pathForWd w) ∧
    (ds.foldl (addStep fs) (k, lib)).1.nextCookie = k.nextCookie ∧
    (ds.foldl (addStep fs) (k, lib)).2.movedFrom = lib.movedFrom := by
  induction ds with
  | nil =>
    intro k lib cov inv _ _
    exact ⟨inv.mono (fun e _ _ h => h.elim id (fun h => by cases h)), fun _ _ => rfl, rfl, rfl⟩
  | cons d rest ih =>
    intro k lib cov inv hnd hds
    simp only [List.nodup_cons] at hnd
    obtain ⟨hd1, hd2, hd3⟩ := hds d (List.mem_cons_self ..)
    have hstep : addStep fs (k, lib) d = (k.withWatch d.ino, lib.withWatch d.path k.nextWd) := by
      simp [addStep, addWatch_new (hwf.find_mem hd1) hd3]
    simp only [List.foldl_cons, hstep]
    have inv1 := inv.addWatch hd1 hd2 hd3
    have hrest : ∀ x ∈ rest, x ∈ fs.ents ∧ inTreeDir x = true ∧ (k.withWatch d.ino).wdOfIno x.ino = none := by
      intro x hx
      obtain ⟨a, b, c⟩ := hds x (List.mem_cons_of_mem _ hx)
      refine ⟨a, b, ?_⟩
      rw [wdOfIno_withWatch, c]
      have : d.ino ≠ x.ino := by
        intro hi; have := hwf.ino_inj hd1 a hi; subst this; exact hnd.1 hx
      simp [this]
    obtain ⟨i1, i2, i3, i4⟩ := ih _ _ _ inv1 hnd.2 hrest
    refine ⟨i1.mono ?_, ?_, ?_, ?_⟩
    · intro y _ _ hy
      rcases hy with hy | hy
      · exact Or.inl (Or.inl hy)
      · rcases List.mem_cons.mp hy with rfl | hy
        · exact Or.inl (Or.inr rfl)
        · exact Or.inr hy
    · intro w hw
      rw [i2 w (by simp [Kern.withWatch]; omega)]
      simp only [Lib.withWatch, lookupW_setW]
      have : w ≠ k.nextWd := by omega
      simp [this]
    · rw [i3]; rfl
    · rw [i4]; rfl

theorem addTreeWatches_cover (hwf : fs.WF) (inv : InvOn cov z fs k lib) {q : P} {r : Ent} (hr : fs.find? q = some r)
    (hrd : r.isDir = true)
    (hdirs : ∀ d ∈ fs.ents, d.isDir = true → (d.path = q ∨ isUnder q d.path = true) →
      inTreeDir d = true ∧ k.wdOfIno d.ino = none) :
    InvOn (fun y => cov y ∨ y.path = q ∨ isUnder q y.path = true) z fs
      (addTreeWatches fs k lib q).1 (addTreeWatches fs k lib q).2 ∧
    (∀ w, w < k.nextWd → lookupW (addTreeWatches fs k lib q).2.pathForWd w = lookupW lib.pathForWd w) ∧
    (addTreeWatches fs k lib q).1.nextCookie = k.nextCookie ∧
    (addTreeWatches fs k lib q).2.movedFrom = lib.movedFrom := by
  have hrm := FS.find?_some hr
  rw [addTreeWatches_eq, hr, Option.toList_some]
  have hmem : ∀ d ∈ [r] ++ (fs.descendants q).filter (·.isDir), d ∈ fs.ents ∧ d.isDir = true ∧ (d.path = q ∨ isUnder q d.path = true) := by
    intro d hd
    rcases List.mem_append.mp hd with h | h
    · rw [List.mem_singleton.mp h]; exact ⟨hrm.1, hrd, Or.inl hrm.2⟩
    · obtain ⟨h1, h2⟩ := List.mem_filter.mp h
      obtain ⟨h3, h4⟩ := List.mem_filter.mp h1
      exact ⟨h3, h2, Or.inr h4⟩
  have hnd : ([r] ++ (fs.descendants q).filter (·.isDir)).Nodup := by
    refine List.nodup_append.mpr ⟨by simp, ?_, ?_⟩
    · exact List.Nodup.sublist (List.filter_sublist.trans List.filter_sublist) (nodup_of_map_nodup _ hwf.paths)
    · intro a ha b hb hab
      rw [List.mem_singleton.mp ha] at hab; subst hab
      have := (List.mem_filter.mp (List.mem_filter.mp hb).1).2
      rw [hrm.2, isUnder_irrefl] at this; cases this
  obtain ⟨i1, i2, i3, i4⟩ := addTree_fold hwf _ k lib cov inv hnd
    (fun d hd => ⟨(hmem d hd).1, hdirs d (hmem d hd).1 (hmem d hd).2.1 (hmem d hd).2.2⟩)
  refine ⟨i1.mono ?_, i2, i3, i4⟩
  intro y hy hty hcy
  rcases hcy with h | h | h
  · exact Or.inl h
  · right; rw [hwf.path_inj hy hrm.1 (h.trans hrm.2.symm)]; exact List.mem_append_left _ (List.mem_singleton.mpr rfl)
  · right; apply List.mem_append_right
    exact List.mem_filter.mpr ⟨List.mem_filter.mpr ⟨hy, h⟩, (inTreeDir_iff.mp hty).1⟩

theorem movein_cover {fs : FS} {K : Kern} {L : Lib} {z : Option Nat} {p q : P} {e : Ent}
    (inv0 : InvOn (fun _ => True) z (fs.del q) K L) (hwf : fs.WF) (ok : RenameOK fs p q e) (hd : e.isDir = true)
    (hwp : watchedDir fs true (parentOf p) = false) (hwq : watchedDir fs true (parentOf q) = true) :
    InvOn (fun _ => True) z (fs.renamed p q) (addTreeWatches (fs.renamed p q) K L q).1 (addTreeWatches (fs.renamed p q) K L q).2 ∧
    (∀ w, w < K.nextWd → lookupW (addTreeWatches (fs.renamed p q) K L q).2.pathForWd w = lookupW L.pathForWd w) ∧
    (addTreeWatches (fs.renamed p q) K L q).1.nextCookie = K.nextCookie ∧
    (addTreeWatches (fs.renamed p q) K L q).2.movedFrom = L.movedFrom := by
  have hwfR := ok.wf hwf
  have hmovedT : ∀ x ∈ fs.ents, (x.path = p ∨ isUnder p x.path = true) →
      inTreeDir x = false ∧ inTreeDir (rwEnt p q x) = x.isDir := by
    intro x _ hm
    have := ok.moved_inTree hwf hm
    simp [this.1, this.2, hwp, hwq]
  have inv0' : InvOn (fun y => ¬ (y.path = q ∨ isUnder q y.path = true)) z (fs.renamed p q) K L := by
    refine { inv0 with wf := hwfR, good := ?_, cover := ?_ }
    · intro w hw
      obtain ⟨x, hx, h1, h2, h3, h4⟩ := inv0.good w hw
      obtain ⟨hxf, hxq⟩ := FS.mem_del.mp hx
      rcases rwPath_cases p q x.path with ⟨c1, _⟩ | ⟨c1, _, _⟩ | ⟨u1, u2, _⟩
      · rw [(hmovedT x hxf (Or.inl c1)).1] at h2; cases h2
      · rw [(hmovedT x hxf (Or.inr c1)).1] at h2; cases h2
      · exact ⟨x, FS.mem_renamed.mpr ⟨x, hxf, hxq, (rwEnt_fixed u1 u2).symm⟩, h1, h2, h3, h4⟩
    · intro y hy hty hcy
      obtain ⟨x, hxf, hxq, rfl⟩ := FS.mem_renamed.mp hy
      rcases rwPath_cases p q x.path with ⟨_, e1⟩ | ⟨_, _, u1⟩ | ⟨h1, h2, _⟩
      · exact absurd (Or.inl (by simpa [rwEnt] using e1)) hcy
      · exact absurd (Or.inr (by simpa [rwEnt] using u1)) hcy
      · rw [rwEnt_fixed h1 h2] at hty ⊢
        exact inv0.cover x (FS.mem_del.mpr ⟨hxf, hxq⟩) hty trivial
  obtain ⟨i1, i2⟩ := addTreeWatches_cover hwfR inv0' (ok.find_renamed_dest hwf) (by simpa [rwEnt] using hd) (by
    intro d hdm hdd hdq
    obtain ⟨x, hxf, hxq, rfl⟩ := FS.mem_renamed.mp hdm
    have hm : x.path = p ∨ isUnder p x.path = true := by
      rcases rwPath_cases p q x.path with ⟨h1, _⟩ | ⟨h1, _, _⟩ | ⟨h1, h2, e1⟩
      · exact Or.inl h1
      · exact Or.inr h1
      · exfalso
        simp only [rwEnt, e1] at hdq
        rcases hdq with h | h
        · exact hxq h
        · have := ok.q_free hwf x hxf hxq; rw [h] at this; cases this
    have hT := hmovedT x hxf hm
    exact ⟨by rw [hT.2]; simpa [rwEnt] using hdd, inv0.unwatched (e := x) (FS.mem_del.mpr ⟨hxf, hxq⟩) hT.1⟩)
  exact ⟨i1.mono (fun y _ _ _ => (Classical.em _).symm), i2⟩

theorem step_rename_in (s : Sys) (p q : P) (e : Ent) (inv : InvRec s.fs s.k s.lib) (hs : s.stopped = false)
    (hc : s.crashed = false) (ok : RenameOK s.fs p q e) (hd : e.isDir = true)
    (hwp : watchedDir s.fs true (parentOf p) = false) (hwq : watchedDir s.fs true (parentOf q) = true) :
    StepRec s (.rename p q) := by
  obtain ⟨z, k0, rrep, hk, inv0, hck, hz⟩ := rename_kernel inv ok
  have hqb := snoc_parent_base (ne_nil_of_two_le ok.hq2)
  have hrp := inv.parent_unwatched (p := p) hwp
  obtain ⟨wdq, hq1, hrq⟩ := inv.parent_watched hwq
  simp only [fromRecs, toRecs, hrp, hrq, hd, List.nil_append] at hk
  let kB : Kern := { k0 with nextCookie := s.k.nextCookie + 1 }
  have invB : InvOn (fun _ => True) z (s.fs.del q) kB s.lib := inv0.bump (s.k.nextCookie + 1) (by omega)
  obtain ⟨i1, i2, _, _⟩ := movein_cover invB inv.wf ok hd hwp hwq
  have hl12 : libBatch (s.fs.renamed p q) kB s.lib [⟨wdq, .movedTo, true, s.k.nextCookie, some (baseName q)⟩] =
      some ((addTreeWatches (s.fs.renamed p q) kB s.lib q).1, (addTreeWatches (s.fs.renamed p q) kB s.lib q).2,
        [⟨wdq, .movedTo, true, s.k.nextCookie, some (baseName q), q⟩]) := by
    rw [libBatch_cons, libRecord_to_lone_dir _ _ _ _ _ _ _ hq1 inv.cookies inv.isRec, hqb]; rfl
  have hcon := contract_rename s.fs s.full p q e ok
  refine rename_assemble s p q hs hc ok.hq2 hk hl12 i1 ?_
    (tail := renameTail s.fs true q)
    (E12 := (if s.full then [mkEv .DirMovedEvent [] q] else [mkEv .DirCreatedEvent q]) ++ [dirMod q] ++ subCreated (s.fs.renamed p q) q)
    ?_ ?_ ?_
  · rcases hz with h | ⟨wd, h1, _, _, h4, h5, h6⟩
    · exact Or.inl h
    · exact Or.inr ⟨wd, h1, by rw [i2 wd (invB.zlt wd h1)]; exact h4, h5, h6⟩
  · rw [gsOf_one _ (by simp)]; simp [movedOut]
  · rw [gsOf_one _ (by simp)]; simp [emitAll_cons, emitAll_nil, emit, dirMod, mkEv]
  · rw [hcon]; simp [hwp, hwq, hd, movedCls, createdCls]

end WD.Pipe
