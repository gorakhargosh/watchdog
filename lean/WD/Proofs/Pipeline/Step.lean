/- grouping and emission; what one drained operation must establish and how a step is put together -/
import WD.Proofs.Pipeline.Inv

namespace WD.Pipe

theorem foldl_noTo (step : List Grouped → LEv → List Grouped)
    (hstep : ∀ acc e, e.flag ≠ .movedTo → step acc e = acc ++ [.one e])
    (acc : List Grouped) (levs : List LEv) (h : ∀ e ∈ levs, e.flag ≠ .movedTo) :
    levs.foldl step acc = acc ++ levs.map .one := by
  induction levs generalizing acc with
  | nil => simp
  | cons e rest ih =>
    simp only [List.foldl_cons, hstep acc e (h e (List.mem_cons_self ..))]
    rw [ih _ (fun x hx => h x (List.mem_cons_of_mem _ hx))]
    simp

theorem group_append_noTo (a b : List LEv) (h : ∀ x ∈ b, x.flag ≠ .movedTo) : group (a ++ b) = group a ++ b.map .one := by
  unfold group
  rw [List.foldl_append]
  rw [foldl_noTo _ _ _ b h]
  intro acc x hx; simp [hx]

theorem foldl_nostop (step : List PEv × Bool → Grouped → List PEv × Bool) (out : Grouped → List PEv)
    (hstep : ∀ acc g, step (acc, false) g = (acc ++ out g, false))
    (acc : List PEv) (gs : List Grouped) :
    gs.foldl step (acc, false) = (acc ++ gs.flatMap out, false) := by
  induction gs generalizing acc with
  | nil => simp
  | cons g rest ih =>
    simp only [List.foldl_cons, hstep, ih, List.flatMap_cons, List.append_assoc]

theorem foldl_emitStep (fs : FS) (r f : Bool) (l : List Grouped) (acc : List PEv × Bool) :
    l.foldl (emitStep fs r f) acc =
      if acc.2 then acc else (acc.1 ++ (emitAll fs r f l).1, (emitAll fs r f l).2) := by
  induction l generalizing acc with
  | nil => obtain ⟨a, b⟩ := acc; cases b <;> simp [emitAll]
  | cons g rest ih =>
    unfold emitAll
    simp only [List.foldl_cons]
    rw [ih, ih (acc := emitStep fs r f ([], false) g)]
    obtain ⟨a, b⟩ := acc
    cases b
    · cases hst : (emit fs r f g).2 <;> simp [emitStep, hst]
    · simp [emitStep]

theorem emitAll_nil (fs : FS) (r f : Bool) : emitAll fs r f [] = ([], false) := rfl

theorem emitAll_cons (fs : FS) (r f : Bool) (g : Grouped) (gs : List Grouped) :
    emitAll fs r f (g :: gs) =
      if (emit fs r f g).2 then ((emit fs r f g).1, true)
      else ((emit fs r f g).1 ++ (emitAll fs r f gs).1, (emitAll fs r f gs).2) := by
  conv => lhs; unfold emitAll
  rw [List.foldl_cons, foldl_emitStep]
  cases hst : (emit fs r f g).2 <;> simp [emitStep, hst]

theorem emitAll_append (fs : FS) (r f : Bool) (g1 g2 : List Grouped) (h : (emitAll fs r f g1).2 = false) :
    emitAll fs r f (g1 ++ g2) = ((emitAll fs r f g1).1 ++ (emitAll fs r f g2).1, (emitAll fs r f g2).2) := by
  conv => lhs; unfold emitAll
  rw [List.foldl_append, foldl_emitStep, foldl_emitStep]
  simp [h]

theorem emitAll_nostop (fs : FS) (r f : Bool) (gs : List Grouped) (h : ∀ g ∈ gs, (emit fs r f g).2 = false) :
    emitAll fs r f gs = (gs.flatMap (fun g => (emit fs r f g).1), false) := by
  induction gs with
  | nil => rfl
  | cons g rest ih =>
    rw [emitAll_cons, h g (List.mem_cons_self ..), ih (fun x hx => h x (List.mem_cons_of_mem _ hx))]
    simp [List.flatMap_cons]

/-- one record through `_group_events` -/
def groupStep (acc : List Grouped) (e : LEv) : List Grouped :=
  if e.flag == .movedTo then
    match pairIn e acc with
    | some g => g
    | none => acc ++ [.one e]
  else acc ++ [.one e]

theorem group_eq_foldl (evs : List LEv) : group evs = evs.foldl groupStep [] := rfl

theorem gsOf_append_noTo (a b : List LEv) (h : ∀ x ∈ b, x.flag ≠ .movedTo) :
    gsOf (a ++ b) = gsOf a ++ (b.filter (fun l => l.flag != .ignored)).map .one := by
  unfold gsOf
  rw [group_append_noTo a b h, List.filter_append, List.filter_map]
  congr 1

theorem gsOf_noTo (levs : List LEv) (h : ∀ e ∈ levs, e.flag ≠ .movedTo) :
    gsOf levs = (levs.filter (fun l => l.flag != .ignored)).map .one :=
  gsOf_append_noTo [] levs h

theorem gsOf_simple (levs : List LEv) (h : ∀ e ∈ levs, e.flag ≠ .movedTo ∧ e.flag ≠ .ignored) :
    gsOf levs = levs.map .one := by
  rw [gsOf_noTo levs (fun e he => (h e he).1), List.filter_eq_self.mpr]
  intro e he; simp [(h e he).2]

theorem gsOf_one (e : LEv) (he : e.flag ≠ .ignored) : gsOf [e] = [.one e] := by
  by_cases ht : e.flag = .movedTo <;> simp [gsOf, group, pairIn, Grouped.keep, ht, he]

theorem gsOf_pair (f t : LEv) (hf : f.flag = .movedFrom) (ht : t.flag = .movedTo) (hc : f.cookie = t.cookie) :
    gsOf [f, t] = [.two f t] := by
  simp [gsOf, group, pairIn, Grouped.keep, hf, ht, hc]

theorem emitAll_gsOf_noTo (fs : FS) (r f : Bool) (levs : List LEv) (hto : ∀ e ∈ levs, e.flag ≠ .movedTo)
    (hns : ∀ e ∈ levs, e.flag ≠ .ignored → (emit fs r f (.one e)).2 = false) :
    emitAll fs r f (gsOf levs) =
      ((levs.filter (fun l => l.flag != .ignored)).flatMap (fun l => (emit fs r f (.one l)).1), false) := by
  rw [gsOf_noTo levs hto, emitAll_nostop, List.flatMap_map]
  intro g hg
  obtain ⟨e, he, rfl⟩ := List.mem_map.mp hg
  obtain ⟨he1, he2⟩ := List.mem_filter.mp he
  exact hns e he1 (by simpa using he2)

theorem forgetAll_nil (fs : FS) (k : Kern) (lib : Lib) : forgetAll fs k lib [] = some (k, lib) := rfl

theorem Sys.op_eq (s : Sys) (op : Op) (hs : s.stopped = false) (hc : s.crashed = false)
    {fs1 : FS} {k1 k2 k3 : Kern} {recs : List NRec} {lib2 lib3 : Lib} {levs : List LEv}
    (hk : kernelOp s.fs s.k op = (fs1, k1, recs))
    (hl : libBatch fs1 k1 s.lib recs = some (k2, lib2, levs))
    (hf : forgetAll fs1 k2 lib2 (if lib2.recursive then movedOut (gsOf levs) else []) = some (k3, lib3)) :
    s.op op = ({ s with fs := fs1, k := k3, lib := lib3, stopped := (emitAll fs1 lib2.recursive s.full (gsOf levs)).2 },
               (emitAll fs1 lib2.recursive s.full (gsOf levs)).1) := by
  unfold Sys.op
  simp only [hk, hs, hc, Bool.or_self, Bool.false_eq_true, if_false, hl]
  simp only [hf]

theorem movedOut_nil_of (gs : List Grouped)
    (h : ∀ g ∈ gs, match g with | .one e => ¬ (e.flag = .movedFrom ∧ e.isDir = true) | _ => True) : movedOut gs = [] := by
  unfold movedOut
  rw [List.filterMap_eq_nil_iff]
  intro g hg
  have := h g hg
  cases g with
  | one e =>
    simp only at this ⊢
    by_cases h1 : e.flag = .movedFrom
    · by_cases h2 : e.isDir = true
      · exact absurd ⟨h1, h2⟩ this
      · simp [h1, h2]
    · simp [h1]
  | two f t => rfl

theorem movedOut_append (a b : List Grouped) : movedOut (a ++ b) = movedOut a ++ movedOut b := by
  simp [movedOut, List.filterMap_append]

theorem movedOut_ones_nil (levs : List LEv) (h : ∀ l ∈ levs, l.flag ≠ .movedFrom) : movedOut (levs.map .one) = [] := by
  apply movedOut_nil_of
  intro g hg
  obtain ⟨l, hl, rfl⟩ := List.mem_map.mp hg
  simp only
  intro hh; exact h l hl hh.1

theorem movedOut_gsOf_nil (levs : List LEv) (h : ∀ e ∈ levs, e.flag ≠ .movedTo ∧ e.flag ≠ .movedFrom) :
    movedOut (gsOf levs) = [] := by
  rw [gsOf_noTo levs (fun e he => (h e he).1)]
  exact movedOut_ones_nil _ (fun l hl => (h l (List.mem_filter.mp hl).1).2)

/-- the result of one drained operation under a recursive watch: the delivered events are the contract's,
    nothing crashed, and the invariant holds again (unless the emitter stopped: the root is gone) -/
structure StepRec (s : Sys) (op : Op) : Prop where
  events : (s.op op).2 = (contract s.fs true s.full op).1
  stop : (s.op op).1.stopped = (contract s.fs true s.full op).2
  ncrash : (s.op op).1.crashed = false
  full : (s.op op).1.full = s.full
  inv : (contract s.fs true s.full op).2 = false → InvRec (s.op op).1.fs (s.op op).1.k (s.op op).1.lib

/-- the same statement for a watch of either kind `r`, whatever invariant `I` its reader keeps -/
structure StepOK (r : Bool) (I : FS → Kern → Lib → Prop) (s : Sys) (op : Op) : Prop where
  events : (s.op op).2 = (contract s.fs r s.full op).1
  stop : (s.op op).1.stopped = (contract s.fs r s.full op).2
  ncrash : (s.op op).1.crashed = false
  full : (s.op op).1.full = s.full
  inv : (contract s.fs r s.full op).2 = false → I (s.op op).1.fs (s.op op).1.k (s.op op).1.lib

theorem StepOK.toRec {s : Sys} {op : Op} (h : StepOK true InvRec s op) : StepRec s op :=
  ⟨h.events, h.stop, h.ncrash, h.full, h.inv⟩

theorem StepRec.toOK {s : Sys} {op : Op} (h : StepRec s op) : StepOK true InvRec s op :=
  ⟨h.events, h.stop, h.ncrash, h.full, h.inv⟩

variable {r : Bool} {I : FS → Kern → Lib → Prop}

theorem StepOK.of_parts (s : Sys) (op : Op) (hs : s.stopped = false) (hc : s.crashed = false)
    {fs1 : FS} {k1 k2 k3 : Kern} {recs : List NRec} {lib2 lib3 : Lib} {levs : List LEv}
    (hk : kernelOp s.fs s.k op = (fs1, k1, recs))
    (hl : libBatch fs1 k1 s.lib recs = some (k2, lib2, levs)) (hrec : lib2.recursive = r)
    (hf : forgetAll fs1 k2 lib2 (if r then movedOut (gsOf levs) else []) = some (k3, lib3))
    (hem : emitAll fs1 r s.full (gsOf levs) = contract s.fs r s.full op)
    (hinv : (contract s.fs r s.full op).2 = false → I fs1 k3 lib3) : StepOK r I s op := by
  have hop := Sys.op_eq s op hs hc hk hl (by rw [hrec]; exact hf)
  rw [hrec, hem] at hop
  exact ⟨by rw [hop], by rw [hop], by rw [hop]; exact hc, by rw [hop], fun h => by rw [hop]; exact hinv h⟩

theorem StepOK.of_quiet (s : Sys) (op : Op) (hs : s.stopped = false) (hc : s.crashed = false)
    {fs1 : FS} {k1 k2 : Kern} {recs : List NRec} {lib2 : Lib} {levs : List LEv}
    (hk : kernelOp s.fs s.k op = (fs1, k1, recs))
    (hl : libBatch fs1 k1 s.lib recs = some (k2, lib2, levs)) (hrec : lib2.recursive = r)
    (hmo : r = true → movedOut (gsOf levs) = [])
    (hem : emitAll fs1 r s.full (gsOf levs) = contract s.fs r s.full op)
    (hinv : (contract s.fs r s.full op).2 = false → I fs1 k2 lib2) : StepOK r I s op :=
  StepOK.of_parts s op hs hc hk hl hrec
    (by
      cases r with
      | false => rfl
      | true => rw [if_pos rfl, hmo rfl]; rfl) hem hinv

theorem StepOK.of_ones (s : Sys) (op : Op) (hs : s.stopped = false) (hc : s.crashed = false)
    {fs1 : FS} {k1 k2 : Kern} {recs : List NRec} {lib2 : Lib} {levs : List LEv}
    (hk : kernelOp s.fs s.k op = (fs1, k1, recs))
    (hl : libBatch fs1 k1 s.lib recs = some (k2, lib2, levs)) (hrec : lib2.recursive = r)
    (hfl : ∀ l ∈ levs, l.flag ≠ .movedTo ∧ l.flag ≠ .movedFrom)
    (hns : ∀ l ∈ levs, l.flag ≠ .ignored → (emit fs1 r s.full (.one l)).2 = false)
    (hev : (levs.filter (fun l => l.flag != .ignored)).flatMap (fun l => (emit fs1 r s.full (.one l)).1) =
      (contract s.fs r s.full op).1)
    (hst : (contract s.fs r s.full op).2 = false) (hinv : I fs1 k2 lib2) : StepOK r I s op := by
  refine StepOK.of_quiet s op hs hc hk hl hrec (fun _ => movedOut_gsOf_nil levs hfl) ?_ (fun _ => hinv)
  rw [emitAll_gsOf_noTo _ _ _ levs (fun l hl => (hfl l hl).1) hns, hev, ← hst]

theorem StepOK.simple (s : Sys) (op : Op) (hs : s.stopped = false) (hc : s.crashed = false) (hrec : s.lib.recursive = r)
    {fs1 : FS} {recs : List NRec} (path : NRec → P)
    (hk : kernelOp s.fs s.k op = (fs1, s.k, recs))
    (hr : ∀ x ∈ recs, simpleFlag r x.flag x.isDir = true ∧ lookupW s.lib.pathForWd x.wd = some (path x))
    (hnostop : ∀ x ∈ recs, (emit fs1 r s.full (.one (x.toLEv (path x)))).2 = false)
    (hev : recs.flatMap (fun x => (emit fs1 r s.full (.one (x.toLEv (path x)))).1) = (contract s.fs r s.full op).1)
    (hst : (contract s.fs r s.full op).2 = false) (hinv : I fs1 s.k s.lib) : StepOK r I s op := by
  have hl : libBatch fs1 s.k s.lib recs = some (s.k, s.lib, recs.map (fun x => x.toLEv (path x))) :=
    libBatch_simple fs1 s.k s.lib recs path (by rw [hrec]; exact hr)
  have hflags : ∀ e ∈ recs.map (fun x => x.toLEv (path x)), e.flag ≠ .movedTo ∧ e.flag ≠ .movedFrom ∧ e.flag ≠ .ignored := by
    intro e he
    obtain ⟨x, hx, rfl⟩ := List.mem_map.mp he
    have := (hr x hx).1
    simp only [NRec.toLEv]
    refine ⟨?_, ?_, ?_⟩ <;> intro hf <;> simp [simpleFlag, hf] at this
  refine StepOK.of_ones s op hs hc hk hl hrec (fun e he => ⟨(hflags e he).1, (hflags e he).2.1⟩) ?_ ?_ hst hinv
  · intro e he _
    obtain ⟨x, hx, rfl⟩ := List.mem_map.mp he
    exact hnostop x hx
  · rw [List.filter_eq_self.mpr (fun e he => by simp [(hflags e he).2.2]), List.flatMap_map, ← hev]

theorem InvOn.fs_change {cov : Ent → Prop} {z : Option Nat} {fs fs1 : FS} {k : Kern} {lib : Lib} (inv : InvOn cov z fs k lib) (hwf : fs1.WF)
    (h : ∀ e, inTreeDir e = true → (e ∈ fs1.ents ↔ e ∈ fs.ents)) : InvOn cov z fs1 k lib :=
  { inv with
    wf := hwf
    good := fun w hw => by
      obtain ⟨e, he, h1, h2, h3⟩ := inv.good w hw
      exact ⟨e, (h e h2).mpr he, h1, h2, h3⟩
    cover := fun e he hd hc => inv.cover e ((h e hd).mp he) hd hc }

end WD.Pipe
