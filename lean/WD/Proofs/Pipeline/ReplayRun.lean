/- replaying the contract's events on a copy of the tree gives the tree after the operation: operation by operation,
   then for histories -/
import WD.Proofs.Pipeline.Tree
import WD.Proofs.Pipeline.Theorems

namespace WD.Pipe

variable {fs : FS} {r : Bool} {p : P}

theorem treeOf_add (hnone : ∀ e ∈ fs.ents, e.path ≠ p) (d : Bool) :
    sameTree (treeOf r (fs.add p d)) (if inWatch r p then setEntry (treeOf r fs) p d else treeOf r fs) := by
  intro y
  rw [mem_treeOf]
  split
  · rename_i hw
    rw [mem_setEntry, mem_treeOf]
    constructor
    · rintro ⟨e, he, h1, h2, h3⟩
      rcases FS.mem_add.mp he with h | h
      · exact Or.inl ⟨⟨e, h, h1, h2, h3⟩, h1 ▸ hnone e h⟩
      · subst h; exact Or.inr (Prod.ext h1.symm h2.symm)
    · rintro (⟨⟨e, he, h⟩, _⟩ | h)
      · exact ⟨e, FS.mem_add.mpr (Or.inl he), h⟩
      · subst h; exact ⟨_, FS.mem_add.mpr (Or.inr rfl), rfl, rfl, hw⟩
  · rename_i hw
    rw [mem_treeOf]
    constructor
    · rintro ⟨e, he, h1, h2, h3⟩
      rcases FS.mem_add.mp he with h | h
      · exact ⟨e, h, h1, h2, h3⟩
      · subst h; have h1 : p = y.1 := h1; exact absurd (h1 ▸ h3) hw
    · rintro ⟨e, he, h⟩; exact ⟨e, FS.mem_add.mpr (Or.inl he), h⟩

theorem treeOf_remove {fs1 : FS} (h : ∀ x, x ∈ fs1.ents ↔ x ∈ fs.ents ∧ x.path ≠ p ∧ isUnder p x.path = false) :
    sameTree (treeOf r fs1) (eraseSub (treeOf r fs) p) := by
  intro y
  rw [mem_treeOf, mem_eraseSub, mem_treeOf]
  constructor
  · rintro ⟨e, he, h1, h2, h3⟩
    obtain ⟨m1, m2, m3⟩ := (h e).mp he
    exact ⟨⟨e, m1, h1, h2, h3⟩, h1 ▸ m2, h1 ▸ m3⟩
  · rintro ⟨⟨e, he, h1, h2, h3⟩, h4, h5⟩
    exact ⟨e, (h e).mpr ⟨he, h1 ▸ h4, h1 ▸ h5⟩, h1, h2, h3⟩

theorem mem_del_leaf (hleaf : ∀ x ∈ fs.ents, isUnder p x.path = false) (x : Ent) :
    x ∈ (fs.del p).ents ↔ x ∈ fs.ents ∧ x.path ≠ p ∧ isUnder p x.path = false := by
  rw [FS.mem_del]
  exact ⟨fun h => ⟨h.1, h.2, hleaf x h.1⟩, fun h => ⟨h.1, h.2.1⟩⟩

theorem replay_removed {fs1 : FS} (hp : 2 ≤ p.length) (hpar : fs.isDir (parentOf p) = true)
    (h : ∀ x, x ∈ fs1.ents ↔ x ∈ fs.ents ∧ x.path ≠ p ∧ isUnder p x.path = false) :
    sameTree (if watchedDir fs r (parentOf p) then eraseSub (treeOf r fs) p else treeOf r fs) (treeOf r fs1) := by
  rw [← inWatch_eq_watched r hp hpar]
  refine sameTree_trans ?_ (sameTree_symm (treeOf_remove h))
  split
  · exact sameTree_refl _
  · rename_i hw; exact sameTree_symm (eraseSub_outside hp (Bool.not_eq_true _ ▸ hw))

section
variable (fs) (r) (full : Bool) (p) (t : Tree)

theorem replay_create : replay t (contract fs r full (.create p)).1 =
    if watchedDir fs r (parentOf p) then setEntry t p false else t := by
  rw [contract_create]
  split <;> simp only [replay_cons, replay_nil, applyEv_mk_fcreated, applyEv_dirMod, applyEv_mk_opened, applyEv_mk_closed]

theorem replay_mkdir : replay t (contract fs r full (.mkdir p)).1 =
    if watchedDir fs r (parentOf p) then setEntry t p true else t := by
  rw [contract_mkdir]
  split <;> simp only [replay_cons, replay_nil, applyEv_mk_dcreated, applyEv_dirMod]

theorem replay_write : replay t (contract fs r full (.write p)).1 = t := by
  rw [contract_write]
  split <;> simp only [replay_cons, replay_nil, applyEv_mk_fmod, applyEv_dirMod, applyEv_mk_opened, applyEv_mk_closed]

theorem replay_chmod : replay t (contract fs r full (.chmod p)).1 = t := by
  cases he : fs.find? p with
  | none => simp only [contract, he]; rfl
  | some e =>
    simp only [contract_chmod r full he, replay_append]
    cases e.isDir <;> (repeat' split) <;>
      simp only [replay_cons, replay_nil, applyEv_mk_fmod, applyEv_mk_dmod]

theorem replay_unlink : replay t (contract fs r full (.unlink p)).1 =
    if watchedDir fs r (parentOf p) && fs.exists p then eraseSub t p else t := by
  rw [contract_unlink]
  split <;> simp only [replay_evDeleted, replay_nil]

theorem replay_rmdir : replay t (contract fs r full (.rmdir p)).1 =
    if p == ["W"] then eraseSub t p
    else if watchedDir fs r (parentOf p) && fs.exists p then eraseSub t p else t := by
  rw [contract_rmdir]
  split
  · exact applyEv_deleted t .DirDeletedEvent rfl p [] false
  · split <;> simp only [replay_evDeleted, replay_nil]

end

theorem mem_replay_removals (es : List Ent) (f : Ent → Bool) (t : Tree) (y : P × Bool) :
    y ∈ replay t (es.flatMap (fun x => if f x then evDeleted x.isDir x.path else [])) ↔
      y ∈ t ∧ ∀ x ∈ es, f x = true → y.1 ≠ x.path ∧ isUnder x.path y.1 = false := by
  induction es generalizing t with
  | nil => simp [replay_nil]
  | cons e rest ih =>
    rw [List.flatMap_cons, replay_append, ih]
    cases hf : f e with
    | false =>
      simp only [Bool.false_eq_true, if_false, replay_nil, List.mem_cons, forall_eq_or_imp, hf, false_imp_iff, true_and]
    | true =>
      simp only [if_true, replay_evDeleted, mem_eraseSub, List.mem_cons, forall_eq_or_imp, hf, true_imp_iff, and_assoc]

theorem replay_rmtreeOrd (hwf : fs.WF) (r full : Bool) {order : List P} {e : Ent} (ok : RmtreeOK fs p order e) :
    sameTree (replay (treeOf r fs) (contract fs r full (.rmtreeOrd p order)).1)
      (treeOf r (fsAfter fs (.rmtreeOrd p order))) := by
  intro y
  rw [contract_rmtreeOrd r full ok.he, contractRemovals, mem_replay_removals, treeOf_remove (fun _ => ok.mem_after hwf) y, mem_eraseSub]
  refine and_congr_right fun hy => ?_
  obtain ⟨x0, hx0, h1, _, hw⟩ := mem_treeOf.mp hy
  have key : ∀ x ∈ order.filterMap fs.find? ++ [e], watchedDir fs r (parentOf x.path) = inWatch r x.path ∧
      (x.path = p ∨ isUnder p x.path = true) := by
    intro x hx
    obtain ⟨hxm, hxp⟩ := (ok.mem_ents hwf).mp hx
    have h2 := ok.two_le hxp
    exact ⟨(inWatch_eq_watched r h2 (hwf.parent_dir (hwf.find_mem hxm) h2)).symm, hxp⟩
  constructor
  · intro h
    -- were `y`'s own entry among the removed, its removal would have been reported
    have hn : ¬(x0.path = p ∨ isUnder p x0.path = true) := fun hc =>
      have hx := (ok.mem_ents hwf).mpr ⟨hx0, hc⟩
      (h x0 hx (by rw [(key x0 hx).1, h1, hw])).1 h1.symm
    rw [← h1]
    exact ⟨fun h => hn (Or.inl h), Bool.not_eq_true _ ▸ fun h => hn (Or.inr h)⟩
  · rintro ⟨hyp, hyu⟩ x hx _
    rcases (key x hx).2 with h | h
    · rw [h]; exact ⟨hyp, hyu⟩
    · refine ⟨fun hh => ?_, Bool.not_eq_true _ ▸ fun hh => ?_⟩
      · rw [hh, h] at hyu; cases hyu
      · rw [isUnder_trans h hh] at hyu; cases hyu

variable {q : P} {e : Ent}

theorem replay_renameTail (t : Tree) (fs : FS) (r : Bool) (q : P) : replay t (renameTail fs r q) = t := by
  simp only [renameTail]
  cases fs.find? q with
  | none => rfl
  | some old => simp only []; split <;> simp only [replay_cons, replay_nil, applyEv_mk_dmod]

theorem mem_foldl_setEntry (D : List Ent) (hnd : (D.map Ent.path).Nodup) (t : Tree) (y : P × Bool) :
    y ∈ D.foldl (fun t d => setEntry t d.path d.isDir) t ↔
      (y ∈ t ∧ y.1 ∉ D.map Ent.path) ∨ y ∈ D.map (fun e => (e.path, e.isDir)) := by
  induction D generalizing t with
  | nil => simp
  | cons d rest ih =>
    simp only [List.map_cons, List.nodup_cons] at hnd
    rw [List.foldl_cons, ih hnd.2, mem_setEntry]
    simp only [List.map_cons, List.mem_cons, not_or]
    constructor
    · rintro (⟨(⟨h1, h2⟩ | h1), h3⟩ | h1)
      · exact Or.inl ⟨h1, h2, h3⟩
      · exact Or.inr (Or.inl h1)
      · exact Or.inr (Or.inr h1)
    · rintro (⟨h1, h2, h3⟩ | h1 | h1)
      · exact Or.inl ⟨Or.inl ⟨h1, h2⟩, h3⟩
      · exact Or.inl ⟨Or.inr h1, h1 ▸ hnd.1⟩
      · exact Or.inr h1

theorem mem_replay_subCreated (D : List Ent) (hnd : (D.map Ent.path).Nodup) (t : Tree) (y : P × Bool) :
    y ∈ replay t (D.map (fun e => mkEv (if e.isDir then EvClass.DirCreatedEvent else .FileCreatedEvent) e.path [] true)) ↔
      (y ∈ t ∧ y.1 ∉ D.map Ent.path) ∨ y ∈ D.map (fun e => (e.path, e.isDir)) := by
  rw [← mem_foldl_setEntry D hnd, replay, List.foldl_map]
  have : (fun t (d : Ent) => applyEv t (mkEv (if d.isDir then EvClass.DirCreatedEvent else .FileCreatedEvent) d.path [] true)) =
      fun t d => setEntry t d.path d.isDir := by
    funext t d; cases hd : d.isDir <;> exact applyEv_created _ _ rfl _ _ _
  rw [this]

/-- synthetic moved events place the descendants: their old places, below `src`, are empty already -/
theorem replay_subMoved (src : P) (D : List Ent) (hq : ∀ d ∈ D, isUnder q d.path = true)
    (hinc : ∀ z, isUnder q z = true → z ≠ src ∧ isUnder src z = false) (hsrc : src ≠ [])
    (t : Tree) (ht : ∀ y ∈ t, y.1 ≠ src ∧ isUnder src y.1 = false) :
    replay t (D.map (fun e => mkEv (if e.isDir then EvClass.DirMovedEvent else .FileMovedEvent) (src ++ e.path.drop q.length) e.path true)) =
      D.foldl (fun t d => setEntry t d.path d.isDir) t := by
  induction D generalizing t with
  | nil => rfl
  | cons d rest ih =>
    have hdq := hq d (List.mem_cons_self ..)
    have hdn : d.path ≠ [] := by intro h; rw [h] at hdq; cases hdq
    have hsn : src ++ d.path.drop q.length ≠ [] := by simp [hsrc]
    have hrel : isUnder src (src ++ d.path.drop q.length) = true := by
      obtain ⟨r, hr, hdr⟩ := isUnder_iff.mp hdq
      rw [hdr]; simp only [List.drop_left']; exact isUnder_append src hr
    have herase : eraseSub t (src ++ d.path.drop q.length) = t := by
      rw [eraseSub, List.filter_eq_self]
      intro y hy
      have := (ht y hy).2
      rw [Bool.not_eq_true', Bool.or_eq_false_iff, beq_eq_false_iff_ne]
      refine ⟨fun hh => ?_, Bool.not_eq_true _ ▸ fun hc => ?_⟩
      · rw [hh, hrel] at this; cases this
      · rw [isUnder_trans hrel hc] at this; cases this
    have hap : applyEv t (mkEv (if d.isDir then EvClass.DirMovedEvent else .FileMovedEvent) (src ++ d.path.drop q.length) d.path true) =
        setEntry t d.path d.isDir := by
      have := applyEv_moved t _ (movedCls_type d.isDir) (src ++ d.path.drop q.length) d.path true
      simp only [hsn, hdn, ↓reduceIte, movedCls_isDir, herase] at this; exact this
    rw [List.map_cons, replay_cons, hap, List.foldl_cons]
    refine ih (fun x hx => hq x (List.mem_cons_of_mem _ hx)) _ fun y hy => ?_
    rcases mem_setEntry.mp hy with ⟨h1, _⟩ | h1
    · exact ht y h1
    · rw [h1]; exact hinc _ hdq

theorem mem_replay_subMoved (src : P) (D : List Ent) (hnd : (D.map Ent.path).Nodup) (hq : ∀ d ∈ D, isUnder q d.path = true)
    (hinc : ∀ z, isUnder q z = true → z ≠ src ∧ isUnder src z = false) (hsrc : src ≠ [])
    (t : Tree) (ht : ∀ y ∈ t, y.1 ≠ src ∧ isUnder src y.1 = false) (y : P × Bool) :
    y ∈ replay t (D.map (fun e => mkEv (if e.isDir then EvClass.DirMovedEvent else .FileMovedEvent) (src ++ e.path.drop q.length) e.path true)) ↔
      (y ∈ t ∧ y.1 ∉ D.map Ent.path) ∨ y ∈ D.map (fun e => (e.path, e.isDir)) := by
  rw [replay_subMoved src D hq hinc hsrc t ht]; exact mem_foldl_setEntry D hnd t y

theorem mem_treeOf_renamed (y : P × Bool) :
    y ∈ treeOf r (fs.renamed p q) ↔
      ∃ x ∈ fs.ents, x.path ≠ q ∧ rwPath p q x.path = y.1 ∧ x.isDir = y.2 ∧ inWatch r y.1 = true := by
  rw [mem_treeOf]
  constructor
  · rintro ⟨z, hz, h⟩
    obtain ⟨x, hx, hxq, rfl⟩ := FS.mem_renamed.mp hz
    exact ⟨x, hx, hxq, h⟩
  · rintro ⟨x, hx, hxq, h⟩
    exact ⟨rwEnt p q x, FS.mem_renamed.mpr ⟨x, hx, hxq, rfl⟩, h⟩

theorem mem_treeW_renamed (y : P × Bool) :
    y ∈ treeW (fs.renamed p q) ↔ ∃ x ∈ fs.ents, x.path ≠ q ∧ rwPath p q x.path = y.1 ∧ x.isDir = y.2 ∧ isUnder ["W"] y.1 = true := by
  have := mem_treeOf_renamed (r := true) (fs := fs) (p := p) (q := q) y
  simp only [inWatch_true] at this; exact this

theorem RenameOK.moved_underW (ok : RenameOK fs p q e) (hwf : fs.WF) {x : P} (hx : x = p ∨ isUnder p x = true) :
    isUnder ["W"] x = watchedDir fs true (parentOf p) ∧ isUnder ["W"] (rwPath p q x) = watchedDir fs true (parentOf q) := by
  rw [← inWatch_eq_watched true ok.hp2 (hwf.parent_dir ok.he ok.hp2), ← inWatch_eq_watched true ok.hq2 ok.hqpar,
    ← inWatch_true, ← inWatch_true]
  rcases hx with rfl | h
  · rw [rwPath_at]; exact ⟨rfl, rfl⟩
  · rw [rwPath_under h, inWatch_below ok.hp2 h, inWatch_below ok.hq2 (rewrite_under h)]; exact ⟨rfl, rfl⟩

theorem RenameOK.mem_descendants (ok : RenameOK fs p q e) (hwf : fs.WF) {d : Ent} :
    d ∈ (fs.renamed p q).descendants q ↔ ∃ x ∈ fs.ents, x.path ≠ q ∧ isUnder p x.path = true ∧ d = rwEnt p q x := by
  rw [FS.descendants, List.mem_filter]
  constructor
  · rintro ⟨hd1, hd2⟩
    obtain ⟨x, hx, hxq, rfl⟩ := FS.mem_renamed.mp hd1
    refine ⟨x, hx, hxq, ?_, rfl⟩
    rcases rwPath_cases p q x.path with ⟨_, e1⟩ | ⟨h1, _, _⟩ | ⟨_, _, e1⟩
    · simp only [rwEnt, e1, isUnder_irrefl] at hd2; cases hd2
    · exact h1
    · simp only [rwEnt, e1] at hd2; rw [ok.q_free hwf x hx hxq] at hd2; cases hd2
  · rintro ⟨x, hx, hxq, hxu, rfl⟩
    refine ⟨FS.mem_renamed.mpr ⟨x, hx, hxq, rfl⟩, ?_⟩
    simp only [rwEnt, rwPath_under hxu]; exact rewrite_under hxu

theorem mem_arrived {t E : Tree} (hE : sameTree t E) (d : Bool) (D : List Ent)
    (hD : ∀ z ∈ D.map Ent.path, isUnder q z = true) (hfree : ∀ y ∈ E, y.1 ≠ q → isUnder q y.1 = false) (y : P × Bool) :
    (y ∈ setEntry t q d ∧ y.1 ∉ D.map Ent.path) ∨ y ∈ D.map (fun e => (e.path, e.isDir)) ↔
      (y ∈ E ∧ y.1 ≠ q) ∨ y = (q, d) ∨ y ∈ D.map (fun e => (e.path, e.isDir)) := by
  rw [mem_setEntry, hE y]
  constructor
  · rintro (⟨h | h, _⟩ | h)
    · exact Or.inl h
    · exact Or.inr (Or.inl h)
    · exact Or.inr (Or.inr h)
  · rintro (h | h | h)
    · exact Or.inl ⟨Or.inl h, fun hin => by have := hD _ hin; rw [hfree y h.1 h.2] at this; cases this⟩
    · exact Or.inl ⟨Or.inr h, fun hin => by have := hD _ hin; rw [h, isUnder_irrefl] at this; cases this⟩
    · exact Or.inr h

theorem replay_rename (hwf : fs.WF) (r full : Bool) (ok : RenameOK fs p q e) :
    sameTree (replay (treeOf r fs) (contract fs r full (.rename p q)).1) (treeOf r (fs.renamed p q)) := by
  have hem := FS.find?_some ok.he
  have hfree := ok.q_free hwf
  have hpn : p ≠ [] := ne_nil_of_two_le ok.hp2
  have hqn : q ≠ [] := ne_nil_of_two_le ok.hq2
  have hpq : isUnder q p = false := by
    have := hfree e hem.1 (by rw [hem.2]; exact ok.hne); rwa [hem.2] at this
  have hinc : ∀ z, isUnder q z = true → z ≠ p ∧ isUnder p z = false := by
    intro z hz
    constructor
    · intro h; rw [h, hpq] at hz; cases hz
    · cases hc : isUnder p z with
      | false => rfl
      | true =>
        rcases prefix_comparable hz hc with h | h | h
        · exact absurd h.symm ok.hne
        · rw [hpq] at h; cases h
        · rw [ok.hnu] at h; cases h
  -- what the sub-events list: the descendants of `q` after the move, which are what was below `p`
  let D := if e.isDir && r then (fs.renamed p q).descendants q else []
  have hDsub : D.Sublist (fs.renamed p q).ents := by
    unfold D; split
    · exact List.filter_sublist
    · exact List.nil_sublist _
  have hDnd : (D.map Ent.path).Nodup := List.Nodup.sublist (List.Sublist.map _ hDsub) (ok.wf hwf).paths
  have hDq : ∀ d ∈ D, isUnder q d.path = true := by
    intro d hd; unfold D at hd; split at hd
    · exact (List.mem_filter.mp hd).2
    · cases hd
  have hDmem : ∀ z : P × Bool, z ∈ D.map (fun e => (e.path, e.isDir)) ↔
      r = true ∧ ∃ x ∈ fs.ents, x.path ≠ q ∧ isUnder p x.path = true ∧ z = (rwPath p q x.path, x.isDir) := by
    intro z
    constructor
    · intro hz
      obtain ⟨d, hd, rfl⟩ := List.mem_map.mp hz
      unfold D at hd; split at hd
      · rename_i hdr
        obtain ⟨x, hx, hxq, hxu, rfl⟩ := (ok.mem_descendants hwf).mp hd
        exact ⟨(Bool.and_eq_true_iff.mp hdr).2, x, hx, hxq, hxu, rfl⟩
      · cases hd
    · rintro ⟨hr, x, hx, hxq, hxu, rfl⟩
      -- something lies below `p`: it is a directory
      have hed : e.isDir = true := by
        cases hd : e.isDir with
        | true => rfl
        | false => have := hwf.file_no_desc ok.he hd hpn x hx; rw [hxu] at this; cases this
      refine List.mem_map.mpr ⟨rwEnt p q x, ?_, rfl⟩
      simp only [D, hed, hr, Bool.and_self, if_true]
      exact (ok.mem_descendants hwf).mpr ⟨x, hx, hxq, hxu, rfl⟩
  have hDpaths : ∀ z : P, z ∈ D.map Ent.path → isUnder q z = true := by
    intro z hz; obtain ⟨d, hd, rfl⟩ := List.mem_map.mp hz; exact hDq d hd
  have hsubM : (if e.isDir && r then subMoved (fs.renamed p q) p q else []) =
      D.map (fun e => mkEv (if e.isDir then EvClass.DirMovedEvent else .FileMovedEvent) (p ++ e.path.drop q.length) e.path true) := by
    unfold D; split <;> rfl
  have hsubC : (if e.isDir && r then subCreated (fs.renamed p q) q else []) =
      D.map (fun e => mkEv (if e.isDir then EvClass.DirCreatedEvent else .FileCreatedEvent) e.path [] true) := by
    unfold D; split <;> rfl
  have hwp := inWatch_eq_watched r ok.hp2 (hwf.parent_dir ok.he ok.hp2)
  have hwq := inWatch_eq_watched r ok.hq2 ok.hqpar
  rw [contract_rename_any r full ok, ← hwp, ← hwq, hsubM, hsubC]
  intro y
  have hafter : y ∈ treeOf r (fs.renamed p q) ↔ (y ∈ eraseSub (treeOf r fs) p ∧ y.1 ≠ q) ∨
      (inWatch r q = true ∧ (y = (q, e.isDir) ∨ y ∈ D.map (fun e => (e.path, e.isDir)))) := by
    rw [mem_treeOf_renamed, mem_eraseSub, hDmem]
    constructor
    · rintro ⟨x, hx, hxq, h1, h2, h3⟩
      rcases rwPath_cases p q x.path with ⟨c1, e1⟩ | ⟨c1, e1, _⟩ | ⟨c1, c2, e1⟩
      · have hxe : x = e := hwf.path_inj hx hem.1 (c1.trans hem.2.symm)
        rw [e1] at h1
        exact Or.inr ⟨h1 ▸ h3, Or.inl (Prod.ext h1.symm (by rw [← h2, hxe]))⟩
      · rw [← h1, e1, inWatch_below ok.hq2 (rewrite_under c1), Bool.and_eq_true] at h3
        exact Or.inr ⟨h3.2, Or.inr ⟨h3.1, x, hx, hxq, c1, Prod.ext h1.symm h2.symm⟩⟩
      · rw [e1] at h1
        exact Or.inl ⟨⟨mem_treeOf.mpr ⟨x, hx, h1, h2, h3⟩, h1 ▸ c1, h1 ▸ c2⟩, h1 ▸ hxq⟩
    · rintro (⟨⟨hy, hyp, hyu⟩, hyq⟩ | ⟨hq, rfl | ⟨hr, x, hx, hxq, hxu, rfl⟩⟩)
      · obtain ⟨x, hx, h1, h2, h3⟩ := mem_treeOf.mp hy
        exact ⟨x, hx, h1 ▸ hyq, by rw [rwPath_other (h1 ▸ hyp) (h1 ▸ hyu)]; exact h1, h2, h3⟩
      · exact ⟨e, hem.1, by rw [hem.2]; exact ok.hne, by rw [hem.2, rwPath_at], rfl, hq⟩
      · refine ⟨x, hx, hxq, rfl, rfl, ?_⟩
        rw [rwPath_under hxu, inWatch_below ok.hq2 (rewrite_under hxu), hq, hr]; rfl
  have hEfree : ∀ z ∈ eraseSub (treeOf r fs) p, z.1 ≠ q → isUnder q z.1 = false := by
    intro z hz hzq
    obtain ⟨x, hx, h1, _, _⟩ := mem_treeOf.mp (mem_eraseSub.mp hz).1
    rw [← h1] at hzq ⊢; exact hfree x hx hzq
  have hyq : inWatch r q = false → y ∈ eraseSub (treeOf r fs) p → y.1 ≠ q := by
    intro hq hy hh
    rw [← hh, inWatch_of_mem (mem_eraseSub.mp hy).1] at hq; cases hq
  rw [hafter]
  cases hp' : inWatch r p <;> cases hq' : inWatch r q <;>
    simp only [Bool.and_self, Bool.and_true, Bool.and_false, Bool.false_eq_true, if_true, if_false, false_and, or_false,
      true_and, replay_nil, replay_append, replay_renameTail]
  · rw [← eraseSub_outside ok.hp2 hp' y]
    exact ⟨fun h => ⟨h, hyq hq' h⟩, fun h => h.1⟩
  · have hfirst : replay (replay (treeOf r fs) (if full then [mkEv (movedCls e.isDir) [] q] else [mkEv (createdCls e.isDir) q]))
        [dirMod q] = setEntry (treeOf r fs) q e.isDir := by
      cases full <;> simp [replay_cons, replay_nil, applyEv_dirMod, applyEv_mk_created, applyEv_mk_moved_in _ _ _ hqn]
    rw [hfirst, mem_replay_subCreated D hDnd]
    exact mem_arrived (sameTree_symm (eraseSub_outside ok.hp2 hp')) _ D hDpaths hEfree y
  · have hfirst : replay (treeOf r fs) (if full then [mkEv (movedCls e.isDir) p [], dirMod p] else evDeleted e.isDir p) =
        eraseSub (treeOf r fs) p := by
      cases full
      · simp [replay_evDeleted]
      · simp [replay_cons, replay_nil, applyEv_dirMod, applyEv_mk_moved_out _ _ _ hpn]
    rw [hfirst]
    exact ⟨fun h => ⟨h, hyq hq' h⟩, fun h => h.1⟩
  · simp only [replay_cons, replay_nil, applyEv_dirMod, applyEv_mk_moved _ _ _ _ hpn hqn]
    rw [mem_replay_subMoved p D hDnd hDq hinc hpn]
    · exact mem_arrived (sameTree_refl _) _ D hDpaths hEfree y
    · intro z hz
      rcases mem_setEntry.mp hz with ⟨h1, _⟩ | h1
      · exact (mem_eraseSub.mp h1).2
      · rw [h1]; exact ⟨fun h => ok.hne h.symm, ok.hnu⟩

/-- C01, one operation, either kind of watch: replaying the contract's events on the tree the watch answers for
    gives that tree as it is afterwards -/
theorem replay_contract_any (hwf : fs.WF) (r full : Bool) (op : Op) (hv : validOp fs op = true) :
    sameTree (replay (treeOf r fs) (contract fs r full op).1) (treeOf r (fsAfter fs op)) := by
  cases op with
  | create p =>
    obtain ⟨hp, hne, hpar⟩ := validOp_create hv
    rw [replay_create, ← inWatch_eq_watched r hp hpar]
    exact sameTree_symm (treeOf_add (exists_false_iff.mp hne) false)
  | mkdir p =>
    obtain ⟨hp, hne, hpar⟩ := validOp_mkdir hv
    rw [replay_mkdir, ← inWatch_eq_watched r hp hpar]
    exact sameTree_symm (treeOf_add (exists_false_iff.mp hne) true)
  | write p => rw [replay_write]; exact sameTree_refl _
  | chmod p => rw [replay_chmod, fsAfter_chmod]; exact sameTree_refl _
  | unlink p =>
    obtain ⟨f, hf, hfile, hp2⟩ := hwf.file hv
    rw [replay_unlink, FS.exists_iff.mpr ⟨f, hf⟩, Bool.and_true, fsAfter_unlink hf]
    exact replay_removed hp2 (hwf.parent_dir hf hp2) (mem_del_leaf (hwf.file_no_desc hf hfile (ne_nil_of_two_le hp2)))
  | rmdir p =>
    obtain ⟨e, he, _, hp, hch⟩ := validOp_rmdir hv
    have hleaf := mem_del_leaf (hwf.no_desc_of_no_children hch)
    rw [replay_rmdir, fsAfter_rmdir he]
    split
    · exact sameTree_symm (treeOf_remove hleaf)
    · rename_i hW
      have hp2 : 2 ≤ p.length := hp.resolve_right fun h => hW (beq_iff_eq.mpr h)
      rw [FS.exists_iff.mpr ⟨e, he⟩, Bool.and_true]
      exact replay_removed hp2 (hwf.parent_dir he hp2) hleaf
  | rmtree p =>
    obtain ⟨e, ok⟩ := rmtreeOK_of_valid (order := canonOrder fs p) hv
    exact replay_rmtreeOrd hwf r full ok
  | rmtreeOrd p order =>
    obtain ⟨e, ok⟩ := rmtreeOK_of_valid hv
    exact replay_rmtreeOrd hwf r full ok
  | rename p q =>
    obtain ⟨e, ok⟩ := renameOK_of_valid hv
    rw [fsAfter_rename ok]; exact replay_rename hwf r full ok

/-- C01, one operation: replaying the contract's events on the tree before gives the tree after -/
theorem replay_contract (hwf : fs.WF) (full : Bool) (op : Op) (hv : validOp fs op = true) :
    sameTree (replay (treeW fs) (contract fs true full op).1) (treeW (fsAfter fs op)) :=
  replay_contract_any hwf true full op hv

/-- C01, either kind of watch: replaying the contract's created / deleted / moved events of a whole history, in
    order, on the tree the watch answers for as it stood at the start gives that tree as it is afterwards -/
theorem replay_run_any (hwf : fs.WF) (r full : Bool) (ops : List Op) (hv : fsValid fs ops = true) (hroot : Op.rmdir ["W"] ∉ ops) :
    sameTree (replay (treeOf r fs) (contractRun fs r full ops).flatten) (treeOf r (fsRun fs ops)) := by
  induction ops generalizing fs with
  | nil => exact sameTree_refl _
  | cons op rest ih =>
    simp only [fsValid, Bool.and_eq_true] at hv
    have hne : op ≠ .rmdir ["W"] := fun h => hroot (h ▸ List.mem_cons_self ..)
    have hst : (contract fs r full op).2 = false :=
      Bool.not_eq_true _ ▸ fun h => hne ((contract_stop_iff _ _ _ _).mp h)
    simp only [contractRun, hst, Bool.false_eq_true, if_false, List.flatten_cons, replay_append, fsRun]
    exact sameTree_trans (sameTree_replay (replay_contract_any hwf r full op hv.1) _)
      (ih (wf_after hwf op hv.1 hne) hv.2 (fun h => hroot (List.mem_cons_of_mem _ h)))

/-- C01 (recursive watch): replaying the contract's created / deleted / moved events of a whole history, in
    order, on the tree as it stood at the start gives the tree that exists afterwards -/
theorem replay_run (hwf : fs.WF) (full : Bool) (ops : List Op) (hv : fsValid fs ops = true) (hroot : Op.rmdir ["W"] ∉ ops) :
    sameTree (replay (treeW fs) (contractRun fs true full ops).flatten) (treeW (fsRun fs ops)) :=
  replay_run_any hwf true full ops hv hroot

end WD.Pipe
