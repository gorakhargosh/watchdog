/- operations on files under a recursive watch: create, write, chmod, unlink -/
import WD.Proofs.Pipeline.Valid
namespace WD.Pipe

/-- the common shape: the kernel leaves its watches alone, queues records that do not touch the maps
    (none of them a move half), and no directory of the tree changes -/
structure SimpleOp (s : Sys) (op : Op) (fs1 : FS) (recs : List NRec) (path : NRec → P) : Prop where
  hk : kernelOp s.fs s.k op = (fs1, s.k, recs)
  hr : ∀ r ∈ recs, simpleFlag true r.flag r.isDir = true ∧ lookupW s.lib.pathForWd r.wd = some (path r)
  hwf : fs1.WF
  hdirs : ∀ e, inTreeDir e = true → (e ∈ fs1.ents ↔ e ∈ s.fs.ents)
  hnostop : ∀ r ∈ recs, (emit fs1 true s.full (.one (r.toLEv (path r)))).2 = false
  hev : recs.flatMap (fun r => (emit fs1 true s.full (.one (r.toLEv (path r)))).1) = (contract s.fs true s.full op).1
  hst : (contract s.fs true s.full op).2 = false

theorem step_simple (s : Sys) (op : Op) (inv : InvRec s.fs s.k s.lib) (hs : s.stopped = false) (hc : s.crashed = false)
    (fs1 : FS) (recs : List NRec) (path : NRec → P) (h : SimpleOp s op fs1 recs path) : StepRec s op :=
  (StepOK.simple s op hs hc inv.isRec path h.hk h.hr h.hnostop h.hev h.hst (inv.fs_change h.hwf h.hdirs)).toRec

theorem SimpleOp.silent {s : Sys} {op : Op} {fs1 : FS} (hk : kernelOp s.fs s.k op = (fs1, s.k, [])) (hwf : fs1.WF)
    (hdirs : ∀ e, inTreeDir e = true → (e ∈ fs1.ents ↔ e ∈ s.fs.ents))
    (hcon : contract s.fs true s.full op = ([], false)) : SimpleOp s op fs1 [] (fun _ => []) :=
  ⟨hk, by simp, hwf, hdirs, by simp, by rw [hcon]; rfl, by rw [hcon]⟩

theorem FS.add_file_dirs (fs : FS) (p : P) :
    ∀ e, inTreeDir e = true → (e ∈ (fs.add p false).ents ↔ e ∈ fs.ents) := by
  intro e he; rw [FS.mem_add]
  constructor
  · rintro (h | h)
    · exact h
    · subst h; simp [inTreeDir] at he
  · exact Or.inl

theorem simple_create (s : Sys) (p : P) (inv : InvRec s.fs s.k s.lib)
    (hv : validOp s.fs (.create p) = true) : ∃ fs1 recs path, SimpleOp s (.create p) fs1 recs path := by
  obtain ⟨hp, hne, hpar⟩ := validOp_create hv
  have hpb := snoc_parent_base (ne_nil_of_two_le hp)
  have hwf := inv.wf.add hp hne hpar false
  rcases inv.parent_recs p with ⟨hw, wd, h1, _, hrec⟩ | ⟨hw, hrec⟩
  · refine ⟨s.fs.add p false, [⟨wd, .create, false, 0, some (baseName p)⟩, ⟨wd, .open, false, 0, some (baseName p)⟩,
      ⟨wd, .closeWrite, false, 0, some (baseName p)⟩], (fun _ => parentOf p), ⟨?_, ?_, hwf, s.fs.add_file_dirs p, ?_, ?_, rfl⟩⟩
    · simp only [kernelOp, hrec]; rfl
    · intro r hr; simp at hr; rcases hr with rfl | rfl | rfl <;> exact ⟨rfl, h1⟩
    · intro r hr; simp at hr; rcases hr with rfl | rfl | rfl <;> rfl
    · simp only [contract, hw, if_true, List.flatMap_cons, List.flatMap_nil, NRec.toLEv, NRec.src, hpb]; rfl
  · exact ⟨_, _, _, SimpleOp.silent (by simp only [kernelOp, hrec]; rfl) hwf (s.fs.add_file_dirs p) (by simp [contract, hw])⟩

theorem simple_write (s : Sys) (p : P) (inv : InvRec s.fs s.k s.lib)
    (hv : validOp s.fs (.write p) = true) : ∃ fs1 recs path, SimpleOp s (.write p) fs1 recs path := by
  obtain ⟨f, hf, _, hp2⟩ := inv.wf.file hv
  have hpb := snoc_parent_base (ne_nil_of_two_le hp2)
  rcases inv.parent_recs p with ⟨hw, wd, h1, _, hrec⟩ | ⟨hw, hrec⟩
  · refine ⟨s.fs, [⟨wd, .open, false, 0, some (baseName p)⟩, ⟨wd, .modify, false, 0, some (baseName p)⟩,
      ⟨wd, .closeWrite, false, 0, some (baseName p)⟩], (fun _ => parentOf p), ⟨?_, ?_, inv.wf, fun _ _ => Iff.rfl, ?_, ?_, rfl⟩⟩
    · simp only [kernelOp, hrec]; rfl
    · intro r hr; simp at hr; rcases hr with rfl | rfl | rfl <;> exact ⟨rfl, h1⟩
    · intro r hr; simp at hr; rcases hr with rfl | rfl | rfl <;> rfl
    · simp only [contract, hw, if_true, List.flatMap_cons, List.flatMap_nil, NRec.toLEv, NRec.src, hpb]; rfl
  · exact ⟨_, _, _, SimpleOp.silent (by simp only [kernelOp, hrec]; rfl) inv.wf (fun _ _ => Iff.rfl) (by simp [contract, hw])⟩

theorem simple_unlink (s : Sys) (p : P) (inv : InvRec s.fs s.k s.lib)
    (hv : validOp s.fs (.unlink p) = true) : ∃ fs1 recs path, SimpleOp s (.unlink p) fs1 recs path := by
  obtain ⟨f, hf, hfile, hp2⟩ := inv.wf.file hv
  have hfm := FS.find?_some hf
  have hpb := snoc_parent_base (ne_nil_of_two_le hp2)
  have hex : s.fs.exists p = true := FS.exists_iff.mpr ⟨f, hf⟩
  have hwf : (s.fs.del p).WF := inv.wf.del hp2 (inv.wf.file_leaf hf hfile)
  have hdirs : ∀ e, inTreeDir e = true → (e ∈ (s.fs.del p).ents ↔ e ∈ s.fs.ents) := by
    intro e he; rw [FS.mem_del]
    refine ⟨fun h => h.1, fun h => ⟨h, ?_⟩⟩
    intro hp; have := inv.wf.path_inj h hfm.1 (hp.trans hfm.2.symm); subst this
    simp [inTreeDir, hfile] at he
  have hk : ∀ recs, s.k.onEntry ((s.fs.find? (parentOf p)).map (·.ino)) .delete false 0 (baseName p) = recs →
      kernelOp s.fs s.k (.unlink p) = (s.fs.del p, s.k, recs) := by
    intro recs h
    simp only [kernelOp, hf, removeEntry, hfile, hfm.2, h]; rfl
  rcases inv.parent_recs p with ⟨hw, wd, h1, _, hrec⟩ | ⟨hw, hrec⟩
  · refine ⟨s.fs.del p, [⟨wd, .delete, false, 0, some (baseName p)⟩], (fun _ => parentOf p),
      ⟨hk _ (hrec _ _ _), ?_, hwf, hdirs, ?_, ?_, rfl⟩⟩
    · intro r hr; rw [List.mem_singleton.mp hr]; exact ⟨rfl, h1⟩
    · intro r hr; rw [List.mem_singleton.mp hr]; rfl
    · simp only [contract, hw, hex, Bool.and_self, if_true, List.flatMap_cons, List.flatMap_nil, NRec.toLEv, NRec.src, hpb]; rfl
  · exact ⟨_, _, _, SimpleOp.silent (hk _ (hrec _ _ _)) hwf hdirs (by simp [contract, hw])⟩

theorem simple_chmod (s : Sys) (p : P) (inv : InvRec s.fs s.k s.lib)
    (hv : validOp s.fs (.chmod p) = true) : ∃ fs1 recs path, SimpleOp s (.chmod p) fs1 recs path := by
  obtain ⟨hp2, e, he⟩ := validOp_chmod hv
  have hem := FS.find?_some he
  have hpb := snoc_parent_base (ne_nil_of_two_le hp2)
  -- the record on the watched object itself (directories of the tree only), then the one on its parent
  obtain ⟨rs, hrs, hls, hes⟩ : ∃ rs, (if e.isDir then s.k.onSelf e.ino .attrib true else []) = rs ∧
      (∀ r ∈ rs, r.flag = .attrib ∧ r.name = none ∧ lookupW s.lib.pathForWd r.wd = some p) ∧
      rs.flatMap (fun r => (emit s.fs true s.full (.one (r.toLEv p))).1) =
        if e.isDir && watchedDir s.fs true p then [mkEv .DirModifiedEvent p] else [] := by
    cases hd : e.isDir with
    | false => exact ⟨[], rfl, by simp, rfl⟩
    | true =>
      cases ht : inTreeDir e with
      | true =>
        obtain ⟨wd, h1, _, h2, _⟩ := inv.watched hem.1 ht trivial
        rw [hem.2] at h2
        refine ⟨[⟨wd, .attrib, true, 0, none⟩], by rw [if_pos rfl, onSelf_some h1], ?_, ?_⟩
        · intro r hr; rw [List.mem_singleton.mp hr]; exact ⟨rfl, rfl, h2⟩
        · rw [watchedDir_rec_iff.mpr ⟨e, he, ht⟩]; rfl
      | false =>
        refine ⟨[], by rw [if_pos rfl, onSelf_none (inv.unwatched hem.1 ht)], by simp, ?_⟩
        cases hw : watchedDir s.fs true p with
        | false => rfl
        | true =>
          obtain ⟨e', he', hte⟩ := watchedDir_rec_iff.mp hw
          rw [he] at he'; cases he'; rw [ht] at hte; cases hte
  obtain ⟨rp, hrp, hlp, hep⟩ : ∃ rp, s.k.onEntry ((s.fs.find? (parentOf p)).map (·.ino)) .attrib e.isDir 0 (baseName p) = rp ∧
      (∀ r ∈ rp, r.flag = .attrib ∧ r.name = some (baseName p) ∧ lookupW s.lib.pathForWd r.wd = some (parentOf p)) ∧
      rp.flatMap (fun r => (emit s.fs true s.full (.one (r.toLEv (parentOf p)))).1) =
        if watchedDir s.fs true (parentOf p) then [mkEv (if e.isDir then .DirModifiedEvent else .FileModifiedEvent) p] else [] := by
    rcases inv.parent_recs p with ⟨hw, wd, h1, _, hrec⟩ | ⟨hw, hrec⟩
    · refine ⟨_, hrec _ _ _, ?_, ?_⟩
      · intro r hr; rw [List.mem_singleton.mp hr]; exact ⟨rfl, rfl, h1⟩
      · simp only [hw, if_true, List.flatMap_cons, List.flatMap_nil, NRec.toLEv, NRec.src, hpb]; rfl
    · exact ⟨_, hrec _ _ _, by simp, by rw [hw]; rfl⟩
  refine ⟨s.fs, rs ++ rp, (fun r => match r.name with | none => p | some _ => parentOf p), ⟨?_, ?_, inv.wf, fun _ _ => Iff.rfl, ?_, ?_, ?_⟩⟩
  · simp only [kernelOp, he, hrs, hrp]
  · intro r hr
    rcases List.mem_append.mp hr with h | h
    · obtain ⟨a, b, c⟩ := hls r h; rw [a, b]; exact ⟨rfl, c⟩
    · obtain ⟨a, b, c⟩ := hlp r h; rw [a, b]; exact ⟨rfl, c⟩
  · intro r hr
    rcases List.mem_append.mp hr with h | h
    · simp [emit, NRec.toLEv, (hls r h).1]
    · simp [emit, NRec.toLEv, (hlp r h).1]
  · rw [List.flatMap_append,
      flatMap_congr' (g := fun r => (emit s.fs true s.full (.one (r.toLEv p))).1) (fun r hr => by rw [(hls r hr).2.1]), hes,
      flatMap_congr' (g := fun r => (emit s.fs true s.full (.one (r.toLEv (parentOf p)))).1) (fun r hr => by rw [(hlp r hr).2.1]), hep]
    rw [contract_chmod true s.full he]
  · rw [contract_chmod true s.full he]

theorem step_of_simple {s : Sys} {op : Op} (inv : InvRec s.fs s.k s.lib) (hs : s.stopped = false) (hc : s.crashed = false)
    (h : ∃ fs1 recs path, SimpleOp s op fs1 recs path) : StepRec s op :=
  let ⟨fs1, recs, path, h⟩ := h
  step_simple s op inv hs hc fs1 recs path h

theorem step_create (s : Sys) (p : P) (inv : InvRec s.fs s.k s.lib) (hs : s.stopped = false) (hc : s.crashed = false)
    (hv : validOp s.fs (.create p) = true) : StepRec s (.create p) := step_of_simple inv hs hc (simple_create s p inv hv)

theorem step_write (s : Sys) (p : P) (inv : InvRec s.fs s.k s.lib) (hs : s.stopped = false) (hc : s.crashed = false)
    (hv : validOp s.fs (.write p) = true) : StepRec s (.write p) := step_of_simple inv hs hc (simple_write s p inv hv)

theorem step_unlink (s : Sys) (p : P) (inv : InvRec s.fs s.k s.lib) (hs : s.stopped = false) (hc : s.crashed = false)
    (hv : validOp s.fs (.unlink p) = true) : StepRec s (.unlink p) := step_of_simple inv hs hc (simple_unlink s p inv hv)

theorem step_chmod (s : Sys) (p : P) (inv : InvRec s.fs s.k s.lib) (hs : s.stopped = false) (hc : s.crashed = false)
    (hv : validOp s.fs (.chmod p) = true) : StepRec s (.chmod p) := step_of_simple inv hs hc (simple_chmod s p inv hv)

end WD.Pipe
