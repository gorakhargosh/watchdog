/- C01 for a non-recursive watch: replaying the events reproduces the root's direct children -/
import WD.Proofs.Pipeline.FlatSpec
import WD.Proofs.Pipeline.ReplayRun
namespace WD.Pipe

variable {fs : FS}

/-- C01 (non-recursive watch): replaying the contract's events of a whole history on the root's direct children
    as they were at the start gives the root's direct children afterwards -/
theorem replayFlat_run (hwf : fs.WF) (full : Bool) (ops : List Op) (hv : fsValid fs ops = true) (hroot : Op.rmdir ["W"] ∉ ops) :
    sameTree (replay (treeW1 fs) (contractRun fs false full ops).flatten) (treeW1 (fsRun fs ops)) :=
  replay_run_any hwf false full ops hv hroot

end WD.Pipe
