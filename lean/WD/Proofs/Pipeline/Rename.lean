/- a rename: the file system after it, what the kernel queues for it, what the reader makes of the two halves of the
   move and of a replaced directory -/
import WD.Proofs.Pipeline.OpsRmtree

namespace WD.Pipe

def rwPath (p q x : P) : P := if x = p then q else if isUnder p x = true then q ++ x.drop p.length else x
def rwEnt (p q : P) (x : Ent) : Ent := { x with path := rwPath p q x.path }

/-- the file system after `rename p q` (what was at `q` is gone, what was at or below `p` is at or below `q`) -/
def FS.renamed (fs : FS) (p q : P) : FS := { fs with ents := (fs.del q).ents.map (rwEnt p q) }

theorem rwEnt_eq_model (p q : P) (x : Ent) :
    (if x.path == p then { x with path := q }
     else if isUnder p x.path then { x with path := q ++ x.path.drop p.length } else x) = rwEnt p q x := by
  unfold rwEnt rwPath
  by_cases h1 : x.path = p
  · simp [h1]
  · by_cases h2 : isUnder p x.path = true
    · simp [h1, h2]
    · simp [h1, h2]

theorem FS.del_missing {fs : FS} {q : P} (h : fs.find? q = none) : fs.del q = fs := by
  unfold FS.del
  have : fs.ents.filter (fun x => x.path != q) = fs.ents := by
    rw [List.filter_eq_self]; intro x hx; simp [FS.find?_none.mp h x hx]
  rw [this]

theorem FS.mem_renamed {fs : FS} {p q : P} {y : Ent} :
    y ∈ (fs.renamed p q).ents ↔ ∃ x ∈ fs.ents, x.path ≠ q ∧ y = rwEnt p q x := by
  simp only [FS.renamed, List.mem_map, FS.mem_del]
  constructor
  · rintro ⟨x, ⟨hx, hq⟩, rfl⟩; exact ⟨x, hx, hq, rfl⟩
  · rintro ⟨x, hx, hq, rfl⟩; exact ⟨x, ⟨hx, hq⟩, rfl⟩

theorem FS.WF.no_desc_of_no_children {fs : FS} (hwf : fs.WF) {q : P} (hch : (fs.children q).isEmpty = true) :
    ∀ x ∈ fs.ents, isUnder q x.path = false := by
  intro x hx
  cases hu : isUnder q x.path with
  | false => rfl
  | true =>
    exfalso
    obtain ⟨r, hr, hxr⟩ := isUnder_iff.mp hu
    have hchild : ∀ c ∈ fs.ents, c.path.length = q.length + 1 → c.path.take q.length = q → False := by
      intro c hc h1 h2
      have : c ∈ fs.children q := by
        unfold FS.children; rw [List.mem_filter]; exact ⟨hc, by simp [h1, h2]⟩
      rw [List.isEmpty_iff] at hch; rw [hch] at this; cases this
    cases r with
    | nil => exact hr rfl
    | cons h t =>
      cases t with
      | nil => exact hchild x hx (by rw [hxr]; simp) (by rw [hxr]; simp)
      | cons h2 t2 =>
        have hpre : isUnder (q ++ [h]) x.path = true := by
          rw [hxr]; rw [show q ++ h :: h2 :: t2 = (q ++ [h]) ++ (h2 :: t2) by simp]
          exact isUnder_append _ (by simp)
        have hd := hwf.ancestor_dir _ x hx rfl (q ++ [h]) (by simp) hpre
        obtain ⟨c, hc, _⟩ := FS.isDir_iff.mp hd
        have hcm := FS.find?_some hc
        exact hchild c hcm.1 (by rw [hcm.2]; simp) (by rw [hcm.2]; simp)

/-- the conditions under which `rename p q` succeeds -/
structure RenameOK (fs : FS) (p q : P) (e : Ent) : Prop where
  hp2 : 2 ≤ p.length
  hq2 : 2 ≤ q.length
  he : fs.find? p = some e
  hqpar : fs.isDir (parentOf q) = true
  hne : p ≠ q
  hnu : isUnder p q = false
  hold : ∀ old, fs.find? q = some old → old.isDir = e.isDir ∧ (old.isDir = true → (fs.children q).isEmpty = true)

theorem renameOK_of_valid {fs : FS} {p q : P} (h : validOp fs (.rename p q) = true) : ∃ e, RenameOK fs p q e := by
  have hv := h
  simp only [validOp, Bool.and_eq_true, decide_eq_true_eq, bne_iff_ne, ne_eq, Bool.not_eq_true'] at hv
  obtain ⟨⟨⟨⟨⟨⟨hp2, hq2⟩, hex⟩, hqpar⟩, hne⟩, hnu⟩, hold⟩ := hv
  obtain ⟨e, he⟩ := FS.exists_iff.mp hex
  refine ⟨e, hp2, hq2, he, hqpar, hne, hnu, ?_⟩
  intro old ho
  rw [ho] at hold
  have hd : fs.isDir p = e.isDir := by simp [FS.isDir, he]
  simp only [hd, Bool.and_eq_true, beq_iff_eq, Bool.or_eq_true, Bool.not_eq_true'] at hold
  refine ⟨hold.1, ?_⟩
  intro h1; rcases hold.2 with h2 | h2
  · rw [h1] at h2; cases h2
  · exact h2

variable {fs : FS} {p q : P} {e : Ent}

theorem RenameOK.q_free (ok : RenameOK fs p q e) (hwf : fs.WF) :
    ∀ x ∈ fs.ents, x.path ≠ q → isUnder q x.path = false := by
  intro x hx _
  have hq := ne_nil_of_two_le ok.hq2
  cases hf : fs.find? q with
  | none =>
    exact hwf.no_descendants_of_missing hq (by simp [FS.exists, hf]) x hx
  | some old =>
    have ho := ok.hold old hf
    cases hd : old.isDir with
    | true => exact hwf.no_desc_of_no_children (ho.2 hd) x hx
    | false =>
      cases hu : isUnder q x.path with
      | false => rfl
      | true =>
        have := hwf.ancestor_dir _ x hx rfl q hq hu
        obtain ⟨d, hd', hdd⟩ := FS.isDir_iff.mp this
        rw [hf] at hd'; cases hd'; rw [hd] at hdd; cases hdd

theorem rwPath_at (p q : P) : rwPath p q p = q := by simp [rwPath]
theorem rwPath_under {p q x : P} (h : isUnder p x = true) : rwPath p q x = q ++ x.drop p.length := by
  have : x ≠ p := fun hh => by subst hh; rw [isUnder_irrefl] at h; cases h
  simp [rwPath, this, h]
theorem rwPath_other {p q x : P} (h1 : x ≠ p) (h2 : isUnder p x = false) : rwPath p q x = x := by
  simp [rwPath, h1, h2]

theorem rwPath_cases (p q x : P) :
    (x = p ∧ rwPath p q x = q) ∨ (isUnder p x = true ∧ rwPath p q x = q ++ x.drop p.length ∧ isUnder q (rwPath p q x) = true) ∨
    (x ≠ p ∧ isUnder p x = false ∧ rwPath p q x = x) := by
  by_cases h1 : x = p
  · left; exact ⟨h1, by rw [h1, rwPath_at]⟩
  · cases h2 : isUnder p x with
    | true => right; left; exact ⟨rfl, rwPath_under h2, by rw [rwPath_under h2]; exact rewrite_under h2⟩
    | false => right; right; exact ⟨h1, rfl, rwPath_other h1 h2⟩

theorem rwPath_inj {x y : P}
    (hx : x ≠ q ∧ isUnder q x = false) (hy : y ≠ q ∧ isUnder q y = false) (h : rwPath p q x = rwPath p q y) : x = y := by
  rcases rwPath_cases p q x with ⟨h1, e1⟩ | ⟨h1, e1, u1⟩ | ⟨h1, h1', e1⟩ <;>
  rcases rwPath_cases p q y with ⟨h2, e2⟩ | ⟨h2, e2, u2⟩ | ⟨h2, h2', e2⟩
  · rw [h1, h2]
  · rw [h, ] at e1; rw [e1] at u2; rw [isUnder_irrefl] at u2; cases u2
  · rw [e1, e2] at h; exact absurd h.symm hy.1
  · rw [← h] at e2; rw [e2] at u1; rw [isUnder_irrefl] at u1; cases u1
  · rw [e1, e2] at h
    have := List.append_cancel_left h
    obtain ⟨r1, _, rfl⟩ := isUnder_iff.mp h1
    obtain ⟨r2, _, rfl⟩ := isUnder_iff.mp h2
    simp at this; rw [this]
  · rw [e2] at h; rw [h] at u1; rw [hy.2] at u1; cases u1
  · rw [e1, e2] at h; exact absurd h hx.1
  · rw [e1] at h; rw [← h] at u2; rw [hx.2] at u2; cases u2
  · rw [e1, e2] at h; exact h

theorem parentOf_append {a r : P} (hr : r ≠ []) : parentOf (a ++ r) = a ++ r.dropLast := by
  unfold parentOf; rw [List.dropLast_append_of_ne_nil hr]

theorem parent_rwPath {x : P} (hx : x ≠ p) (hx2 : 2 ≤ x.length)
    (hpq : parentOf x ≠ q) (hfree : isUnder q x = false) : parentOf (rwPath p q x) = rwPath p q (parentOf x) := by
  rcases rwPath_cases p q x with ⟨h1, _⟩ | ⟨h1, e1, _⟩ | ⟨_, h1', e1⟩
  · exact absurd h1 hx
  · obtain ⟨r, hr, rfl⟩ := isUnder_iff.mp h1
    rw [e1]; simp only [List.drop_left']
    rw [parentOf_append hr, parentOf_append hr]
    by_cases hd : r.dropLast = []
    · simp [hd, rwPath_at]
    · rw [rwPath_under (isUnder_append p hd)]; simp
  · rw [e1]
    have hnn := ne_nil_of_two_le hx2
    have hpp : parentOf x ≠ p := by
      intro h; have := isUnder_of_parent hnn (Or.inl h); rw [h1'] at this; cases this
    have hpu : isUnder p (parentOf x) = false := by
      cases h : isUnder p (parentOf x) with
      | false => rfl
      | true => have := isUnder_of_parent hnn (Or.inr h); rw [h1'] at this; cases this
    rw [rwPath_other hpp hpu]

theorem RenameOK.parent_q_fixed (ok : RenameOK fs p q e) : rwPath p q (parentOf q) = parentOf q := by
  have hnn := ne_nil_of_two_le ok.hq2
  apply rwPath_other
  · intro h; have := isUnder_of_parent hnn (Or.inl h); rw [ok.hnu] at this; cases this
  · cases h : isUnder p (parentOf q) with
    | false => rfl
    | true => have := isUnder_of_parent hnn (Or.inr h); rw [ok.hnu] at this; cases this

theorem rwPath_length_two {x : P} (ok : RenameOK fs p q e) (hx2 : 2 ≤ x.length) : 2 ≤ (rwPath p q x).length := by
  rcases rwPath_cases p q x with ⟨_, e1⟩ | ⟨h1, e1, _⟩ | ⟨_, _, e1⟩
  · rw [e1]; exact ok.hq2
  · rw [e1]; simp; have := ok.hq2; omega
  · rw [e1]; exact hx2

theorem RenameOK.wf (ok : RenameOK fs p q e) (hwf : fs.WF) : (fs.renamed p q).WF := by
  have hfree := ok.q_free hwf
  have hpaths : ((fs.renamed p q).ents.map Ent.path).Nodup := by
    have : (fs.renamed p q).ents.map Ent.path = ((fs.del q).ents.map Ent.path).map (rwPath p q) := by
      simp [FS.renamed, rwEnt, List.map_map]
    rw [this]
    apply nodup_map_of_inj_on
    · exact List.Nodup.sublist (List.Sublist.map _ List.filter_sublist) hwf.paths
    · intro a ha b hb hab
      obtain ⟨x, hx, rfl⟩ := List.mem_map.mp ha
      obtain ⟨y, hy, rfl⟩ := List.mem_map.mp hb
      obtain ⟨hx1, hx2⟩ := FS.mem_del.mp hx
      obtain ⟨hy1, hy2⟩ := FS.mem_del.mp hy
      exact rwPath_inj ⟨hx2, hfree x hx1 hx2⟩ ⟨hy2, hfree y hy1 hy2⟩ hab
  have hfind : ∀ x ∈ fs.ents, x.path ≠ q → (fs.renamed p q).find? (rwPath p q x.path) = some (rwEnt p q x) := by
    intro x hx hxq
    have : rwEnt p q x ∈ (fs.renamed p q).ents := FS.mem_renamed.mpr ⟨x, hx, hxq, rfl⟩
    exact FS.find?_of_mem hpaths this
  have hdirOf : ∀ d, fs.isDir d = true → d ≠ q → (fs.renamed p q).isDir (rwPath p q d) = true := by
    intro d hd hdq
    obtain ⟨x, hx, hxd⟩ := FS.isDir_iff.mp hd
    have hxm := FS.find?_some hx
    have := hfind x hxm.1 (hxm.2 ▸ hdq)
    rw [hxm.2] at this
    exact FS.isDir_iff.mpr ⟨_, this, by simpa [rwEnt] using hxd⟩
  have hlenp := ok.hp2
  have hlenq := ok.hq2
  have top : ∀ t : String, ([t] : P) ≠ q ∧ rwPath p q [t] = [t] := by
    intro t
    refine ⟨by intro h; rw [← h] at hlenq; simp at hlenq, ?_⟩
    apply rwPath_other
    · intro h; rw [← h] at hlenp; simp at hlenp
    · cases h : isUnder p [t] with
      | false => rfl
      | true =>
        have := isUnder_length h
        have h1 : ([t] : P).length = 1 := rfl
        omega
  refine ⟨hpaths, ?_, ?_, ?_, ?_, ?_⟩
  · have : (fs.renamed p q).ents.map Ent.ino = (fs.del q).ents.map Ent.ino := by
      simp [FS.renamed, rwEnt, List.map_map]
    rw [this]
    exact List.Nodup.sublist (List.Sublist.map _ List.filter_sublist) hwf.inos
  · intro y hy
    obtain ⟨x, hx, _, rfl⟩ := FS.mem_renamed.mp hy
    exact hwf.2.2.1 x hx
  · have := hdirOf ["W"] hwf.rootW (top "W").1; rwa [(top "W").2] at this
  · have := hdirOf ["O"] hwf.rootO (top "O").1; rwa [(top "O").2] at this
  · intro y hy
    obtain ⟨x, hx, hxq, rfl⟩ := FS.mem_renamed.mp hy
    rcases hwf.parent hx with h | h | h
    · left; simp [rwEnt, h, (top "W").2]
    · right; left; simp [rwEnt, h, (top "O").2]
    · right; right
      simp only [rwEnt]
      refine ⟨rwPath_length_two ok h.1, ?_⟩
      by_cases hxp : x.path = p
      · rw [hxp, rwPath_at, ← ok.parent_q_fixed]
        exact hdirOf _ ok.hqpar (by intro hh; have := congrArg List.length hh; rw [parentOf_length] at this; omega)
      · have hpq : parentOf x.path ≠ q := by
          intro hh
          have := isUnder_of_parent (ne_nil_of_two_le h.1) (Or.inl hh)
          rw [hfree x hx hxq] at this; cases this
        rw [parent_rwPath hxp h.1 hpq (hfree x hx hxq)]
        exact hdirOf _ h.2 hpq

theorem RenameOK.find_renamed_dest (ok : RenameOK fs p q e) (hwf : fs.WF) :
    (fs.renamed p q).find? q = some (rwEnt p q e) := by
  have hem := FS.find?_some ok.he
  have h := (ok.wf hwf).find_mem (FS.mem_renamed.mpr ⟨e, hem.1, by rw [hem.2]; exact ok.hne, rfl⟩)
  simpa [rwEnt, hem.2, rwPath_at] using h

variable {k : Kern} {lib : Lib}

theorem InvOn.bump {cov : Ent → Prop} {z : Option Nat} (inv : InvOn cov z fs k lib) (c : Nat) (hc : k.nextCookie ≤ c) :
    InvOn cov z fs { k with nextCookie := c } lib :=
  { inv with cookies := fun x hx => by have := inv.cookies x hx; simp only; omega }

def fromRecs (fs : FS) (k : Kern) (p : P) (isDir : Bool) : List NRec :=
  k.onEntry ((fs.find? (parentOf p)).map (·.ino)) .movedFrom isDir k.nextCookie (baseName p)
def toRecs (fs : FS) (k : Kern) (q : P) (isDir : Bool) : List NRec :=
  k.onEntry ((fs.find? (parentOf q)).map (·.ino)) .movedTo isDir k.nextCookie (baseName q)

/-- what the entry a rename replaces leaves behind: a directory reports on its own watch and loses it (the kernel
    without that watch, the records); a file, or nothing at `q`, leaves no trace -/
def renameVictim (fs : FS) (k : Kern) (q : P) : Kern × List NRec :=
  match fs.find? q with
  | some old =>
    (if old.isDir then k.dropWatch old.ino else k,
     if old.isDir then k.onSelf old.ino .attrib true ++ k.onSelf old.ino .deleteSelf false ++ k.onSelf old.ino .ignored false
     else [])
  | none => (k, [])

theorem kernelOp_rename (k : Kern) (he : fs.find? p = some e) :
    kernelOp fs k (.rename p q) =
      (fs.renamed p q, { (renameVictim fs k q).1 with nextCookie := k.nextCookie + 1 },
       (renameVictim fs k q).1.onEntry ((fs.find? (parentOf p)).map (·.ino)) .movedFrom e.isDir k.nextCookie (baseName p) ++
       (renameVictim fs k q).1.onEntry ((fs.find? (parentOf q)).map (·.ino)) .movedTo e.isDir k.nextCookie (baseName q) ++
       (renameVictim fs k q).2) := by
  have hmap : ∀ l : List Ent, l.map (fun x => if x.path == p then { x with path := q }
      else if isUnder p x.path then { x with path := q ++ x.path.drop p.length } else x) = l.map (rwEnt p q) :=
    fun l => List.map_congr_left fun x _ => rwEnt_eq_model p q x
  cases hq : fs.find? q with
  | none => simp only [kernelOp, he, hq, hmap, renameVictim, FS.renamed, FS.del_missing hq]
  | some old => simp only [kernelOp, he, hq, hmap, renameVictim, FS.renamed, FS.del]

theorem renameVictim_unwatched (hun : ∀ old, fs.find? q = some old → k.wdOfIno old.ino = none) :
    renameVictim fs k q = (k, []) := by
  unfold renameVictim
  cases hq : fs.find? q with
  | none => rfl
  | some old => cases old.isDir <;> simp [dropWatch_unwatched (hun old hq), onSelf_none (hun old hq)]

theorem renameVictim_file (hfile : ∀ old, fs.find? q = some old → old.isDir = false) : renameVictim fs k q = (k, []) := by
  unfold renameVictim
  cases hq : fs.find? q with
  | none => rfl
  | some old => simp only [hfile old hq]; rfl

theorem kernelOp_rename_quiet (he : fs.find? p = some e) (hv : renameVictim fs k q = (k, [])) :
    kernelOp fs k (.rename p q) = (fs.renamed p q, { k with nextCookie := k.nextCookie + 1 },
      fromRecs fs k p e.isDir ++ toRecs fs k q e.isDir) := by
  rw [kernelOp_rename k he, hv, List.append_nil]; rfl

theorem RenameOK.parent_p_ne_q (ok : RenameOK fs p q e) (hwf : fs.WF) : parentOf p ≠ q := by
  intro h
  have hem := FS.find?_some ok.he
  have := isUnder_of_parent (ne_nil_of_two_le ok.hp2) (Or.inl h)
  have h2 := ok.q_free hwf e hem.1 (by rw [hem.2]; exact ok.hne)
  rw [hem.2, this] at h2; cases h2

theorem RenameOK.parent_q_ne_q (ok : RenameOK fs p q e) : parentOf q ≠ q := by
  intro h; have := congrArg List.length h; rw [parentOf_length] at this; have := ok.hq2; omega

theorem onEntry_dropWatch_other (hwf : fs.WF) {old : Ent} (ho : fs.find? q = some old) {d : P} (hd : d ≠ q)
    (f : Flag) (b : Bool) (c : Nat) (n : String) :
    (k.dropWatch old.ino).onEntry ((fs.find? d).map (·.ino)) f b c n = k.onEntry ((fs.find? d).map (·.ino)) f b c n := by
  cases hf : fs.find? d with
  | none => simp [Kern.onEntry]
  | some x =>
    have hx := FS.find?_some hf
    have hom := FS.find?_some ho
    have : x.ino ≠ old.ino := by
      intro hi; have := hwf.ino_inj hx.1 hom.1 hi; subst this; exact hd (hx.2.symm.trans hom.2)
    simp [Kern.onEntry, wdOfIno_dropWatch, this]

theorem rename_kernel (inv : InvRec fs k lib) (ok : RenameOK fs p q e) :
    ∃ (z : Option Nat) (k0 : Kern) (rrep : List NRec),
      kernelOp fs k (.rename p q) = (fs.renamed p q, { k0 with nextCookie := k.nextCookie + 1 },
        fromRecs fs k p e.isDir ++ toRecs fs k q e.isDir ++ rrep) ∧
      InvOn (fun _ => True) z (fs.del q) k0 lib ∧ k0.nextCookie = k.nextCookie ∧
      ((z = none ∧ rrep = [] ∧ renameTail fs true q = []) ∨
       (∃ wd, z = some wd ∧ e.isDir = true ∧ watchedDir fs true (parentOf q) = true ∧
          lookupW lib.pathForWd wd = some q ∧ renameTail fs true q = [mkEv .DirModifiedEvent q] ∧
          rrep = [⟨wd, .attrib, true, 0, none⟩, ⟨wd, .deleteSelf, false, 0, none⟩, ⟨wd, .ignored, false, 0, none⟩])) := by
  have hwf := inv.wf
  cases hq : fs.find? q with
  | none =>
    refine ⟨none, k, [], ?_, ?_, rfl, Or.inl ⟨rfl, rfl, by simp [renameTail, hq]⟩⟩
    · rw [kernelOp_rename_quiet ok.he (renameVictim_unwatched fun old ho => by rw [hq] at ho; cases ho), List.append_nil]
    · rw [FS.del_missing hq]; exact inv
  | some old =>
    have hom := FS.find?_some hq
    have hold := ok.hold old hq
    have hleaf : ∀ x ∈ fs.ents, parentOf x.path ≠ q ∨ x.path.length < 2 := by
      intro x hx
      by_cases hl : x.path.length < 2
      · exact Or.inr hl
      · left; intro hpar
        have hnn : x.path ≠ [] := by intro h; rw [h] at hl; simp at hl
        have hu := isUnder_of_parent hnn (Or.inl hpar)
        have := ok.q_free hwf x hx (fun h => by rw [h, isUnder_irrefl] at hu; cases hu)
        rw [hu] at this; cases this
    have hwf' : (fs.del q).WF := hwf.del ok.hq2 hleaf
    have hfs0 : ({ fs with ents := fs.ents.filter (fun x => x.path != q) } : FS) = fs.del q := rfl
    cases ht : inTreeDir old with
    | true =>
      have hd : old.isDir = true := (inTreeDir_iff.mp ht).1
      obtain ⟨wd, h1, hw, h2, h3⟩ := inv.watched hom.1 ht trivial
      rw [hom.2] at h2 h3
      have hwq : watchedDir fs true q = true := watchedDir_rec_iff.mpr ⟨old, hq, ht⟩
      have hwpq : watchedDir fs true (parentOf q) = true := by
        have hu : isUnder ["W"] q = true := by
          rcases (inTreeDir_iff.mp ht).2 with h | h
          · rw [hom.2] at h; rw [h] at ok; have := ok.hq2; simp at this
          · rw [hom.2] at h; exact h
        simp only [watchedDir, ok.hqpar, Bool.true_and, Bool.or_eq_true, beq_iff_eq]
        rcases isUnder_parent hu with h | h
        · exact Or.inl h
        · exact Or.inr h
      refine ⟨some wd, k.dropWatch old.ino, [⟨wd, .attrib, true, 0, none⟩, ⟨wd, .deleteSelf, false, 0, none⟩, ⟨wd, .ignored, false, 0, none⟩],
        ?_, ?_, rfl, Or.inr ⟨wd, rfl, by rw [← hold.1, hd], hwpq, h2, by simp [renameTail, hq, hd, hwq], rfl⟩⟩
      · have hv : renameVictim fs k q = (k.dropWatch old.ino,
            [⟨wd, .attrib, true, 0, none⟩, ⟨wd, .deleteSelf, false, 0, none⟩, ⟨wd, .ignored, false, 0, none⟩]) := by
          simp only [renameVictim, hq, hd, if_true, onSelf_some h1]; rfl
        rw [kernelOp_rename k ok.he, hv, onEntry_dropWatch_other hwf hq (ok.parent_p_ne_q hwf),
          onEntry_dropWatch_other hwf hq ok.parent_q_ne_q]
        rfl
      · have := inv.dropWatch_zombie hom.1 hw (hom.2 ▸ hwf')
        rw [hom.2] at this; exact this
    | false =>
      have hun := inv.unwatched hom.1 ht
      have hwq : (old.isDir && watchedDir fs true q) = false := by
        cases hd : old.isDir with
        | false => rfl
        | true =>
          cases hw : watchedDir fs true q with
          | false => rfl
          | true =>
            obtain ⟨x, hx, hxt⟩ := watchedDir_rec_iff.mp hw
            rw [hq] at hx; cases hx; rw [ht] at hxt; cases hxt
      refine ⟨none, k, [], ?_, ?_, rfl, Or.inl ⟨rfl, rfl, by simp [renameTail, hq, hwq]⟩⟩
      · rw [kernelOp_rename_quiet ok.he (renameVictim_unwatched fun o ho => by rw [hq] at ho; cases ho; exact hun), List.append_nil]
      · apply inv.fs_change hwf'
        intro x hx; rw [FS.mem_del]
        constructor
        · exact fun h => h.1
        · intro h; refine ⟨h, ?_⟩
          intro hp; have := hwf.path_inj h hom.1 (hp.trans hom.2.symm); subst this; rw [ht] at hx; cases hx

variable {cov : Ent → Prop} {z : Option Nat}

def Lib.remember (lib : Lib) (c : Nat) (src : P) : Lib := { lib with movedFrom := (c, src) :: lib.movedFrom }

theorem libRecord_from (fs : FS) (k : Kern) (lib : Lib) (wd : Nat) (d : Bool) (c : Nat) (n : String) (wp : P)
    (hw : lookupW lib.pathForWd wd = some wp) :
    libRecord fs k lib ⟨wd, .movedFrom, d, c, some n⟩ =
      some (k, lib.remember c (wp ++ [n]), [⟨wd, .movedFrom, d, c, some n, wp ++ [n]⟩]) := by
  simp [libRecord, hw, Lib.remember]

theorem InvOn.remember (inv : InvOn cov z fs k lib) (c : Nat) (src : P) (hc : c < k.nextCookie) :
    InvOn cov z fs k (lib.remember c src) :=
  { inv with
    cookies := by
      intro x hx
      simp only [Lib.remember, List.mem_cons] at hx
      rcases hx with rfl | hx
      · exact hc
      · exact inv.cookies x hx }

theorem find_cookie_fresh {l : List (Nat × P)} {c : Nat} (h : ∀ x ∈ l, x.1 < c) : l.find? (fun x => x.1 == c) = none := by
  rw [List.find?_eq_none]; intro x hx; have := h x hx; simp; omega

theorem libRecord_to_lone_file (fs : FS) (k : Kern) (lib : Lib) (wd : Nat) (c : Nat) (n : String) (wp : P)
    (hw : lookupW lib.pathForWd wd = some wp) (hfresh : ∀ x ∈ lib.movedFrom, x.1 < c) :
    libRecord fs k lib ⟨wd, .movedTo, false, c, some n⟩ = some (k, lib, [⟨wd, .movedTo, false, c, some n, wp ++ [n]⟩]) := by
  simp [libRecord, hw, find_cookie_fresh hfresh]

theorem libRecord_to_lone_dir (fs : FS) (k : Kern) (lib : Lib) (wd : Nat) (c : Nat) (n : String) (wp : P)
    (hw : lookupW lib.pathForWd wd = some wp) (hfresh : ∀ x ∈ lib.movedFrom, x.1 < c) (hrec : lib.recursive = true) :
    libRecord fs k lib ⟨wd, .movedTo, true, c, some n⟩ =
      some ((addTreeWatches fs k lib (wp ++ [n])).1, (addTreeWatches fs k lib (wp ++ [n])).2,
            [⟨wd, .movedTo, true, c, some n, wp ++ [n]⟩]) := by
  simp [libRecord, hw, find_cookie_fresh hfresh, hrec]

theorem libRecord_to_paired_file (fs : FS) (k : Kern) (lib : Lib) (wd : Nat) (c : Nat) (n : String) (wp ms : P)
    (hw : lookupW lib.pathForWd wd = some wp) (hkey : lookupP lib.wdForPath ms = none) :
    libRecord fs k (lib.remember c ms) ⟨wd, .movedTo, false, c, some n⟩ =
      some (k, lib.remember c ms, [⟨wd, .movedTo, false, c, some n, wp ++ [n]⟩]) := by
  simp [libRecord, Lib.remember, hw, hkey]

theorem isUnderW_append {a r : P} (ha : 2 ≤ a.length) : isUnder ["W"] (a ++ r) = isUnder ["W"] a := by
  match a, ha with
  | x :: y :: t, _ =>
    simp [isUnder]

theorem isUnderW_of_under {a x : P} (ha : 2 ≤ a.length) (h : isUnder a x = true) : isUnder ["W"] x = isUnder ["W"] a := by
  obtain ⟨r, _, rfl⟩ := isUnder_iff.mp h
  exact isUnderW_append ha

theorem isUnderW_iff_parent {fs : FS} {a : P} (ha : 2 ≤ a.length) (hpar : fs.isDir (parentOf a) = true) :
    isUnder ["W"] a = watchedDir fs true (parentOf a) := by
  have := inTreeDir_of_parent ha hpar 0
  have hne : a ≠ ["W"] := by intro h; subst h; simp at ha
  have e1 : (a == ["W"]) = false := by simp [hne]
  simp only [inTreeDir, Bool.true_and, e1, Bool.false_or] at this
  exact this

theorem RenameOK.moved_inTree (ok : RenameOK fs p q e) (hwf : fs.WF) {x : Ent} (hx : x.path = p ∨ isUnder p x.path = true) :
    inTreeDir x = (x.isDir && watchedDir fs true (parentOf p)) ∧
    inTreeDir (rwEnt p q x) = (x.isDir && watchedDir fs true (parentOf q)) := by
  have hem := FS.find?_some ok.he
  have hppar : fs.isDir (parentOf p) = true := by
    rcases hwf.parent hem.1 with h | h | h
    · rw [hem.2] at h; rw [h] at ok; have := ok.hp2; simp at this
    · rw [hem.2] at h; rw [h] at ok; have := ok.hp2; simp at this
    · rw [hem.2] at h; exact h.2
  have hp := isUnderW_iff_parent ok.hp2 hppar
  have hq := isUnderW_iff_parent ok.hq2 ok.hqpar
  have hlen : 2 ≤ x.path.length := by
    rcases hx with h | h
    · rw [h]; exact ok.hp2
    · have := isUnder_length h; have := ok.hp2; omega
  have hnW : x.path ≠ ["W"] := by intro h; rw [h] at hlen; simp at hlen
  have hxu : isUnder ["W"] x.path = isUnder ["W"] p := by
    rcases hx with h | h
    · rw [h]
    · exact isUnderW_of_under ok.hp2 h
  have hrlen : 2 ≤ (rwPath p q x.path).length := rwPath_length_two ok hlen
  have hrW : rwPath p q x.path ≠ ["W"] := by intro h; rw [h] at hrlen; simp at hrlen
  have hru : isUnder ["W"] (rwPath p q x.path) = isUnder ["W"] q := by
    rcases hx with h | h
    · rw [h, rwPath_at]
    · rw [rwPath_under h]; exact isUnderW_append ok.hq2
  have e1 : (x.path == ["W"]) = false := by simp [hnW]
  have e2 : (rwPath p q x.path == ["W"]) = false := by simp [hrW]
  constructor
  · simp [inTreeDir, e1, hxu, hp]
  · simp [inTreeDir, rwEnt, e2, hru, hq]

theorem rwEnt_fixed {x : Ent} (h1 : x.path ≠ p) (h2 : isUnder p x.path = false) : rwEnt p q x = x := by
  simp [rwEnt, rwPath_other h1 h2]

theorem find_renamed_fixed (hwf : fs.WF) (ok : RenameOK fs p q e) {x : Ent} (hx : x ∈ fs.ents)
    (h1 : x.path ≠ p) (h2 : isUnder p x.path = false) (h3 : x.path ≠ q) : (fs.renamed p q).find? x.path = some x :=
  (ok.wf hwf).find_mem (FS.mem_renamed.mpr ⟨x, hx, h3, (rwEnt_fixed h1 h2).symm⟩)

theorem FS.WF.file_no_desc (hwf : fs.WF) {f : Ent} (hf : fs.find? p = some f) (hfile : f.isDir = false) (hp : p ≠ []) :
    ∀ x ∈ fs.ents, isUnder p x.path = false := by
  intro x hx
  cases hu : isUnder p x.path with
  | false => rfl
  | true =>
    have := hwf.ancestor_dir _ x hx rfl p hp hu
    obtain ⟨d, hd, hdd⟩ := FS.isDir_iff.mp this
    rw [hf] at hd; cases hd; rw [hfile] at hdd; cases hdd

theorem RenameOK.static_dirs (ok : RenameOK fs p q e) (hwf : fs.WF)
    (hstatic : e.isDir = false ∨ (watchedDir fs true (parentOf p) = false ∧ watchedDir fs true (parentOf q) = false)) :
    ∀ y, inTreeDir y = true → (y ∈ (fs.renamed p q).ents ↔ y ∈ (fs.del q).ents) := by
  have hem := FS.find?_some ok.he
  have hmoved_not : ∀ x ∈ fs.ents, (x.path = p ∨ isUnder p x.path = true) → inTreeDir x = false ∧ inTreeDir (rwEnt p q x) = false := by
    intro x hx hm
    have := ok.moved_inTree hwf hm
    rcases hstatic with h | h
    · have hxe : x = e := by
        rcases hm with h1 | h1
        · exact hwf.path_inj hx hem.1 (h1.trans hem.2.symm)
        · have := hwf.file_no_desc ok.he h (ne_nil_of_two_le ok.hp2) x hx; rw [h1] at this; cases this
      subst hxe; simp [this.1, this.2, h]
    · simp [this.1, this.2, h.1, h.2]
  intro y hy
  rw [FS.mem_renamed, FS.mem_del]
  constructor
  · rintro ⟨x, hx, hxq, rfl⟩
    by_cases hm : x.path = p ∨ isUnder p x.path = true
    · rw [(hmoved_not x hx hm).2] at hy; cases hy
    · have h1 : x.path ≠ p := fun h => hm (Or.inl h)
      have h2 : isUnder p x.path = false := by
        cases h : isUnder p x.path with
        | false => rfl
        | true => exact absurd (Or.inr h) hm
      rw [rwEnt_fixed h1 h2]; exact ⟨hx, hxq⟩
  · rintro ⟨hx, hxq⟩
    refine ⟨y, hx, hxq, ?_⟩
    by_cases hm : y.path = p ∨ isUnder p y.path = true
    · rw [(hmoved_not y hx hm).1] at hy; cases hy
    · have h1 : y.path ≠ p := fun h => hm (Or.inl h)
      have h2 : isUnder p y.path = false := by
        cases h : isUnder p y.path with
        | false => rfl
        | true => exact absurd (Or.inr h) hm
      rw [rwEnt_fixed h1 h2]

/-- the records of a replaced directory of the tree, after the move itself has been dealt with -/
theorem rrep_phase (inv2 : InvOn (fun _ => True) z fs k lib) (rrep : List NRec) (tail : List PEv) (hq2 : 2 ≤ q.length)
    (hz : (z = none ∧ rrep = [] ∧ tail = []) ∨
      (∃ wd, z = some wd ∧ lookupW lib.pathForWd wd = some q ∧ tail = [mkEv .DirModifiedEvent q] ∧
        rrep = [⟨wd, .attrib, true, 0, none⟩, ⟨wd, .deleteSelf, false, 0, none⟩, ⟨wd, .ignored, false, 0, none⟩])) :
    ∃ lib' levs, libBatch fs k lib rrep = some (k, lib', levs) ∧ InvRec fs k lib' ∧
      (∀ l ∈ levs, l.flag ≠ .movedTo ∧ l.flag ≠ .movedFrom) ∧
      (∀ fsX full, emitAll fsX true full ((levs.filter (fun l => l.flag != .ignored)).map .one) = (tail, false)) := by
  rcases hz with ⟨rfl, rfl, rfl⟩ | ⟨wd, rfl, hzq, rfl, rfl⟩
  · exact ⟨lib, [], rfl, inv2, by simp, by intro _ _; rfl⟩
  · have hnW : q ≠ ["W"] := by intro h; subst h; simp at hq2
    refine ⟨lib.bury q wd, [⟨wd, .attrib, true, 0, none, q⟩, ⟨wd, .deleteSelf, false, 0, none, q⟩, ⟨wd, .ignored, false, 0, none, q⟩],
      ?_, inv2.bury hzq, ?_, ?_⟩
    · rw [libBatch_cons, libRecord_simple fs k lib ⟨wd, .attrib, true, 0, none⟩ q rfl hzq]
      simp only
      rw [libBatch_cons, libRecord_simple fs k lib ⟨wd, .deleteSelf, false, 0, none⟩ q rfl hzq]
      simp only
      rw [libBatch_cons, libRecord_ignored' fs k lib wd q false 0 hzq]
      rfl
    · intro l hl; simp at hl; rcases hl with rfl | rfl | rfl <;> simp
    · intro fsX full
      simp [emitAll_cons, emitAll_nil, emit, hnW, mkEv]

/-- putting a rename together: the two halves of the move, then the records of a replaced directory -/
theorem rename_assemble (s : Sys) (p q : P) (hs : s.stopped = false) (hc : s.crashed = false) (hq2 : 2 ≤ q.length)
    {fsR : FS} {kB kB' : Kern} {R12 rrep : List NRec} {L2 : Lib} {levs12 : List LEv} {z : Option Nat}
    {E12 tail : List PEv}
    (hk : kernelOp s.fs s.k (.rename p q) = (fsR, kB, R12 ++ rrep))
    (hl12 : libBatch fsR kB s.lib R12 = some (kB', L2, levs12))
    (inv2 : InvOn (fun _ => True) z fsR kB' L2)
    (hz : (z = none ∧ rrep = [] ∧ tail = []) ∨
      (∃ wd, z = some wd ∧ lookupW L2.pathForWd wd = some q ∧ tail = [mkEv .DirModifiedEvent q] ∧
        rrep = [⟨wd, .attrib, true, 0, none⟩, ⟨wd, .deleteSelf, false, 0, none⟩, ⟨wd, .ignored, false, 0, none⟩]))
    (hmo : movedOut (gsOf levs12) = [])
    (hem : emitAll fsR true s.full (gsOf levs12) = (E12, false))
    (hcon : contract s.fs true s.full (.rename p q) = (E12 ++ tail, false)) : StepRec s (.rename p q) := by
  obtain ⟨lib', levs3, hb3, inv3, hfl3, hem3⟩ := rrep_phase inv2 rrep tail hq2 hz
  have hl : libBatch fsR kB s.lib (R12 ++ rrep) = some (kB', lib', levs12 ++ levs3) := by
    rw [libBatch_append _ _ _ _ _ hl12, hb3]
  have hgs := gsOf_append_noTo levs12 levs3 (fun x hx => (hfl3 x hx).1)
  refine StepOK.toRec <| StepOK.of_quiet s _ hs hc hk hl inv3.isRec (fun _ => ?_) ?_ (fun _ => inv3)
  · rw [hgs, movedOut_append, hmo, movedOut_ones_nil]
    · rfl
    · intro l hl; exact (hfl3 l (List.mem_filter.mp hl).1).2
  · rw [hgs, emitAll_append _ _ _ _ _ (by rw [hem]), hem, hem3, hcon]

end WD.Pipe
