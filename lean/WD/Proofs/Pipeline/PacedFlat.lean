/- non-recursive watch: ANY sequence of bursts (each read as one batch) equals the drained run of all the operations -/
import WD.Proofs.Pipeline.BurstFlat
import WD.Proofs.Pipeline.BurstFiles
namespace WD.Pipe

/-- every burst consists of valid operations, none removing the watched root -/
def flatOK (s : Sys) : List (List Op) → Bool
  | [] => true
  | b :: rest => allValidNoRoot s b && flatOK (s.burst b).1 rest

theorem allValid_of_noRoot (ops : List Op) : ∀ s : Sys, allValidNoRoot s ops = true → allValid s ops = true ∧ Op.rmdir ["W"] ∉ ops := by
  induction ops with
  | nil => intro _ _; exact ⟨rfl, by simp⟩
  | cons o rest ih =>
    intro s h
    simp only [allValidNoRoot, Bool.and_eq_true, bne_iff_ne, ne_eq] at h
    obtain ⟨i1, i2⟩ := ih _ h.2
    refine ⟨by simp [allValid, h.1.1, i1], ?_⟩
    intro hm
    rcases List.mem_cons.mp hm with e | e
    · exact h.1.2 e.symm
    · exact i2 e

/-- under a non-recursive watch the batching is invisible: a paced history delivers, burst by burst, what the drained run of
    the concatenated operations delivers, and ends in the same state -/
theorem runBursts_flat (bs : List (List Op)) : ∀ (s : Sys), InvFlat s.fs s.k s.lib → s.stopped = false → s.crashed = false →
    flatOK s bs = true →
    (s.runBursts bs).1 = (s.run bs.flatten).1 ∧ (s.runBursts bs).2.flatten = (s.run bs.flatten).2.flatten ∧
    allValid s bs.flatten = true ∧ Op.rmdir ["W"] ∉ bs.flatten := by
  induction bs with
  | nil => intro s _ _ _ _; exact ⟨rfl, rfl, rfl, by simp⟩
  | cons b rest ih =>
    intro s inv hs hc hok
    simp only [flatOK, Bool.and_eq_true] at hok
    have hb := burst_flat s b inv hs hc hok.1
    obtain ⟨hv, hroot⟩ := allValid_of_noRoot b s hok.1
    obtain ⟨_, r2, r3⟩ := run_flat s b inv hs hc hv
    have hst : (s.run b).1.stopped = false := by
      cases h : (s.run b).1.stopped
      · rfl
      · exact absurd ((run_flat_all s b inv hs hc hv).2.2.1.1 h) hroot
    have hok2 := hok.2
    rw [hb] at hok2
    obtain ⟨i1, i2, i3, i4⟩ := ih (s.run b).1 (r3 hst) hst r2 hok2
    simp only [Sys.runBursts, hb, List.flatten_cons, run_append]
    refine ⟨i1, by simp [i2], ?_, ?_⟩
    · rw [allValid_append, hv]; simpa using i3
    · intro hm
      rcases List.mem_append.mp hm with e | e
      · exact hroot e
      · exact i4 e

end WD.Pipe
