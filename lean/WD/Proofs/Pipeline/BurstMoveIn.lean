/- "renamed again right after it arrived": a directory tree moved into the watched tree and renamed at once, both
   operations read as one batch (recursive watch) -/
import WD.Model.PipelineBurst
import WD.Proofs.Pipeline.RenameIn
import WD.Proofs.Pipeline.BurstMkRename
import WD.Proofs.Pipeline.Tree
namespace WD.Pipe

variable {fs : FS} {K : Kern} {L : Lib} {p q : P} {e : Ent}

/-- a directory tree that lay outside the watched tree lies at the free name `q` inside it now: watching `q` with what it
    holds restores the invariant (whatever the cookie counter and the remembered MOVED_FROMs are) -/
theorem movein_inv (inv : InvRec fs K L) (ok : RenameOK fs p q e) (hd : e.isDir = true) (hqf : fs.find? q = none)
    (hwp : watchedDir fs true (parentOf p) = false) (hwq : watchedDir fs true (parentOf q) = true) :
    InvRec (fs.renamed p q) (addTreeWatches (fs.renamed p q) K L q).1 (addTreeWatches (fs.renamed p q) K L q).2 ∧
    (addTreeWatches (fs.renamed p q) K L q).1.nextCookie = K.nextCookie ∧
    (addTreeWatches (fs.renamed p q) K L q).2.movedFrom = L.movedFrom := by
  have h := movein_cover (z := none) (by rw [FS.del_missing hqf]; exact inv) inv.wf ok hd hwp hwq
  exact ⟨h.1, h.2.2.1, h.2.2.2⟩

theorem fresh_not_above {fs : FS} (hwf : fs.WF) {a b : P} (hb : fs.find? b = none) (hbn : b ≠ [])
    (hapar : fs.isDir (parentOf a) = true) : isUnder b a = false := by
  cases h : isUnder b a with
  | false => rfl
  | true =>
    exfalso
    obtain ⟨x, hx, _⟩ := FS.isDir_iff.mp hapar
    obtain ⟨hxm, hxp⟩ := FS.find?_some hx
    rcases isUnder_parent h with h' | h'
    · rw [← h', hx] at hb; cases hb
    · have := hwf.ancestor_dir _ x hxm rfl b hbn (hxp ▸ h')
      obtain ⟨y, hy, _⟩ := FS.isDir_iff.mp this
      rw [hb] at hy; cases hy

theorem find_renamed_none {fs : FS} {o q1 c : P} (hc : fs.find? c = none) (hne : c ≠ q1) (hnu : isUnder q1 c = false) :
    (fs.renamed o q1).find? c = none := by
  rw [FS.find?_none]
  intro y hy hyp
  obtain ⟨x, hxf, _, rfl⟩ := FS.mem_renamed.mp hy
  simp only [rwEnt] at hyp
  rcases rwPath_cases o q1 x.path with ⟨_, e1⟩ | ⟨_, _, u1⟩ | ⟨_, _, e1⟩
  · rw [e1] at hyp; exact hne hyp.symm
  · rw [hyp, hnu] at u1; cases u1
  · rw [e1] at hyp; exact (FS.find?_none.mp hc) x hxf hyp

theorem gone_after_move {fs : FS} (hwf : fs.WF) {o q c : P} (hc : fs.find? c = none) (hcn : c ≠ []) (hne : c ≠ q)
    (h1 : isUnder c q = false) (h2 : isUnder q c = false) :
    (fs.renamed o q).find? c = none ∧ (fs.renamed o q).descendants c = [] := by
  refine ⟨find_renamed_none hc hne h2, ?_⟩
  unfold FS.descendants
  rw [List.filter_eq_nil_iff]
  intro y hy
  obtain ⟨x, hxf, _, rfl⟩ := FS.mem_renamed.mp hy
  simp only [rwEnt, Bool.not_eq_true]
  rcases rwPath_cases o q x.path with ⟨_, e1⟩ | ⟨hu, e1, hq⟩ | ⟨_, _, e1⟩
  · rw [e1]; exact h1
  · cases h : isUnder c (rwPath o q x.path) with
    | false => rfl
    | true =>
      -- `c` and `q` would both lie above the entry's new path
      rcases prefix_comparable h hq with h' | h' | h'
      · exact absurd h' hne
      · rw [h1] at h'; cases h'
      · rw [h2] at h'; cases h'
  · rw [e1]
    exact hwf.no_descendants_of_missing hcn (by simp [FS.exists, hc]) x hxf

theorem renamed_renamed {fs : FS} (hwf : fs.WF) {o q1 q2 : P} (hq1 : fs.find? q1 = none) (hq1n : q1 ≠ [])
    (hq2 : fs.find? q2 = none) (hne : q1 ≠ q2) (hnu : isUnder q1 q2 = false) :
    (fs.renamed o q1).renamed q1 q2 = fs.renamed o q2 := by
  have h2' : (fs.renamed o q1).find? q2 = none := find_renamed_none hq2 (Ne.symm hne) hnu
  unfold FS.renamed
  rw [show ({ fs with ents := (fs.del q1).ents.map (rwEnt o q1) } : FS).del q2 = { fs with ents := (fs.del q1).ents.map (rwEnt o q1) } from
    FS.del_missing h2', FS.del_missing hq1, FS.del_missing hq2]
  simp only [List.map_map]
  congr 1
  apply List.map_congr_left
  intro x hx
  simp only [Function.comp, rwEnt]
  congr 1
  rcases rwPath_cases o q1 x.path with ⟨h1, e1⟩ | ⟨hu, e1, _⟩ | ⟨h1, h2, e1⟩
  · rw [e1, rwPath_at, h1, rwPath_at]
  · obtain ⟨r, hr, hxr⟩ := isUnder_iff.mp hu
    rw [e1, hxr]
    simp only [List.drop_left']
    rw [rwPath_under (isUnder_append q1 hr), rwPath_under (isUnder_append o hr)]
    simp
  · rw [e1, rwPath_other h1 h2]
    exact rwPath_other ((FS.find?_none.mp hq1) x hx)
      (hwf.no_descendants_of_missing hq1n (by simp [FS.exists, hq1]) x hx)

/-- moved events whose sources the tree holds nothing of only add their destinations -/
theorem replay_arrivals (T : Tree) (a : P) (hT : ∀ x ∈ T, ∀ y ∈ T, x.1 = y.1 → x = y)
    (hTa : ∀ y ∈ T, y.1 ≠ a ∧ isUnder a y.1 = false) :
    ∀ (evs : List PEv) (t : Tree), (∀ y ∈ t, y ∈ T) →
    (∀ e ∈ evs, e.cls.eventType = "moved" ∧ (e.src = a ∨ isUnder a e.src = true) ∧ e.src ≠ [] ∧ e.dest ≠ [] ∧
      (e.dest, e.cls.isDirectory) ∈ T) →
    ∀ y, y ∈ replay t evs ↔ y ∈ t ∨ ∃ e ∈ evs, y = (e.dest, e.cls.isDirectory) := by
  intro evs
  induction evs with
  | nil => intro t _ _ y; simp [replay]
  | cons e rest ih =>
    intro t ht hev y
    obtain ⟨hc, hsrc, hsn, hdn, hin⟩ := hev e (List.mem_cons_self ..)
    have herase : eraseSub t e.src = t := by
      unfold eraseSub
      rw [List.filter_eq_self]
      intro x hx
      obtain ⟨h1, h2⟩ := hTa x (ht x hx)
      have n1 : x.1 ≠ e.src := by
        intro h; rcases hsrc with hs | hs
        · exact h1 (h.trans hs)
        · rw [← h, h2] at hs; cases hs
      have n2 : isUnder e.src x.1 = false := by
        cases hu : isUnder e.src x.1 with
        | false => rfl
        | true =>
          rcases hsrc with hs | hs
          · rw [hs, h2] at hu; cases hu
          · have := isUnder_trans hs hu; rw [h2] at this; cases this
      simp [n1, n2]
    have happ : applyEv t e = setEntry t e.dest e.cls.isDirectory := by
      obtain ⟨c, p, q, sy⟩ := e
      rw [applyEv_moved t c hc p q sy]
      simp only at hsn hdn herase
      simp [hsn, hdn, herase]
    have ht' : ∀ y ∈ setEntry t e.dest e.cls.isDirectory, y ∈ T := by
      intro y hy
      rcases mem_setEntry.mp hy with ⟨h, _⟩ | rfl
      · exact ht y h
      · exact hin
    rw [replay_cons, happ, ih _ ht' (fun x hx => hev x (List.mem_cons_of_mem _ hx)) y, mem_setEntry]
    constructor
    · rintro ((⟨h, _⟩ | h) | ⟨x, hx, h⟩)
      · exact Or.inl h
      · exact Or.inr ⟨e, List.mem_cons_self .., h⟩
      · exact Or.inr ⟨x, List.mem_cons_of_mem _ hx, h⟩
    · rintro (h | ⟨x, hx, h⟩)
      · by_cases hp : y.1 = e.dest
        · exact Or.inl (Or.inr (hT y (ht y h) _ hin hp))
        · exact Or.inl (Or.inl ⟨h, hp⟩)
      · rcases List.mem_cons.mp hx with rfl | hx
        · exact Or.inl (Or.inr h)
        · exact Or.inr ⟨x, hx, h⟩

/-- a directory tree that arrives at `b` and moves on to `c` within one batch: on a tree `t` that holds what the move
    did not touch, the events replay to the tree afterwards; the stay at `b` leaves no trace -/
theorem replay_passing_through {fs : FS} (hwf : fs.WF) {o b c : P} {e : Ent} (ok : RenameOK fs o c e) (hd : e.isDir = true)
    (hbn : b ≠ []) (hbf : fs.find? b = none) (hbpar : fs.isDir (parentOf b) = true) (hcf : fs.find? c = none)
    (hne : b ≠ c) (hnu : isUnder b c = false) (hwc : watchedDir fs true (parentOf c) = true)
    {t : Tree} (ht : ∀ y ∈ t, y ∈ treeW (fs.renamed o c))
    (hfix : ∀ x ∈ fs.ents, x.path ≠ o → isUnder o x.path = false → isUnder ["W"] x.path = true → (x.path, x.isDir) ∈ t) :
    sameTree (replay (setEntry (eraseSub (setEntry t b true) b) c true) (subMoved (fs.renamed o c) b c))
      (treeW (fs.renamed o c)) := by
  have hwfF := ok.wf hwf
  have hcn := ne_nil_of_two_le ok.hq2
  have hem := FS.find?_some ok.he
  have hWc := isUnderW_of_watched_parent hcn hwc
  obtain ⟨hFb, hFdb⟩ := gone_after_move (o := o) hwf hbf hbn hne hnu (fresh_not_above hwf hcf hcn hbpar)
  have hc : (c, true) ∈ treeW (fs.renamed o c) :=
    mem_treeW.mpr ⟨rwEnt o c e, (FS.find?_some (ok.find_renamed_dest hwf)).1, by simp [rwEnt, hem.2, rwPath_at],
      by simpa [rwEnt] using hd, hWc⟩
  have hcov : ∀ y ∈ treeW (fs.renamed o c), y ∈ t ∨ y = (c, true) ∨ isUnder c y.1 = true := by
    intro y hy
    obtain ⟨x, hxf, _, hp, hk, hW⟩ := (mem_treeW_renamed y).mp hy
    rcases rwPath_cases o c x.path with ⟨h1, e1⟩ | ⟨_, _, u1⟩ | ⟨h1, h2, e1⟩
    · -- the directory itself
      have hxe : x = e := hwf.path_inj hxf hem.1 (h1.trans hem.2.symm)
      exact Or.inr (Or.inl (Prod.ext (by rw [← hp, e1]) (by rw [← hk, hxe, hd])))
    · exact Or.inr (Or.inr (by rw [← hp]; exact u1))
    · -- an entry the move did not touch
      have hxy := e1.symm.trans hp
      have := hfix x hxf h1 h2 (hxy ▸ hW)
      rw [show (x.path, x.isDir) = y from Prod.ext hxy hk] at this
      exact Or.inl this
  have hT := treeW_path_inj hwfF
  have hTb : ∀ y ∈ treeW (fs.renamed o c), y.1 ≠ b ∧ isUnder b y.1 = false := by
    intro y hy
    obtain ⟨u, hu, hu1, _, _⟩ := mem_treeW.mp hy
    refine ⟨fun h => (FS.find?_none.mp hFb) u hu (hu1.trans h), ?_⟩
    cases hx : isUnder b y.1 with
    | false => rfl
    | true =>
      have : u ∈ (fs.renamed o c).descendants b := List.mem_filter.mpr ⟨hu, by rw [hu1]; exact hx⟩
      rw [hFdb] at this; cases this
  have hsame : sameTree (setEntry (eraseSub (setEntry t b true) b) c true) (setEntry t c true) := by
    apply sameTree_setEntry
    intro y
    rw [mem_eraseSub, mem_setEntry]
    constructor
    · rintro ⟨(⟨h, _⟩ | h), h2, _⟩
      · exact h
      · rw [h] at h2; exact absurd rfl h2
    · intro h
      obtain ⟨a1, a2⟩ := hTb y (ht y h)
      exact ⟨Or.inl ⟨h, a1⟩, a1, a2⟩
  refine sameTree_trans (sameTree_replay hsame _) ?_
  have hin : ∀ y ∈ setEntry t c true, y ∈ treeW (fs.renamed o c) := by
    intro y hy
    rcases mem_setEntry.mp hy with ⟨h, _⟩ | rfl
    · exact ht y h
    · exact hc
  have hevs : ∀ ev ∈ subMoved (fs.renamed o c) b c, ev.cls.eventType = "moved" ∧ (ev.src = b ∨ isUnder b ev.src = true) ∧
      ev.src ≠ [] ∧ ev.dest ≠ [] ∧ (ev.dest, ev.cls.isDirectory) ∈ treeW (fs.renamed o c) := by
    intro ev hev
    obtain ⟨d, hd', rfl⟩ := List.mem_map.mp hev
    obtain ⟨hdF, hdu⟩ := List.mem_filter.mp hd'
    have hsrc : isUnder b (b ++ d.path.drop c.length) = true := rewrite_under hdu
    refine ⟨by cases d.isDir <;> simp [mkEv, EvClass.eventType], Or.inr (by simpa [mkEv] using hsrc), ?_, ?_, ?_⟩
    · simp only [mkEv]; intro h; exact hbn (List.append_eq_nil_iff.mp h).1
    · simp only [mkEv]; intro h; rw [h] at hdu; have := isUnder_length hdu; simp at this
    · have : (d.path, d.isDir) ∈ treeW (fs.renamed o c) := mem_treeW.mpr ⟨d, hdF, rfl, rfl, isUnder_trans hWc hdu⟩
      cases hk : d.isDir <;> simpa [mkEv, EvClass.isDirectory, hk] using this
  intro y
  rw [replay_arrivals _ b hT hTb _ _ hin hevs y, mem_setEntry]
  constructor
  · rintro ((⟨h, _⟩ | h) | ⟨ev, hev, h⟩)
    · exact ht y h
    · rw [h]; exact hc
    · rw [h]; exact (hevs ev hev).2.2.2.2
  · intro hy
    rcases hcov y hy with h | h | h
    · by_cases hyc : y.1 = c
      · exact Or.inl (Or.inr (hT y hy _ hc hyc))
      · exact Or.inl (Or.inl ⟨h, hyc⟩)
    · exact Or.inl (Or.inr h)
    · -- a descendant: announced by a synthetic moved event
      obtain ⟨u, hu, hu1, hu2, _⟩ := mem_treeW.mp hy
      refine Or.inr ⟨_, List.mem_map.mpr ⟨u, List.mem_filter.mpr ⟨hu, by rw [hu1]; exact h⟩, rfl⟩, ?_⟩
      apply Prod.ext
      · exact hu1.symm
      · simp only [mkEv]
        cases hk : u.isDir <;> simp [EvClass.isDirectory] <;> rw [← hu2, hk]

theorem movein_rename_kernel (s : Sys) (o q1 q2 : P) (e : Ent) (inv : InvRec s.fs s.k s.lib)
    (ok1 : RenameOK s.fs o q1 e) (ok2 : RenameOK s.fs o q2 e) (hd : e.isDir = true) (hq1f : s.fs.find? q1 = none)
    (hq2f : s.fs.find? q2 = none) (hne12 : q1 ≠ q2) (hnu12 : isUnder q1 q2 = false)
    (hwo : watchedDir s.fs true (parentOf o) = false) (hw1 : watchedDir s.fs true (parentOf q1) = true)
    (hw2 : watchedDir s.fs true (parentOf q2) = true) :
    ∃ wd1 wd2, lookupW s.lib.pathForWd wd1 = some (parentOf q1) ∧ lookupW s.lib.pathForWd wd2 = some (parentOf q2) ∧
      kernelOps s.fs s.k [.rename o q1, .rename q1 q2] =
        (s.fs.renamed o q2, { s.k with nextCookie := s.k.nextCookie + 2 },
         [⟨wd1, .movedTo, true, s.k.nextCookie, some (baseName q1)⟩] ++
         [⟨wd1, .movedFrom, true, s.k.nextCookie + 1, some (baseName q1)⟩,
          ⟨wd2, .movedTo, true, s.k.nextCookie + 1, some (baseName q2)⟩]) := by
  have hwf := inv.wf
  have hq1n := ne_nil_of_two_le ok1.hq2
  obtain ⟨wd1, hB1, hr1⟩ := inv.parent_watched hw1
  obtain ⟨wd2, hB2, hr2⟩ := inv.parent_watched hw2
  refine ⟨wd1, wd2, hB1, hB2, kernelOps_pair (fs1 := s.fs.renamed o q1) (k1 := { s.k with nextCookie := s.k.nextCookie + 1 }) ?_ ?_⟩
  · rw [kernelOp_rename_free s.k ok1.he hq1f]
    simp [fromRecs, toRecs, inv.parent_unwatched hwo, hr1, hd]
  · -- the parents of the two free names are not inside what moved: the first move does not touch them
    have hp2 : parentOf q2 ≠ q1 := by
      intro h; have hh := ok2.hqpar; rw [h] at hh
      obtain ⟨x, hx, _⟩ := FS.isDir_iff.mp hh; rw [hq1f] at hx; cases hx
    have hf1 := (ok1.find_parent_fixed hwf hq1n ok1.hnu ok1.hqpar ok1.parent_q_ne_q).1
    have hf2 := (ok1.find_parent_fixed hwf (ne_nil_of_two_le ok2.hq2) ok2.hnu ok2.hqpar hp2).1
    rw [kernelOp_rename_free _ (ok1.find_renamed_dest hwf) (find_renamed_none hq2f (Ne.symm hne12) hnu12),
      renamed_renamed hwf hq1f hq1n hq2f hne12 hnu12]
    simp [fromRecs, toRecs, hf1, hf2, onEntry_bump, hr1, hr2, rwEnt, hd]

theorem addTreeWatches_nothing (fs : FS) (k : Kern) (lib : Lib) (p : P) (h1 : fs.find? p = none) (h2 : fs.descendants p = []) :
    addTreeWatches fs k lib p = (k, lib) := by
  rw [addTreeWatches_eq, h1, h2]; rfl

def moveinRenameEvents (F : FS) (full : Bool) (q1 q2 : P) : List PEv :=
  (if full then [mkEv .DirMovedEvent [] q1] else [mkEv .DirCreatedEvent q1]) ++ [dirMod q1] ++
    ([mkEv .DirMovedEvent q1 q2, dirMod q1, dirMod q2] ++ subMoved F q1 q2)

/-- **renamed again right after it arrived**: `rename o q1; rename q1 q2` read as one batch - `o` a directory tree outside
    the watched tree, `q1` and `q2` free names in directories of the tree.  The first MOVED_TO finds nothing at `q1` any
    more; the pair MOVED_FROM/MOVED_TO finds no watch to re-key and watches what arrived at `q2`, with what it holds -/
theorem burst_movein_rename_state (s : Sys) (o q1 q2 : P) (e : Ent) (inv : InvRec s.fs s.k s.lib) (hs : s.stopped = false)
    (hc : s.crashed = false) (ok1 : RenameOK s.fs o q1 e) (ok2 : RenameOK s.fs o q2 e) (hd : e.isDir = true)
    (hq1f : s.fs.find? q1 = none) (hq2f : s.fs.find? q2 = none) (hne12 : q1 ≠ q2) (hnu12 : isUnder q1 q2 = false)
    (hwo : watchedDir s.fs true (parentOf o) = false) (hw1 : watchedDir s.fs true (parentOf q1) = true)
    (hw2 : watchedDir s.fs true (parentOf q2) = true) :
    (s.burst [.rename o q1, .rename q1 q2]).2 = moveinRenameEvents (s.fs.renamed o q2) s.full q1 q2 ∧
    (s.burst [.rename o q1, .rename q1 q2]).1.fs = s.fs.renamed o q2 ∧
    (s.burst [.rename o q1, .rename q1 q2]).1.stopped = false ∧ (s.burst [.rename o q1, .rename q1 q2]).1.crashed = false ∧
    InvRec (s.burst [.rename o q1, .rename q1 q2]).1.fs (s.burst [.rename o q1, .rename q1 q2]).1.k
      (s.burst [.rename o q1, .rename q1 q2]).1.lib := by
  have hwf := inv.wf
  have hq1n := ne_nil_of_two_le ok1.hq2
  have hpb1 := snoc_parent_base hq1n
  have hpb2 := snoc_parent_base (ne_nil_of_two_le ok2.hq2)
  obtain ⟨wd1, wd2, hB1, hB2, hk⟩ := movein_rename_kernel s o q1 q2 e inv ok1 ok2 hd hq1f hq2f hne12 hnu12 hwo hw1 hw2
  obtain ⟨hF1, hFd1⟩ := gone_after_move (o := o) hwf hq1f hq1n hne12 hnu12
    (fresh_not_above hwf hq2f (ne_nil_of_two_le ok2.hq2) ok1.hqpar)
  have hkey := inv.no_key_of_missing hq1f
  have inv' : InvRec s.fs { s.k with nextCookie := s.k.nextCookie + 2 } (s.lib.remember (s.k.nextCookie + 1) q1) :=
    (inv.bump (s.k.nextCookie + 2) (by omega)).remember _ _ (by simp)
  obtain ⟨invF, _, _⟩ := movein_inv inv' ok2 hd hq2f hwo hw2
  -- the library side: nothing to watch at `q1`, no key to re-key for the pair
  have hl : libBatch (s.fs.renamed o q2) { s.k with nextCookie := s.k.nextCookie + 2 } s.lib
      ([⟨wd1, .movedTo, true, s.k.nextCookie, some (baseName q1)⟩] ++
       [⟨wd1, .movedFrom, true, s.k.nextCookie + 1, some (baseName q1)⟩,
        ⟨wd2, .movedTo, true, s.k.nextCookie + 1, some (baseName q2)⟩]) =
      some ((addTreeWatches (s.fs.renamed o q2) { s.k with nextCookie := s.k.nextCookie + 2 } (s.lib.remember (s.k.nextCookie + 1) q1) q2).1,
            (addTreeWatches (s.fs.renamed o q2) { s.k with nextCookie := s.k.nextCookie + 2 } (s.lib.remember (s.k.nextCookie + 1) q1) q2).2,
            [⟨wd1, .movedTo, true, s.k.nextCookie, some (baseName q1), q1⟩] ++
            [⟨wd1, .movedFrom, true, s.k.nextCookie + 1, some (baseName q1), q1⟩,
             ⟨wd2, .movedTo, true, s.k.nextCookie + 1, some (baseName q2), q2⟩]) := by
    rw [List.singleton_append, libBatch_cons, libRecord_to_lone_dir _ _ _ wd1 _ (baseName q1) (parentOf q1) hB1 inv.cookies inv.isRec,
      hpb1, addTreeWatches_nothing _ _ _ _ hF1 hFd1]
    simp only
    rw [libBatch_cons, libRecord_from _ _ _ _ _ _ _ _ hB1, hpb1]
    simp only
    rw [libBatch_cons, libRecord_to_paired_dir_nokey _ _ _ wd2 _ (baseName q2) (parentOf q2) q1 hB2 hkey inv.isRec, hpb2]
    simp [libBatch_nil]
  -- grouping: the first MOVED_TO alone (its cookie is unknown), then one pair; the emitter finds nothing below `q1`
  have hburst := Sys.burst_eq s _ hs hc hk hl invF.isRec (evs := moveinRenameEvents (s.fs.renamed o q2) s.full q1 q2)
    (by rw [gsOf_append_fresh, gsOf_one, gsOf_pair]; rfl; all_goals simp)
    (by simp [emitAll_cons, emitAll_nil, emit, subCreated, hFd1, dirMod, mkEv, moveinRenameEvents])
    (by simp [movedOut])
  rw [hburst]
  exact ⟨rfl, rfl, hs, hc, invF⟩

theorem burst_movein_rename_replay (s : Sys) (o q1 q2 : P) (e : Ent) (hwf : s.fs.WF)
    (ok1 : RenameOK s.fs o q1 e) (ok2 : RenameOK s.fs o q2 e) (hd : e.isDir = true)
    (hq1f : s.fs.find? q1 = none) (hq2f : s.fs.find? q2 = none) (hne12 : q1 ≠ q2) (hnu12 : isUnder q1 q2 = false)
    (hwo : watchedDir s.fs true (parentOf o) = false) (hw2 : watchedDir s.fs true (parentOf q2) = true) (full : Bool) :
    sameTree (replay (treeW s.fs) (moveinRenameEvents (s.fs.renamed o q2) full q1 q2)) (treeW (s.fs.renamed o q2)) := by
  have hq1n := ne_nil_of_two_le ok1.hq2
  have hsub : ∀ y ∈ treeW s.fs, y ∈ treeW (s.fs.renamed o q2) := by
    intro y hy
    obtain ⟨x, hx, h1, h2, h3⟩ := mem_treeW.mp hy
    have hnm : ¬ (x.path = o ∨ isUnder o x.path = true) := fun hm => by
      have := (ok2.moved_underW hwf hm).1; rw [h1, h3, hwo] at this; cases this
    refine (mem_treeW_renamed y).mpr ⟨x, hx, (FS.find?_none.mp hq2f) x hx, ?_, h2, h3⟩
    rw [rwPath_other (fun h => hnm (Or.inl h)) (Bool.eq_false_iff.mpr (fun h => hnm (Or.inr h))), h1]
  -- the first events: the name `q1` appears and disappears again
  have hfirst : replay (treeW s.fs) ((if full then [mkEv .DirMovedEvent [] q1] else [mkEv .DirCreatedEvent q1]) ++ [dirMod q1] ++
      [mkEv .DirMovedEvent q1 q2, dirMod q1, dirMod q2]) =
      setEntry (eraseSub (setEntry (treeW s.fs) q1 true) q1) q2 true := by
    cases full <;>
      simp [replay, applyEv, mkEv, dirMod, EvClass.eventType, EvClass.isDirectory, hq1n, ne_nil_of_two_le ok2.hq2]
  unfold moveinRenameEvents
  rw [← List.append_assoc, replay_append, hfirst]
  exact replay_passing_through hwf ok2 hd hq1n hq1f ok1.hqpar hq2f hne12 hnu12 hw2 hsub
    (fun x hx _ _ hW => mem_treeW.mpr ⟨x, hx, rfl, rfl, hW⟩)

end WD.Pipe
