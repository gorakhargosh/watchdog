/- the recursive watch: one drained operation (`step_rec`), then histories from the start of the watch, operation by
   operation, and what follows for whole histories -/
import WD.Proofs.Pipeline.RenameMove

namespace WD.Pipe

theorem step_rename (s : Sys) (p q : P) (inv : InvRec s.fs s.k s.lib) (hs : s.stopped = false)
    (hc : s.crashed = false) (hv : validOp s.fs (.rename p q) = true) : StepRec s (.rename p q) := by
  obtain ⟨e, ok⟩ := renameOK_of_valid hv
  cases hd : e.isDir with
  | false => exact step_rename_static s p q e inv hs hc ok (Or.inl hd)
  | true =>
    cases hwp : watchedDir s.fs true (parentOf p) <;> cases hwq : watchedDir s.fs true (parentOf q)
    · exact step_rename_static s p q e inv hs hc ok (Or.inr ⟨hwp, hwq⟩)
    · exact step_rename_in s p q e inv hs hc ok hd hwp hwq
    · exact step_rename_out s p q e inv hs hc ok hd hwp hwq
    · exact step_rename_move s p q e inv hs hc ok hd hwp hwq

theorem step_rec (s : Sys) (op : Op) (inv : InvRec s.fs s.k s.lib) (hs : s.stopped = false)
    (hc : s.crashed = false) (hv : validOp s.fs op = true) : StepRec s op := by
  cases op with
  | create p => exact step_create s p inv hs hc hv
  | write p => exact step_write s p inv hs hc hv
  | chmod p => exact step_chmod s p inv hs hc hv
  | unlink p => exact step_unlink s p inv hs hc hv
  | mkdir p => exact step_mkdir s p inv hs hc hv
  | rmdir p => exact step_rmdir s p inv hs hc hv
  | rmtree p => exact step_rmtree s p inv hs hc hv
  | rename p q => exact step_rename s p q inv hs hc hv
  | rmtreeOrd p order => exact step_rmtreeOrd s p order inv hs hc hv

theorem removeAll_fs (es : List Ent) (fs : FS) (k k' : Kern) : (removeAll fs k es).1 = (removeAll fs k' es).1 := by
  induction es generalizing fs k k' with
  | nil => rfl
  | cons e rest ih =>
    rw [removeAll_cons, removeAll_cons]
    simp only
    have h1 : (removeEntry fs k e).1 = (removeEntry fs k' e).1 := rfl
    rw [h1]; exact ih _ _ _

theorem kernelOp_fs (fs : FS) (k k' : Kern) (op : Op) : (kernelOp fs k op).1 = (kernelOp fs k' op).1 := by
  cases op with
  | create p => rfl
  | write p => rfl
  | chmod p => simp only [kernelOp]; cases fs.find? p <;> rfl
  | unlink p => simp only [kernelOp]; cases fs.find? p <;> rfl
  | mkdir p => rfl
  | rmdir p => simp only [kernelOp]; cases fs.find? p <;> rfl
  | rmtree p => simp only [kernelOp]; cases fs.find? p with
    | none => rfl
    | some e => exact removeAll_fs _ _ _ _
  | rmtreeOrd p order => simp only [kernelOp]; cases fs.find? p with
    | none => rfl
    | some e => exact removeAll_fs _ _ _ _
  | rename p q =>
    simp only [kernelOp]
    cases fs.find? p with
    | none => rfl
    | some e => cases fs.find? q <;> rfl

theorem Sys.op_frame (s : Sys) (op : Op) : (s.op op).1.fs = (kernelOp s.fs s.k op).1 ∧ (s.op op).1.full = s.full := by
  unfold Sys.op
  generalize kernelOp s.fs s.k op = r
  obtain ⟨fs1, k1, recs⟩ := r
  simp only
  split
  · exact ⟨rfl, rfl⟩
  · split
    · exact ⟨rfl, rfl⟩
    · split <;> exact ⟨rfl, rfl⟩

theorem Sys.op_fs (s : Sys) (op : Op) : (s.op op).1.fs = fsAfter s.fs op := by
  rw [(s.op_frame op).1, fsAfter, kernelOp_fs s.fs ⟨[], 1, 1⟩ s.k op]

theorem Sys.op_full (s : Sys) (op : Op) : (s.op op).1.full = s.full := (s.op_frame op).2

theorem Sys.op_stopped (s : Sys) (op : Op) (h : s.stopped = true) :
    (s.op op).2 = [] ∧ (s.op op).1.stopped = true ∧ (s.op op).1.crashed = s.crashed ∧ (s.op op).1.full = s.full := by
  unfold Sys.op
  generalize kernelOp s.fs s.k op = r
  obtain ⟨fs1, k1, recs⟩ := r
  simp [h]

/-- the contract of a whole history: operation by operation; nothing more once the emitter has stopped -/
def contractRun (fs : FS) (recursive full : Bool) : List Op → List (List PEv)
  | [] => []
  | op :: rest =>
    if (contract fs recursive full op).2 then (contract fs recursive full op).1 :: rest.map (fun _ => [])
    else (contract fs recursive full op).1 :: contractRun (fsAfter fs op) recursive full rest

theorem run_stopped (s : Sys) (ops : List Op) (h : s.stopped = true) :
    (s.run ops).2 = ops.map (fun _ => []) ∧ (s.run ops).1.crashed = s.crashed ∧ (s.run ops).1.stopped = true := by
  induction ops generalizing s with
  | nil => exact ⟨rfl, rfl, h⟩
  | cons op rest ih =>
    obtain ⟨h1, h2, h3, _⟩ := s.op_stopped op h
    obtain ⟨i1, i2, i3⟩ := ih (s.op op).1 h2
    simp only [Sys.run, List.map_cons]
    exact ⟨by rw [h1, i1], by rw [i2, h3], i3⟩

def fsRun (fs : FS) : List Op → FS
  | [] => fs
  | op :: rest => fsRun (fsAfter fs op) rest

theorem run_fs (s : Sys) (ops : List Op) : (s.run ops).1.fs = fsRun s.fs ops := by
  induction ops generalizing s with
  | nil => rfl
  | cons op rest ih => simp only [Sys.run, fsRun]; rw [ih, Sys.op_fs]

theorem contract_snd (fs : FS) (r f : Bool) (op : Op) :
    (contract fs r f op).2 = match op with | .rmdir p => p == ["W"] | _ => false := by
  cases op with
  | rmdir p => by_cases h : p = ["W"] <;> simp [contract, h]
  | chmod p => simp only [contract]; cases fs.find? p <;> rfl
  | rename p q =>
    simp only [contract]
    cases fs.find? p with
    | none => rfl
    | some e => simp only [apply_ite Prod.snd, ite_self]
  | _ => rfl

theorem contract_stop_iff (fs : FS) (r f : Bool) (op : Op) : (contract fs r f op).2 = true ↔ op = .rmdir ["W"] := by
  rw [contract_snd]
  cases op <;> simp

/-- one induction over a drained history for everything that is said about it - the events, no crash, when the
    emitter stops, the invariant - whatever the kind `r` of the watch and the invariant `I` its reader keeps; `step`
    is the statement about one operation -/
theorem run_of_step (r : Bool) (I : FS → Kern → Lib → Prop)
    (step : ∀ (s : Sys) (op : Op), I s.fs s.k s.lib → s.stopped = false → s.crashed = false → validOp s.fs op = true →
      StepOK r I s op)
    (s : Sys) (ops : List Op) (inv : I s.fs s.k s.lib) (hs : s.stopped = false) (hc : s.crashed = false)
    (hv : allValid s ops = true) :
    (s.run ops).2 = contractRun s.fs r s.full ops ∧ (s.run ops).1.crashed = false ∧
    ((s.run ops).1.stopped = true ↔ Op.rmdir ["W"] ∈ ops) ∧
    ((s.run ops).1.stopped = false → I (s.run ops).1.fs (s.run ops).1.k (s.run ops).1.lib) := by
  induction ops generalizing s with
  | nil => exact ⟨rfl, hc, by simp [Sys.run, hs], fun _ => inv⟩
  | cons op rest ih =>
    simp only [allValid, Bool.and_eq_true] at hv
    obtain ⟨hev, hstop, hnc, _, hinv⟩ := step s op inv hs hc hv.1
    simp only [Sys.run, contractRun, List.mem_cons]
    cases hst : (contract s.fs r s.full op).2 with
    | true =>
      rw [hst] at hstop
      obtain ⟨r1, r2, r3⟩ := run_stopped (s.op op).1 rest hstop
      simp only [if_true]
      exact ⟨by rw [hev, r1], by rw [r2, hnc],
        by rw [r3]; exact ⟨fun _ => Or.inl ((contract_stop_iff _ _ _ _).mp hst).symm, fun _ => rfl⟩,
        fun h => by rw [r3] at h; cases h⟩
    | false =>
      rw [hst] at hstop
      have hne : op ≠ .rmdir ["W"] := fun h => by rw [(contract_stop_iff s.fs r s.full op).mpr h] at hst; cases hst
      obtain ⟨i1, i2, i3, i4⟩ := ih (s.op op).1 (hinv hst) hstop hnc hv.2
      simp only [Bool.false_eq_true, if_false]
      exact ⟨by rw [hev, i1, s.op_full, Sys.op_fs], i2,
        i3.trans ⟨Or.inr, fun h => h.resolve_left fun h' => hne h'.symm⟩, i4⟩

theorem history_of_step (r : Bool) (I : FS → Kern → Lib → Prop)
    (step : ∀ (s : Sys) (op : Op), I s.fs s.k s.lib → s.stopped = false → s.crashed = false → validOp s.fs op = true →
      StepOK r I s op)
    (fs0 : FS) (full : Bool) (ops : List Op)
    (start : I (Sys.start fs0 r full).fs (Sys.start fs0 r full).k (Sys.start fs0 r full).lib ∧
      (Sys.start fs0 r full).stopped = false ∧ (Sys.start fs0 r full).crashed = false ∧
      (Sys.start fs0 r full).fs = fs0 ∧ (Sys.start fs0 r full).full = full)
    (hv : allValid (Sys.start fs0 r full) ops = true) :
    ((Sys.start fs0 r full).run ops).2 = contractRun fs0 r full ops ∧
    ((Sys.start fs0 r full).run ops).1.crashed = false ∧
    (((Sys.start fs0 r full).run ops).1.stopped = true ↔ Op.rmdir ["W"] ∈ ops) ∧
    (((Sys.start fs0 r full).run ops).1.stopped = false →
      I ((Sys.start fs0 r full).run ops).1.fs ((Sys.start fs0 r full).run ops).1.k ((Sys.start fs0 r full).run ops).1.lib) := by
  obtain ⟨inv, hs, hc, h4, h5⟩ := start
  have h := run_of_step r I step _ ops inv hs hc hv
  rwa [h4, h5] at h

theorem after_of_step (r : Bool) (I : FS → Kern → Lib → Prop)
    (step : ∀ (s : Sys) (op : Op), I s.fs s.k s.lib → s.stopped = false → s.crashed = false → validOp s.fs op = true →
      StepOK r I s op)
    (fs0 : FS) (full : Bool) (pre : List Op)
    (start : I (Sys.start fs0 r full).fs (Sys.start fs0 r full).k (Sys.start fs0 r full).lib ∧
      (Sys.start fs0 r full).stopped = false ∧ (Sys.start fs0 r full).crashed = false ∧
      (Sys.start fs0 r full).fs = fs0 ∧ (Sys.start fs0 r full).full = full)
    (hv : allValid (Sys.start fs0 r full) pre = true) (hroot : Op.rmdir ["W"] ∉ pre) :
    I ((Sys.start fs0 r full).run pre).1.fs ((Sys.start fs0 r full).run pre).1.k ((Sys.start fs0 r full).run pre).1.lib ∧
    ((Sys.start fs0 r full).run pre).1.stopped = false ∧ ((Sys.start fs0 r full).run pre).1.crashed = false := by
  obtain ⟨_, hcr, hst, hinv⟩ := history_of_step r I step fs0 full pre start hv
  have hst := Bool.eq_false_iff.mpr fun h => hroot (hst.1 h)
  exact ⟨hinv hst, hst, hcr⟩

theorem stepOK_rec (s : Sys) (op : Op) (inv : InvRec s.fs s.k s.lib) (hs : s.stopped = false) (hc : s.crashed = false)
    (hv : validOp s.fs op = true) : StepOK true InvRec s op := (step_rec s op inv hs hc hv).toOK

theorem run_rec_all (s : Sys) (ops : List Op) (inv : InvRec s.fs s.k s.lib) (hs : s.stopped = false) (hc : s.crashed = false)
    (hv : allValid s ops = true) :
    (s.run ops).2 = contractRun s.fs true s.full ops ∧ (s.run ops).1.crashed = false ∧
    ((s.run ops).1.stopped = true ↔ Op.rmdir ["W"] ∈ ops) ∧
    ((s.run ops).1.stopped = false → InvRec (s.run ops).1.fs (s.run ops).1.k (s.run ops).1.lib) :=
  run_of_step true InvRec stepOK_rec s ops inv hs hc hv

/-- REFINEMENT (recursive watch): from any state that satisfies the invariant, a history of valid operations
    delivers exactly the contract's events, never crashes the reader, and keeps the invariant while the
    emitter runs -/
theorem run_rec (s : Sys) (ops : List Op) (inv : InvRec s.fs s.k s.lib) (hs : s.stopped = false) (hc : s.crashed = false)
    (hv : allValid s ops = true) :
    (s.run ops).2 = contractRun s.fs true s.full ops ∧ (s.run ops).1.crashed = false ∧
    ((s.run ops).1.stopped = false → InvRec (s.run ops).1.fs (s.run ops).1.k (s.run ops).1.lib) :=
  have h := run_rec_all s ops inv hs hc hv
  ⟨h.1, h.2.1, h.2.2.2⟩

theorem start_rec (fs0 : FS) (hwf : fs0.WF) (full : Bool) :
    InvRec (Sys.start fs0 true full).fs (Sys.start fs0 true full).k (Sys.start fs0 true full).lib ∧
    (Sys.start fs0 true full).stopped = false ∧ (Sys.start fs0 true full).crashed = false ∧
    (Sys.start fs0 true full).fs = fs0 ∧ (Sys.start fs0 true full).full = full := by
  obtain ⟨r, hr, hrd⟩ := FS.isDir_iff.mp hwf.rootW
  have inv0 : InvOn (fun _ => False) none fs0 ⟨[], 1, 1⟩ ⟨[], [], [], true⟩ :=
    { wf := hwf, isRec := rfl, kwd := by simp, kino := by simp, klt := by simp, good := by simp,
      cover := fun _ _ _ h => h.elim, pfwDom := by simp [lookupW_nil], zlt := by simp, zdead := by simp,
      wfpInv := by simp [lookupP_nil], wfpNodup := by simp, pfwNodup := by simp, cookies := by simp }
  obtain ⟨i1, _⟩ := addTreeWatches_cover hwf inv0 hr hrd
    (fun d _ hdd hdp => ⟨inTreeDir_iff.mpr ⟨hdd, hdp⟩, by simp [Kern.wdOfIno]⟩)
  refine ⟨i1.mono ?_, rfl, rfl, rfl, rfl⟩
  intro y _ hty _
  exact Or.inr (inTreeDir_iff.mp hty).2

theorem run_full (s : Sys) (ops : List Op) : (s.run ops).1.full = s.full := by
  induction ops generalizing s with
  | nil => rfl
  | cons o rest ih => simp only [Sys.run]; rw [ih, Sys.op_full]

theorem allValid_append (s : Sys) (ops more : List Op) :
    allValid s (ops ++ more) = (allValid s ops && allValid (s.run ops).1 more) := by
  induction ops generalizing s with
  | nil => simp [allValid, Sys.run]
  | cons o rest ih => simp only [List.cons_append, allValid, Sys.run, ih, Bool.and_assoc]

variable {fs : FS}

theorem wf_after (hwf : fs.WF) (op : Op) (hv : validOp fs op = true) (hroot : op ≠ .rmdir ["W"]) : (fsAfter fs op).WF := by
  cases op with
  | create p =>
    obtain ⟨hp, hne, hpar⟩ := validOp_create hv
    exact hwf.add hp hne hpar false
  | mkdir p =>
    obtain ⟨hp, hne, hpar⟩ := validOp_mkdir hv
    exact hwf.add hp hne hpar true
  | write p => exact hwf
  | chmod p => rw [fsAfter_chmod]; exact hwf
  | unlink p =>
    obtain ⟨f, hf, hfile, hp2⟩ := hwf.file hv
    rw [fsAfter_unlink hf]; exact hwf.del hp2 (hwf.file_leaf hf hfile)
  | rmdir p =>
    obtain ⟨e, he, _, hp, hch⟩ := validOp_rmdir hv
    have hp2 : 2 ≤ p.length := hp.resolve_right fun h => hroot (h ▸ rfl)
    rw [fsAfter_rmdir he]; exact hwf.del hp2 (FS.dir_leaf hch)
  | rmtree p =>
    obtain ⟨e, ok⟩ := rmtreeOK_of_valid (order := canonOrder fs p) hv
    have := echain_wf _ _ ⟨[], 1, 1⟩ hwf (ok.chain hwf)
    rw [← ok.fs_after] at this; exact this
  | rmtreeOrd p order =>
    obtain ⟨e, ok⟩ := rmtreeOK_of_valid hv
    rw [ok.fs_after]; exact echain_wf _ _ _ hwf (ok.chain hwf)
  | rename p q =>
    obtain ⟨e, ok⟩ := renameOK_of_valid hv
    rw [fsAfter_rename ok]; exact ok.wf hwf

/-- validity of a history on the file system alone -/
def fsValid (fs : FS) : List Op → Bool
  | [] => true
  | op :: rest => validOp fs op && fsValid (fsAfter fs op) rest

theorem allValid_eq_fsValid (s : Sys) (ops : List Op) : allValid s ops = fsValid s.fs ops := by
  induction ops generalizing s with
  | nil => rfl
  | cons op rest ih => simp only [allValid, fsValid, ih, Sys.op_fs]

theorem run_keeps (s : Sys) (ops : List Op) (inv : InvRec s.fs s.k s.lib) (hs : s.stopped = false) (hc : s.crashed = false)
    (hv : allValid s ops = true) (hroot : Op.rmdir ["W"] ∉ ops) :
    InvRec (s.run ops).1.fs (s.run ops).1.k (s.run ops).1.lib ∧ (s.run ops).1.stopped = false ∧
    (s.run ops).1.crashed = false := by
  obtain ⟨_, hcr, hst, hinv⟩ := run_rec_all s ops inv hs hc hv
  have hst : (s.run ops).1.stopped = false := Bool.eq_false_iff.mpr fun h => hroot (hst.1 h)
  exact ⟨hinv hst, hst, hcr⟩

/-- everything that is said about a drained history of a recursive watch, from the start of the watch: the events
    are the contract's, the reader lives, the emitter stops exactly with the root, the invariant holds while it runs -/
theorem history_rec (fs0 : FS) (hwf : fs0.WF) (full : Bool) (ops : List Op)
    (hv : allValid (Sys.start fs0 true full) ops = true) :
    ((Sys.start fs0 true full).run ops).2 = contractRun fs0 true full ops ∧
    ((Sys.start fs0 true full).run ops).1.crashed = false ∧
    (((Sys.start fs0 true full).run ops).1.stopped = true ↔ Op.rmdir ["W"] ∈ ops) ∧
    (((Sys.start fs0 true full).run ops).1.stopped = false →
      InvRec ((Sys.start fs0 true full).run ops).1.fs ((Sys.start fs0 true full).run ops).1.k
        ((Sys.start fs0 true full).run ops).1.lib) :=
  history_of_step true InvRec stepOK_rec fs0 full ops (start_rec fs0 hwf full) hv

theorem after_history (fs0 : FS) (hwf : fs0.WF) (full : Bool) (pre : List Op)
    (hv : allValid (Sys.start fs0 true full) pre = true) (hroot : Op.rmdir ["W"] ∉ pre) :
    InvRec ((Sys.start fs0 true full).run pre).1.fs ((Sys.start fs0 true full).run pre).1.k ((Sys.start fs0 true full).run pre).1.lib ∧
    ((Sys.start fs0 true full).run pre).1.stopped = false ∧ ((Sys.start fs0 true full).run pre).1.crashed = false :=
  after_of_step true InvRec stepOK_rec fs0 full pre (start_rec fs0 hwf full) hv hroot

/-- C02's coverage, from the invariant -/
theorem covered_of_inv {fs : FS} {k : Kern} {lib : Lib} (inv : InvRec fs k lib) (s : Sys) (h1 : s.fs = fs) (h2 : s.k = k) (h3 : s.lib = lib) :
    Covered s := by
  intro e he hd hp
  subst h1; subst h2; subst h3
  have ht : inTreeDir e = true := by rw [inTreeDir_iff]; exact ⟨hd, hp⟩
  obtain ⟨wd, h1, _, h2, _⟩ := inv.watched he ht trivial
  exact ⟨wd, h1, h2⟩

end WD.Pipe
