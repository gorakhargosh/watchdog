/- the back-to-back regime: what a burst comes to once the kernel's queue and the reader's pass over it are known, and
   the facts about single operations that the burst theorems share -/
import WD.Model.PipelineBurst
import WD.Proofs.Pipeline.Departed
import WD.Proofs.Pipeline.Theorems
namespace WD.Pipe

variable {fs : FS} {k : Kern} {lib : Lib} {p q : P} {e : Ent}

theorem kernelOps_cons {fs1 fs2 : FS} {k1 k2 : Kern} {op : Op} {rest : List Op} {r1 r2 : List NRec}
    (h1 : kernelOp fs k op = (fs1, k1, r1)) (h2 : kernelOps fs1 k1 rest = (fs2, k2, r2)) :
    kernelOps fs k (op :: rest) = (fs2, k2, r1 ++ r2) := by
  simp only [kernelOps, h1, h2]

theorem kernelOps_pair {fs1 fs2 : FS} {k1 k2 : Kern} {a b : Op} {r1 r2 : List NRec}
    (h1 : kernelOp fs k a = (fs1, k1, r1)) (h2 : kernelOp fs1 k1 b = (fs2, k2, r2)) :
    kernelOps fs k [a, b] = (fs2, k2, r1 ++ r2) := by
  simp [kernelOps, h1, h2]

theorem Sys.burst_eq (s : Sys) (ops : List Op) (hs : s.stopped = false) (hc : s.crashed = false)
    {F : FS} {k1 k2 : Kern} {recs : List NRec} {lib2 : Lib} {levs : List LEv} {gs : List Grouped} {evs : List PEv}
    (hk : kernelOps s.fs s.k ops = (F, k1, recs))
    (hl : libBatch F k1 s.lib recs = some (k2, lib2, levs)) (hrec : lib2.recursive = true) (hgs : gsOf levs = gs)
    (hem : emitAll F true s.full gs = (evs, false)) (hmo : movedOut gs = []) :
    s.burst ops = ({ s with fs := F, k := k2, lib := lib2 }, evs) := by
  subst hgs
  unfold Sys.burst
  simp only [hk, hs, hc, Bool.or_self, Bool.false_eq_true, if_false, hl, hrec, hem, departed_nil _ hmo]
  simp [forgetAll_nil]

theorem kernelOp_rename_free (k : Kern) (he : fs.find? p = some e) (hq : fs.find? q = none) :
    kernelOp fs k (.rename p q) =
      (fs.renamed p q, { k with nextCookie := k.nextCookie + 1 }, fromRecs fs k p e.isDir ++ toRecs fs k q e.isDir) :=
  kernelOp_rename_quiet he (renameVictim_unwatched fun old ho => by rw [hq] at ho; cases ho)

theorem onEntry_bump (k : Kern) (c : Nat) (i : Option Nat) (f : Flag) (b : Bool) (ck : Nat) (n : String) :
    ({ k with nextCookie := c } : Kern).onEntry i f b ck n = k.onEntry i f b ck n := rfl

theorem InvOn.no_key_of_missing {cov : Ent → Prop} (inv : InvOn cov none fs k lib) (h : fs.find? p = none) :
    lookupP lib.wdForPath p = none := by
  cases hl : lookupP lib.wdForPath p with
  | none => rfl
  | some wd =>
    obtain ⟨e, he, hep, _⟩ := inv.key_dir hl
    exact absurd hep (FS.find?_none.mp h e he)

theorem watchedDir_of_isDir {fs' : FS} {d : P} (h : watchedDir fs true d = true) (h' : fs'.isDir d = true) :
    watchedDir fs' true d = true := by
  unfold watchedDir at h ⊢
  simp only [Bool.and_eq_true] at h ⊢
  exact ⟨h', h.2⟩

theorem parent_outside {a x : P} (hx : x ≠ []) (h : isUnder a x = false) : parentOf x ≠ a ∧ isUnder a (parentOf x) = false := by
  constructor
  · intro hp; rw [isUnder_of_parent hx (Or.inl hp)] at h; cases h
  · cases hu : isUnder a (parentOf x) with
    | false => rfl
    | true => rw [isUnder_of_parent hx (Or.inr hu)] at h; cases h

theorem RenameOK.find_parent_fixed (ok : RenameOK fs p q e) (hwf : fs.WF) {x : P} (hx : x ≠ []) (hxp : isUnder p x = false)
    (hpar : fs.isDir (parentOf x) = true) (hne : parentOf x ≠ q) :
    (fs.renamed p q).find? (parentOf x) = fs.find? (parentOf x) ∧ (fs.renamed p q).isDir (parentOf x) = true := by
  obtain ⟨d, hd, hdd⟩ := FS.isDir_iff.mp hpar
  obtain ⟨hdm, hdp⟩ := FS.find?_some hd
  obtain ⟨o1, o2⟩ := parent_outside hx hxp
  have := find_renamed_fixed hwf ok hdm (by rw [hdp]; exact o1) (by rw [hdp]; exact o2) (by rw [hdp]; exact hne)
  rw [hdp] at this
  exact ⟨by rw [this, hd], FS.isDir_iff.mpr ⟨d, this, hdd⟩⟩

end WD.Pipe
