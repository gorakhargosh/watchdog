/- adding and removing single watches; removal of one entry -/
import WD.Proofs.Pipeline.Step
namespace WD.Pipe

variable {fs : FS} {k : Kern} {lib : Lib} {cov : Ent → Prop} {z : Option Nat}

def Kern.withWatch (k : Kern) (ino : Nat) : Kern := { k with watches := k.watches ++ [(k.nextWd, ino)], nextWd := k.nextWd + 1 }
def Lib.withWatch (lib : Lib) (p : P) (wd : Nat) : Lib :=
  { lib with wdForPath := setP lib.wdForPath p wd, pathForWd := setW lib.pathForWd wd p }

theorem addWatch_new {e : Ent} (he : fs.find? e.path = some e) (hun : k.wdOfIno e.ino = none) :
    addWatch fs k lib e.path = some (k.withWatch e.ino, lib.withWatch e.path k.nextWd, k.nextWd) := by
  simp [addWatch, he, hun, Kern.withWatch, Lib.withWatch]

theorem wdOfIno_withWatch (k : Kern) (ino i : Nat) :
    (k.withWatch ino).wdOfIno i = (k.wdOfIno i).or (if ino = i then some k.nextWd else none) := by
  unfold Kern.wdOfIno Kern.withWatch
  simp only [List.find?_append, List.find?_cons, List.find?_nil]
  by_cases h : ino = i
  · subst h; cases List.find? (fun w => w.2 == ino) k.watches <;> simp
  · have hb : (ino == i) = false := by simp [h]
    cases List.find? (fun w => w.2 == i) k.watches <;> simp [h, hb]

theorem InvOn.addWatch (inv : InvOn cov z fs k lib) {e : Ent} (he : e ∈ fs.ents) (hd : inTreeDir e = true)
    (hun : k.wdOfIno e.ino = none) :
    InvOn (fun x => cov x ∨ x = e) z fs (k.withWatch e.ino) (lib.withWatch e.path k.nextWd) := by
  have hnot : ∀ w ∈ k.watches, w.2 ≠ e.ino := wdOfIno_none.mp hun
  have hwdlt : ∀ wd p, lookupW lib.pathForWd wd = some p → wd ≠ k.nextWd := by
    intro wd p h hh
    rcases inv.pfwDom wd p h with ⟨ino, hw⟩ | hz
    · have := inv.klt _ hw; simp at this; omega
    · have := inv.zlt wd hz; omega
  refine
    { wf := inv.wf, isRec := inv.isRec, kwd := ?_, kino := ?_, klt := ?_, good := ?_, cover := ?_, pfwDom := ?_,
      zlt := fun w hw => by have := inv.zlt w hw; simp [Kern.withWatch]; omega,
      zdead := by
        intro w hw hz
        simp only [Kern.withWatch, List.mem_append, List.mem_singleton] at hw
        rcases hw with hw | hw
        · exact inv.zdead w hw hz
        · subst hw; have := inv.zlt _ hz; simp at this,
      wfpInv := ?_, wfpNodup := nodup_setP inv.wfpNodup _ _, pfwNodup := nodup_setW inv.pfwNodup _ _, cookies := inv.cookies }
  · simp only [Kern.withWatch, List.map_append, List.map_cons, List.map_nil]
    refine List.nodup_append.mpr ⟨inv.kwd, by simp, ?_⟩
    intro a ha b hb; simp at hb; subst hb
    obtain ⟨w, hw, rfl⟩ := List.mem_map.mp ha
    have := inv.klt w hw; omega
  · simp only [Kern.withWatch, List.map_append, List.map_cons, List.map_nil]
    refine List.nodup_append.mpr ⟨inv.kino, by simp, ?_⟩
    intro a ha b hb; simp at hb; subst hb
    obtain ⟨w, hw, rfl⟩ := List.mem_map.mp ha
    exact hnot w hw
  · intro w hw
    simp only [Kern.withWatch, List.mem_append, List.mem_singleton] at hw ⊢
    rcases hw with hw | hw
    · have := inv.klt w hw; omega
    · subst hw; simp
  · intro w hw
    simp only [Kern.withWatch, List.mem_append, List.mem_singleton] at hw
    rcases hw with hw | hw
    · obtain ⟨e', he', h1, h2, h3, h4⟩ := inv.good w hw
      refine ⟨e', he', h1, h2, ?_, ?_⟩
      · simp only [Lib.withWatch, lookupW_setW]
        have := inv.klt w hw
        have hne : w.1 ≠ k.nextWd := by omega
        simp [hne, h3]
      · simp only [Lib.withWatch, lookupP_setP]
        have hne : e'.path ≠ e.path := by
          intro hp; have := inv.wf.path_inj he' he hp; subst this; exact hnot w hw h1.symm
        simp [hne, h4]
    · subst hw
      exact ⟨e, he, rfl, hd, by simp [Lib.withWatch, lookupW_setW], by simp [Lib.withWatch, lookupP_setP]⟩
  · intro e' he' hd' hc'
    rcases hc' with hc' | hc'
    · obtain ⟨wd, hw⟩ := inv.cover e' he' hd' hc'
      exact ⟨wd, by simp [Kern.withWatch, hw]⟩
    · subst hc'; exact ⟨k.nextWd, by simp [Kern.withWatch]⟩
  · intro wd p h
    simp only [Lib.withWatch, lookupW_setW] at h
    by_cases hwd : wd = k.nextWd
    · subst hwd; exact Or.inl ⟨e.ino, by simp [Kern.withWatch]⟩
    · simp only [hwd, if_false] at h
      rcases inv.pfwDom wd p h with ⟨ino, hw⟩ | hz
      · exact Or.inl ⟨ino, by simp [Kern.withWatch, hw]⟩
      · exact Or.inr hz
  · intro p wd h
    simp only [Lib.withWatch, lookupP_setP] at h
    simp only [Lib.withWatch, lookupW_setW]
    by_cases hp : p = e.path
    · simp only [hp, if_true, Option.some.injEq] at h; subst h; simp [hp]
    · simp only [hp, if_false] at h
      have h1 := inv.wfpInv p wd h
      simp [hwdlt wd p h1, h1]

theorem dropWatch_unwatched {k : Kern} {ino : Nat} (h : k.wdOfIno ino = none) : k.dropWatch ino = k := by
  have hn := wdOfIno_none.mp h
  unfold Kern.dropWatch
  have : k.watches.filter (fun w => w.2 != ino) = k.watches := by
    rw [List.filter_eq_self]; intro w hw; simp [hn w hw]
  rw [this]

def Lib.forget (lib : Lib) (p : P) (wd : Nat) : Lib :=
  { lib with wdForPath := lib.wdForPath.filter (fun x => x.1 != p), pathForWd := lib.pathForWd.filter (fun x => x.1 != wd) }

def Lib.bury (lib : Lib) (p : P) (wd : Nat) : Lib :=
  { lib with wdForPath := if lookupP lib.wdForPath p == some wd then lib.wdForPath.filter (fun x => x.1 != p) else lib.wdForPath,
             pathForWd := lib.pathForWd.filter (fun x => x.1 != wd) }

theorem libRecord_ignored' (fs : FS) (k : Kern) (lib : Lib) (wd : Nat) (p : P) (d : Bool) (c : Nat)
    (h1 : lookupW lib.pathForWd wd = some p) :
    libRecord fs k lib ⟨wd, .ignored, d, c, none⟩ = some (k, lib.bury p wd, [⟨wd, .ignored, d, c, none, p⟩]) := by
  simp [libRecord, h1, Lib.bury]

theorem Lib.bury_eq_forget {lib : Lib} {p : P} {wd : Nat} (h : lookupP lib.wdForPath p = some wd) :
    lib.bury p wd = lib.forget p wd := by
  simp [Lib.bury, Lib.forget, h]

theorem libRecord_ignored (fs : FS) (k : Kern) (lib : Lib) (wd : Nat) (p : P) (d : Bool) (c : Nat)
    (h1 : lookupW lib.pathForWd wd = some p) (h2 : lookupP lib.wdForPath p = some wd) :
    libRecord fs k lib ⟨wd, .ignored, d, c, none⟩ = some (k, lib.forget p wd, [⟨wd, .ignored, d, c, none, p⟩]) := by
  rw [libRecord_ignored' fs k lib wd p d c h1, Lib.bury_eq_forget h2]

theorem libBatch_gone (fs : FS) (k : Kern) (lib : Lib) (wd : Nat) (p : P)
    (h1 : lookupW lib.pathForWd wd = some p) (h2 : lookupP lib.wdForPath p = some wd) :
    libBatch fs k lib [⟨wd, .deleteSelf, false, 0, none⟩, ⟨wd, .ignored, false, 0, none⟩] =
      some (k, lib.forget p wd, [⟨wd, .deleteSelf, false, 0, none, p⟩, ⟨wd, .ignored, false, 0, none, p⟩]) := by
  rw [libBatch_cons, libRecord_simple fs k lib ⟨wd, .deleteSelf, false, 0, none⟩ p rfl h1]
  simp only [libBatch_cons, libRecord_ignored fs k lib wd p false 0 h1 h2, libBatch_nil]
  rfl

theorem wdOfIno_dropWatch (k : Kern) (i j : Nat) :
    (k.dropWatch i).wdOfIno j = if j = i then none else k.wdOfIno j := by
  unfold Kern.wdOfIno Kern.dropWatch
  simp only [List.find?_filter]
  by_cases h : j = i
  · subst h
    simp only [if_true, Option.map_eq_none_iff]
    rw [List.find?_eq_none]; intro x _; simp
  · simp only [h, if_false]
    congr 1; congr 1; funext x
    by_cases hx : x.2 = j
    · simp [hx, h]
    · simp [hx]

/-- the kernel has dropped the watch of a removed directory, the reader has not seen the IGNORED yet:
    the descriptor lingers in the maps -/
theorem InvOn.dropWatch_zombie (inv : InvOn cov none fs k lib) {e : Ent} (he : e ∈ fs.ents) {wd : Nat}
    (hw : (wd, e.ino) ∈ k.watches) (hwf : (fs.del e.path).WF) :
    InvOn cov (some wd) (fs.del e.path) (k.dropWatch e.ino) lib := by
  have hmem : ∀ w, w ∈ (k.dropWatch e.ino).watches ↔ w ∈ k.watches ∧ w.2 ≠ e.ino := by
    intro w; simp [Kern.dropWatch]
  refine
    { wf := hwf, isRec := inv.isRec, kwd := ?_, kino := ?_, klt := ?_, good := ?_, cover := ?_, pfwDom := ?_,
      zlt := ?_, zdead := ?_, wfpInv := inv.wfpInv, wfpNodup := inv.wfpNodup, pfwNodup := inv.pfwNodup,
      cookies := inv.cookies }
  · exact List.Nodup.sublist (List.Sublist.map _ List.filter_sublist) inv.kwd
  · exact List.Nodup.sublist (List.Sublist.map _ List.filter_sublist) inv.kino
  · intro w hw'; exact inv.klt w ((hmem w).mp hw').1
  · intro w hw'
    obtain ⟨hw1, hw2⟩ := (hmem w).mp hw'
    obtain ⟨e', he', h1, h2, h3, h4⟩ := inv.good w hw1
    have hne : e'.path ≠ e.path := by
      intro hp; have := inv.wf.path_inj he' he hp; subst this; exact hw2 h1.symm
    exact ⟨e', FS.mem_del.mpr ⟨he', hne⟩, h1, h2, h3, h4⟩
  · intro e' he' hd' hc'
    obtain ⟨he1, he2⟩ := FS.mem_del.mp he'
    obtain ⟨wd', hw'⟩ := inv.cover e' he1 hd' hc'
    refine ⟨wd', (hmem _).mpr ⟨hw', ?_⟩⟩
    intro hi; exact he2 (congrArg Ent.path (inv.wf.ino_inj he1 he hi))
  · intro wd' p h
    obtain ⟨ino, hw'⟩ := (inv.pfwDom wd' p h).resolve_right (by simp)
    by_cases hi : ino = e.ino
    · subst hi; right
      have := inj_of_nodup_map inv.kino hw' hw rfl
      have h2 : wd' = wd := by simpa using congrArg Prod.fst this
      rw [h2]
    · exact Or.inl ⟨ino, (hmem _).mpr ⟨hw', hi⟩⟩
  · intro w hz; cases hz; have := inv.klt _ hw; simp only [Kern.dropWatch]; simpa using this
  · intro w hw' hz
    obtain ⟨hw1, hw2⟩ := (hmem w).mp hw'
    simp only [Option.some.injEq] at hz
    have : w = (wd, e.ino) := inj_of_nodup_map inv.kwd hw1 hw (by simpa using hz.symm)
    rw [this] at hw2; exact hw2 rfl

/-- the reader sees the IGNORED of a lingering descriptor -/
theorem InvOn.bury {zw : Nat} (inv : InvOn cov (some zw) fs k lib) {pz : P} (hz : lookupW lib.pathForWd zw = some pz) :
    InvOn cov none fs k (lib.bury pz zw) := by
  have hlive : ∀ w ∈ k.watches, w.1 ≠ zw := by
    intro w hw hh; exact inv.zdead w hw (by rw [hh])
  refine
    { wf := inv.wf, isRec := inv.isRec, kwd := inv.kwd, kino := inv.kino, klt := inv.klt, good := ?_, cover := inv.cover,
      pfwDom := ?_, zlt := (fun _ h => nomatch h), zdead := (fun _ _ h => nomatch h), wfpInv := ?_, wfpNodup := ?_,
      pfwNodup := nodup_keys_filter inv.pfwNodup _, cookies := inv.cookies }
  · intro w hw
    obtain ⟨e', he', h1, h2, h3, h4⟩ := inv.good w hw
    refine ⟨e', he', h1, h2, ?_, ?_⟩
    · simp [Lib.bury, lookupW_filter_ne, hlive w hw, h3]
    · simp only [Lib.bury]
      split
      · rename_i hq
        have hq' : lookupP lib.wdForPath pz = some zw := by simpa using hq
        have : e'.path ≠ pz := by
          intro hh; rw [hh, hq'] at h4; exact hlive w hw (Option.some.inj h4).symm
        simp [lookupP_filter_ne, this, h4]
      · exact h4
  · intro wd p h
    simp only [Lib.bury, lookupW_filter_ne] at h
    by_cases hwd : wd = zw
    · simp [hwd] at h
    · simp only [hwd, if_false] at h
      rcases inv.pfwDom wd p h with h1 | h1
      · exact Or.inl h1
      · exact absurd (Option.some.inj h1).symm hwd
  · intro p wd h
    have hcases : lookupP lib.wdForPath p = some wd ∧ ¬ (p = pz ∧ lookupP lib.wdForPath pz = some zw) := by
      simp only [Lib.bury] at h
      split at h
      · rename_i hq
        have hq' : lookupP lib.wdForPath pz = some zw := by simpa using hq
        rw [lookupP_filter_ne] at h
        by_cases hp : p = pz
        · simp [hp] at h
        · simp only [hp, if_false] at h; exact ⟨h, fun hh => hp hh.1⟩
      · rename_i hq
        exact ⟨h, fun hh => hq (by simp [hh.2])⟩
    have h1 := inv.wfpInv p wd hcases.1
    have hwd : wd ≠ zw := by
      intro hh; subst hh
      rw [hz] at h1
      have hp : p = pz := (Option.some.inj h1).symm
      exact hcases.2 ⟨hp, hp ▸ hcases.1⟩
    simp [Lib.bury, lookupW_filter_ne, hwd, h1]
  · simp only [Lib.bury]
    split
    · exact nodup_keys_filter inv.wfpNodup _
    · exact inv.wfpNodup

theorem InvOn.dropWatch (inv : InvOn cov none fs k lib) {e : Ent} (he : e ∈ fs.ents) {wd : Nat}
    (hw : (wd, e.ino) ∈ k.watches) (hwf : (fs.del e.path).WF) :
    InvOn cov none (fs.del e.path) (k.dropWatch e.ino) (lib.forget e.path wd) := by
  obtain ⟨e0, he0, hi0, _, hp0, hq0⟩ := inv.good _ hw
  rw [inv.wf.ino_inj he0 he hi0] at hp0 hq0
  rw [← Lib.bury_eq_forget hq0]
  exact (inv.dropWatch_zombie he hw hwf).bury hp0

end WD.Pipe
