/- a directory leaves the watched tree: its watches are removed -/
import WD.Proofs.Pipeline.RenameStatic
namespace WD.Pipe

def forgetMany (lib : Lib) (ks : List (P × Nat)) : Lib := ks.foldl (fun l x => l.forget x.1 x.2) lib

theorem forgetMany_nil (lib : Lib) : forgetMany lib [] = lib := rfl
theorem forgetMany_cons (lib : Lib) (x : P × Nat) (ks : List (P × Nat)) :
    forgetMany lib (x :: ks) = forgetMany (lib.forget x.1 x.2) ks := rfl

theorem forgetMany_wfp (lib : Lib) (ks : List (P × Nat)) (y : P) :
    lookupP (forgetMany lib ks).wdForPath y = if y ∈ ks.map (·.1) then none else lookupP lib.wdForPath y := by
  induction ks generalizing lib with
  | nil => simp [forgetMany_nil]
  | cons x rest ih =>
    rw [forgetMany_cons, ih]
    simp only [Lib.forget, lookupP_filter_ne, List.map_cons, List.mem_cons]
    by_cases h1 : y ∈ rest.map (·.1)
    · simp [h1]
    · by_cases h2 : y = x.1 <;> simp [h1, h2]

theorem forgetMany_pfw (lib : Lib) (ks : List (P × Nat)) (w : Nat) :
    lookupW (forgetMany lib ks).pathForWd w = if w ∈ ks.map (·.2) then none else lookupW lib.pathForWd w := by
  induction ks generalizing lib with
  | nil => simp [forgetMany_nil]
  | cons x rest ih =>
    rw [forgetMany_cons, ih]
    simp only [Lib.forget, lookupW_filter_ne, List.map_cons, List.mem_cons]
    by_cases h1 : w ∈ rest.map (·.2)
    · simp [h1]
    · by_cases h2 : w = x.2 <;> simp [h1, h2]

theorem forgetMany_nodup (lib : Lib) (ks : List (P × Nat)) (h1 : (lib.wdForPath.map (·.1)).Nodup) (h2 : (lib.pathForWd.map (·.1)).Nodup) :
    ((forgetMany lib ks).wdForPath.map (·.1)).Nodup ∧ ((forgetMany lib ks).pathForWd.map (·.1)).Nodup :=
  foldl_inv (P := fun l : Lib => (l.wdForPath.map (·.1)).Nodup ∧ (l.pathForWd.map (·.1)).Nodup)
    (fun _ _ h => ⟨nodup_keys_filter h.1 _, nodup_keys_filter h.2 _⟩) ks lib ⟨h1, h2⟩

theorem forgetMany_other (lib : Lib) (ks : List (P × Nat)) :
    (forgetMany lib ks).recursive = lib.recursive ∧ (forgetMany lib ks).movedFrom = lib.movedFrom := by
  induction ks generalizing lib with
  | nil => exact ⟨rfl, rfl⟩
  | cons x rest ih => rw [forgetMany_cons]; exact ih _

theorem forgetMany_remember (lib : Lib) (c : Nat) (src : P) (ks : List (P × Nat)) :
    forgetMany (lib.remember c src) ks = (forgetMany lib ks).remember c src := by
  induction ks generalizing lib with
  | nil => rfl
  | cons x rest ih => exact ih (lib.forget x.1 x.2)

theorem libBatch_ignored_many (fs : FS) (k : Kern) (lib : Lib) (ks : List (P × Nat))
    (hk1 : (ks.map (·.1)).Nodup) (hk2 : (ks.map (·.2)).Nodup)
    (h : ∀ x ∈ ks, lookupW lib.pathForWd x.2 = some x.1 ∧ lookupP lib.wdForPath x.1 = some x.2) :
    ∃ levs, libBatch fs k lib (ks.map (fun x => ⟨x.2, .ignored, false, 0, none⟩)) = some (k, forgetMany lib ks, levs) ∧
      ∀ l ∈ levs, l.flag = .ignored := by
  induction ks generalizing lib with
  | nil => exact ⟨[], rfl, by simp⟩
  | cons x rest ih =>
    simp only [List.map_cons, List.nodup_cons] at hk1 hk2
    have hx := h x (List.mem_cons_self ..)
    have hrest : ∀ y ∈ rest, lookupW (lib.forget x.1 x.2).pathForWd y.2 = some y.1 ∧
        lookupP (lib.forget x.1 x.2).wdForPath y.1 = some y.2 := by
      intro y hy
      have hy' := h y (List.mem_cons_of_mem _ hy)
      have n1 : y.1 ≠ x.1 := fun hh => hk1.1 (hh ▸ List.mem_map.mpr ⟨y, hy, rfl⟩)
      have n2 : y.2 ≠ x.2 := fun hh => hk2.1 (hh ▸ List.mem_map.mpr ⟨y, hy, rfl⟩)
      simp [Lib.forget, lookupW_filter_ne, lookupP_filter_ne, n1, n2, hy']
    obtain ⟨levs, hb, hf⟩ := ih (lib.forget x.1 x.2) hk1.2 hk2.2 hrest
    refine ⟨⟨x.2, .ignored, false, 0, none, x.1⟩ :: levs, ?_, ?_⟩
    · simp only [List.map_cons]
      rw [libBatch_cons, libRecord_ignored fs k lib x.2 x.1 false 0 hx.1 hx.2]
      simp only [hb, forgetMany_cons, List.singleton_append]
    · intro l hl
      rcases List.mem_cons.mp hl with rfl | hl
      · rfl
      · exact hf l hl

theorem unwatch_fold (ks : List (P × Nat)) (k : Kern) (acc : List NRec)
    (hk2 : (ks.map (·.2)).Nodup) (hlive : ∀ x ∈ ks, ∃ ino, (x.2, ino) ∈ k.watches) :
    ks.foldl (fun (a : Kern × List NRec) x =>
      if a.1.watches.any (fun w => w.1 == x.2) then
        ({ a.1 with watches := a.1.watches.filter (fun w => w.1 != x.2) }, a.2 ++ [⟨x.2, .ignored, false, 0, none⟩])
      else a) (k, acc) =
    ({ k with watches := k.watches.filter (fun w => !(ks.map (·.2)).contains w.1) },
     acc ++ ks.map (fun x => ⟨x.2, .ignored, false, 0, none⟩)) := by
  induction ks generalizing k acc with
  | nil =>
    have : k.watches.filter (fun _ => true) = k.watches := by rw [List.filter_eq_self]; intro _ _; rfl
    simp only [List.foldl_nil, List.map_nil, List.append_nil, List.contains_nil, Bool.not_false, this]
  | cons x rest ih =>
    simp only [List.map_cons, List.nodup_cons] at hk2
    obtain ⟨ino, hino⟩ := hlive x (List.mem_cons_self ..)
    have hany : k.watches.any (fun w => w.1 == x.2) = true := by
      rw [List.any_eq_true]; exact ⟨_, hino, by simp⟩
    simp only [List.foldl_cons, hany, if_true]
    rw [ih _ _ hk2.2]
    · simp only [List.map_cons, List.filter_filter, List.append_assoc, List.singleton_append]
      congr 2
      apply List.filter_congr
      intro w _
      simp only [List.contains_cons, Bool.not_or, bne, Bool.and_comm]
    · intro y hy
      obtain ⟨i, hi⟩ := hlive y (List.mem_cons_of_mem _ hy)
      refine ⟨i, ?_⟩
      simp only [List.mem_filter, hi, true_and, bne_iff_ne, ne_eq]
      intro hh; exact hk2.1 (hh ▸ List.mem_map.mpr ⟨y, hy, rfl⟩)

variable {fs : FS} {k0 : Kern} {lib : Lib} {p q : P} {e : Ent}

def keysUnder (lib : Lib) (p : P) : List (P × Nat) := lib.wdForPath.filter (fun x => x.1 == p || isUnder p x.1)

theorem mem_keysUnder {x : P × Nat} : x ∈ keysUnder lib p ↔ x ∈ lib.wdForPath ∧ (x.1 = p ∨ isUnder p x.1 = true) := by
  simp [keysUnder]

theorem inv_after_out (inv0 : InvRec (fs.del q) k0 lib) (hwf : fs.WF) (ok : RenameOK fs p q e)
    (hwq : watchedDir fs true (parentOf q) = false) :
    InvRec (fs.renamed p q)
      { k0 with watches := k0.watches.filter (fun w => !((keysUnder lib p).map (·.2)).contains w.1) }
      (forgetMany lib (keysUnder lib p)) := by
  have hK : ∀ x ∈ keysUnder lib p, lookupP lib.wdForPath x.1 = some x.2 ∧ (x.1 = p ∨ isUnder p x.1 = true) := by
    intro x hx
    obtain ⟨h1, h2⟩ := mem_keysUnder.mp hx
    exact ⟨lookupP_of_mem inv0.wfpNodup h1, h2⟩
  have hKw : ∀ wd, wd ∈ (keysUnder lib p).map (·.2) → ∃ y, (y = p ∨ isUnder p y = true) ∧ lookupW lib.pathForWd wd = some y := by
    intro wd hwd
    obtain ⟨x, hx, rfl⟩ := List.mem_map.mp hwd
    exact ⟨x.1, (hK x hx).2, inv0.wfpInv _ _ (hK x hx).1⟩
  have hKp : ∀ y wd, lookupP lib.wdForPath y = some wd → (y = p ∨ isUnder p y = true) → wd ∈ (keysUnder lib p).map (·.2) := by
    intro y wd h hm
    exact List.mem_map.mpr ⟨(y, wd), mem_keysUnder.mpr ⟨lookupP_some_mem h, hm⟩, rfl⟩
  have hmemF : ∀ w, w ∈ (k0.watches.filter (fun w => !((keysUnder lib p).map (·.2)).contains w.1)) ↔
      w ∈ k0.watches ∧ w.1 ∉ (keysUnder lib p).map (·.2) := by
    intro w; simp only [List.mem_filter, Bool.not_eq_true', List.contains_eq_mem, decide_eq_false_iff_not]
  have hnd := forgetMany_nodup lib (keysUnder lib p) inv0.wfpNodup inv0.pfwNodup
  have hoth := forgetMany_other lib (keysUnder lib p)
  have hunmoved : ∀ x ∈ fs.ents, x.path ≠ q → ∀ wd, lookupP lib.wdForPath x.path = some wd →
      wd ∉ (keysUnder lib p).map (·.2) → x.path ≠ p ∧ isUnder p x.path = false := by
    intro x _ _ wd h hn
    constructor
    · intro hh; exact hn (hKp _ _ h (Or.inl hh))
    · cases hu : isUnder p x.path with
      | false => rfl
      | true => exact absurd (hKp _ _ h (Or.inr hu)) hn
  refine
    { wf := ok.wf hwf, isRec := by rw [hoth.1]; exact inv0.isRec, kwd := ?_, kino := ?_, klt := ?_, good := ?_, cover := ?_,
      pfwDom := ?_, zlt := (fun _ h => nomatch h), zdead := (fun _ _ h => nomatch h), wfpInv := ?_, wfpNodup := hnd.1, pfwNodup := hnd.2,
      cookies := by rw [hoth.2]; exact inv0.cookies }
  · exact List.Nodup.sublist (List.Sublist.map _ List.filter_sublist) inv0.kwd
  · exact List.Nodup.sublist (List.Sublist.map _ List.filter_sublist) inv0.kino
  · intro w hw; exact inv0.klt w ((hmemF w).mp hw).1
  · intro w hw
    obtain ⟨hw1, hw2⟩ := (hmemF w).mp hw
    obtain ⟨x, hx, h1, h2, h3, h4⟩ := inv0.good w hw1
    obtain ⟨hxf, hxq⟩ := FS.mem_del.mp hx
    obtain ⟨u1, u2⟩ := hunmoved x hxf hxq w.1 h4 hw2
    refine ⟨x, FS.mem_renamed.mpr ⟨x, hxf, hxq, (rwEnt_fixed u1 u2).symm⟩, h1, h2, ?_, ?_⟩
    · rw [forgetMany_pfw]; simp [hw2, h3]
    · rw [forgetMany_wfp]
      have : x.path ∉ (keysUnder lib p).map (·.1) := by
        intro hm
        obtain ⟨y, hy, hyx⟩ := List.mem_map.mp hm
        have := (hK y hy).2
        rw [hyx] at this
        rcases this with h | h
        · exact u1 h
        · rw [u2] at h; cases h
      simp [this, h4]
  · intro y hy hty _
    obtain ⟨x, hxf, hxq, rfl⟩ := FS.mem_renamed.mp hy
    by_cases hm : x.path = p ∨ isUnder p x.path = true
    · have := (ok.moved_inTree hwf hm).2
      rw [this, hwq] at hty; simp at hty
    · have u1 : x.path ≠ p := fun h => hm (Or.inl h)
      have u2 : isUnder p x.path = false := by
        cases h : isUnder p x.path with
        | false => rfl
        | true => exact absurd (Or.inr h) hm
      rw [rwEnt_fixed u1 u2] at hty ⊢
      obtain ⟨wd, hwd⟩ := inv0.cover x (FS.mem_del.mpr ⟨hxf, hxq⟩) hty trivial
      refine ⟨wd, (hmemF _).mpr ⟨hwd, ?_⟩⟩
      intro hin
      obtain ⟨y, hym, hyl⟩ := hKw wd hin
      obtain ⟨x', hx', h1, _, h3, _⟩ := inv0.good _ hwd
      have : x' = x := inv0.wf.ino_inj hx' (FS.mem_del.mpr ⟨hxf, hxq⟩) h1
      subst this
      simp only at h3
      rw [hyl] at h3
      have := Option.some.inj h3
      subst this
      exact hm hym
  · intro wd y h
    rw [forgetMany_pfw] at h
    by_cases hin : wd ∈ (keysUnder lib p).map (·.2)
    · simp [hin] at h
    · simp only [hin, if_false] at h
      obtain ⟨ino, hw⟩ := (inv0.pfwDom wd y h).resolve_right (by simp)
      exact Or.inl ⟨ino, (hmemF _).mpr ⟨hw, hin⟩⟩
  · intro y wd h
    rw [forgetMany_wfp] at h
    by_cases hin : y ∈ (keysUnder lib p).map (·.1)
    · simp [hin] at h
    · simp only [hin, if_false] at h
      have h1 := inv0.wfpInv y wd h
      have hwd : wd ∉ (keysUnder lib p).map (·.2) := by
        intro hh
        obtain ⟨y', hym, hyl⟩ := hKw wd hh
        rw [h1] at hyl
        have := Option.some.inj hyl; subst this
        exact hin (List.mem_map.mpr ⟨(y, wd), mem_keysUnder.mpr ⟨lookupP_some_mem h, hym⟩, rfl⟩)
      rw [forgetMany_pfw]; simp [hwd, h1]

theorem step_rename_out (s : Sys) (p q : P) (e : Ent) (inv : InvRec s.fs s.k s.lib) (hs : s.stopped = false)
    (hc : s.crashed = false) (ok : RenameOK s.fs p q e) (hd : e.isDir = true)
    (hwp : watchedDir s.fs true (parentOf p) = true) (hwq : watchedDir s.fs true (parentOf q) = false) :
    StepRec s (.rename p q) := by
  obtain ⟨z, k0, rrep, hk, inv0, hck, hz⟩ := rename_kernel inv ok
  obtain ⟨rfl, rfl, htail⟩ : z = none ∧ rrep = [] ∧ renameTail s.fs true q = [] := by
    rcases hz with h | ⟨wd, _, _, hwq', _⟩
    · exact h
    · rw [hwq] at hwq'; cases hwq'
  have hpb := snoc_parent_base (ne_nil_of_two_le ok.hp2)
  have hcon := contract_rename s.fs s.full p q e ok
  rw [htail] at hcon
  obtain ⟨wdp, hp1, hrp⟩ := inv.parent_watched hwp
  have hrq := inv.parent_unwatched (p := q) hwq
  simp only [List.append_nil, fromRecs, toRecs, hrp, hrq, hd] at hk
  let kB : Kern := { k0 with nextCookie := s.k.nextCookie + 1 }
  let L1 : Lib := s.lib.remember s.k.nextCookie p
  let K := keysUnder s.lib p
  have hl : libBatch (s.fs.renamed p q) kB s.lib [⟨wdp, .movedFrom, true, s.k.nextCookie, some (baseName p)⟩] =
      some (kB, L1, [⟨wdp, .movedFrom, true, s.k.nextCookie, some (baseName p), p⟩]) := by
    rw [libBatch_cons, libRecord_from _ _ _ _ _ _ _ _ hp1, hpb]; rfl
  have hKn : (K.map (·.1)).Nodup := nodup_keys_filter inv0.wfpNodup _
  have hKl : ∀ x ∈ K, lookupP s.lib.wdForPath x.1 = some x.2 := by
    intro x hx; exact lookupP_of_mem inv0.wfpNodup (mem_keysUnder.mp hx).1
  have hKw : (K.map (·.2)).Nodup := by
    apply nodup_map_of_inj_on _ (nodup_of_map_nodup _ hKn)
    intro a ha b hb hab
    have h1 := inv0.wfpInv _ _ (hKl a ha)
    have h2 := inv0.wfpInv _ _ (hKl b hb)
    rw [hab] at h1; rw [h1] at h2
    exact Prod.ext (Option.some.inj h2) hab
  have hlive : ∀ x ∈ K, ∃ ino, (x.2, ino) ∈ kB.watches := by
    intro x hx
    obtain ⟨y, _, _, _, hw⟩ := inv0.key_dir (hKl x hx)
    exact ⟨y.ino, hw⟩
  let kF : Kern := { kB with watches := kB.watches.filter (fun w => !(K.map (·.2)).contains w.1) }
  have hun : unwatchTree kB L1 p = (kF, K.map (fun x => ⟨x.2, .ignored, false, 0, none⟩)) := by
    have := unwatch_fold K kB [] hKw hlive
    rwa [List.nil_append] at this
  obtain ⟨levsI, hbI, _⟩ := libBatch_ignored_many (s.fs.renamed p q) kF L1 K hKn hKw
    (fun x hx => ⟨inv0.wfpInv _ _ (hKl x hx), hKl x hx⟩)
  refine StepOK.toRec <| StepOK.of_parts s _ hs hc hk hl inv.isRec (k3 := kF) (lib3 := forgetMany L1 K) ?_ ?_ (fun _ => ?_)
  · rw [if_pos rfl, gsOf_one _ (by simp)]
    simp only [movedOut, List.filterMap_cons, List.filterMap_nil, beq_self_eq_true, Bool.and_self, if_true, forgetAll, hun, hbI]
  · rw [gsOf_one _ (by simp), hcon]
    cases s.full <;> simp [emitAll_cons, emitAll_nil, emit, hwp, hwq, hd, dirMod, mkEv, movedCls, evDeleted]
  · rw [forgetMany_remember]
    exact ((inv_after_out inv0 inv.wf ok hwq).bump (s.k.nextCookie + 1) (by simp; omega)).remember _ _ (Nat.lt_succ_self _)

end WD.Pipe
