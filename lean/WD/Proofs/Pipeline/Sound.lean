/- C03: every event of the contract is justified by the operation that caused it -/
import WD.Proofs.Pipeline.ReplayRun
namespace WD.Pipe

/-- where the entry an event is about is now: the destination if the event has one, else the source -/
def newPath (e : PEv) : P := if e.dest = [] then e.src else e.dest

/-- what it means for one event of an operation to be justified: by the file system before (`pre`) and after
    (`post`) the operation, and — for synthetic events — by the other events of the same operation -/
structure Justified (pre post : FS) (evs : List PEv) (e : PEv) : Prop where
  created : e.cls.eventType = "created" → (e.src, e.cls.isDirectory) ∈ treeW post
  deleted : e.cls.eventType = "deleted" →
    ((e.src, e.cls.isDirectory) ∈ treeW pre ∨ (e.src = ["W"] ∧ e.cls.isDirectory = true ∧ pre.isDir ["W"] = true)) ∧
    (e.src, e.cls.isDirectory) ∉ treeW post
  movedSrc : e.cls.eventType = "moved" → e.src ≠ [] → (e.src, e.cls.isDirectory) ∈ treeW pre
  movedDst : e.cls.eventType = "moved" → e.dest ≠ [] → (e.dest, e.cls.isDirectory) ∈ treeW post
  /-- source and destination are the old and the new name of one and the same entry -/
  movedSame : e.cls.eventType = "moved" → e.src ≠ [] → e.dest ≠ [] →
    ∃ x ∈ pre.ents, x.path = e.src ∧ ∃ x' ∈ post.ents, x'.path = e.dest ∧ x'.ino = x.ino
  touched : (e.cls.eventType = "modified" ∨ e.cls.eventType = "opened" ∨ e.cls.eventType = "closed" ∨
      e.cls.eventType = "closed_no_write") →
    (e.src, e.cls.isDirectory) ∈ treeW pre ∨ (e.src, e.cls.isDirectory) ∈ treeW post ∨ (e.src = ["W"] ∧ e.cls.isDirectory = true)
  /-- synthetic only below a moved or newly arrived directory (its new path is the destination of its event if it
      has one, else the source), with the same relative path under the old name -/
  synthetic : e.syn = true → ∃ top ∈ evs, top.syn = false ∧ top.cls.isDirectory = true ∧
    isUnder (newPath top) (newPath e) = true ∧
    (e.dest ≠ [] → top.src ≠ [] → e.src = top.src ++ (newPath e).drop (newPath top).length)

/- An event has one type, so of the seven clauses at most four say anything about it: one way of justifying an
   event per type.  `d` stands for the event's kind so that callers need not compute `isDirectory`. -/
section
variable {pre post : FS} {evs : List PEv} {e : PEv} {d : Bool}

theorem Justified.ofCreated (ht : e.cls.eventType = "created") (hd : e.cls.isDirectory = d)
    (hin : (e.src, d) ∈ treeW post)
    (hsyn : e.syn = true → ∃ top ∈ evs, top.syn = false ∧ top.cls.isDirectory = true ∧
      isUnder (newPath top) (newPath e) = true ∧
      (e.dest ≠ [] → top.src ≠ [] → e.src = top.src ++ (newPath e).drop (newPath top).length)) :
    Justified pre post evs e := by
  subst hd
  refine ⟨fun _ => hin, ?_, ?_, ?_, ?_, ?_, hsyn⟩ <;> rw [ht] <;> intro h <;> simp at h

theorem Justified.ofDeleted (ht : e.cls.eventType = "deleted") (hd : e.cls.isDirectory = d) (hs : e.syn = false)
    (hin : (e.src, d) ∈ treeW pre ∨ (e.src = ["W"] ∧ d = true ∧ pre.isDir ["W"] = true))
    (hout : (e.src, d) ∉ treeW post) : Justified pre post evs e := by
  subst hd
  refine ⟨?_, fun _ => ⟨hin, hout⟩, ?_, ?_, ?_, ?_, fun h => by rw [hs] at h; cases h⟩ <;>
    rw [ht] <;> intro h <;> simp at h

theorem Justified.ofMoved (ht : e.cls.eventType = "moved") (hd : e.cls.isDirectory = d)
    (hsrc : e.src ≠ [] → (e.src, d) ∈ treeW pre) (hdst : e.dest ≠ [] → (e.dest, d) ∈ treeW post)
    (hsame : e.src ≠ [] → e.dest ≠ [] → ∃ x ∈ pre.ents, x.path = e.src ∧ ∃ x' ∈ post.ents, x'.path = e.dest ∧ x'.ino = x.ino)
    (hsyn : e.syn = true → ∃ top ∈ evs, top.syn = false ∧ top.cls.isDirectory = true ∧
      isUnder (newPath top) (newPath e) = true ∧
      (e.dest ≠ [] → top.src ≠ [] → e.src = top.src ++ (newPath e).drop (newPath top).length)) :
    Justified pre post evs e := by
  subst hd
  refine ⟨?_, ?_, fun _ => hsrc, fun _ => hdst, fun _ => hsame, ?_, hsyn⟩ <;> rw [ht] <;> intro h <;> simp at h

theorem Justified.ofTouched
    (ht : e.cls.eventType = "modified" ∨ e.cls.eventType = "opened" ∨ e.cls.eventType = "closed" ∨
      e.cls.eventType = "closed_no_write") (hd : e.cls.isDirectory = d) (hs : e.syn = false)
    (hin : (e.src, d) ∈ treeW pre ∨ (e.src, d) ∈ treeW post ∨ (e.src = ["W"] ∧ d = true)) :
    Justified pre post evs e := by
  subst hd
  refine ⟨?_, ?_, ?_, ?_, ?_, fun _ => hin, fun h => by rw [hs] at h; cases h⟩ <;>
    rcases ht with ht | ht | ht | ht <;> rw [ht] <;> intro h <;> simp at h

end

variable {fs : FS}

theorem treeW_of_find {p : P} {x : Ent} (h : fs.find? p = some x) (hu : isUnder ["W"] p = true) : (p, x.isDir) ∈ treeW fs := by
  have := FS.find?_some h
  exact mem_treeW.mpr ⟨x, this.1, this.2, rfl, hu⟩

theorem not_in_treeW_root (fs : FS) (d : Bool) : ((["W"] : P), d) ∉ treeW fs := by
  intro h
  obtain ⟨_, _, _, _, h3⟩ := mem_treeW.mp h
  simp only at h3; rw [isUnder_irrefl] at h3; cases h3

theorem dirMod_justified {pre post : FS} (evs : List PEv) (p : P) (hw : watchedDir pre true (parentOf p) = true) :
    Justified pre post evs (dirMod p) := by
  obtain ⟨d, hd, ht⟩ := watchedDir_rec_iff.mp hw
  obtain ⟨hdd, hdu⟩ := inTreeDir_iff.mp ht
  rw [(FS.find?_some hd).2] at hdu
  refine .ofTouched (d := true) (Or.inl rfl) rfl rfl (hdu.elim (fun h => Or.inr (Or.inr ⟨h, rfl⟩)) fun h => Or.inl ?_)
  exact hdd ▸ treeW_of_find hd h

theorem present_justified {pre post : FS} (evs : List PEv) (c : EvClass) (p : P)
    (hc : c.eventType = "created" ∨ c.eventType = "modified" ∨ c.eventType = "opened" ∨ c.eventType = "closed" ∨ c.eventType = "closed_no_write")
    (hin : (p, c.isDirectory) ∈ treeW post) : Justified pre post evs (mkEv c p) :=
  hc.elim (fun h => .ofCreated h rfl hin (fun h => nomatch h)) fun h => .ofTouched h rfl rfl (Or.inr (Or.inl hin))

theorem justified_evDeleted {pre post : FS} (evs : List PEv) (d : Bool) (p : P)
    (hw : watchedDir pre true (parentOf p) = true) (hin : (p, d) ∈ treeW pre) (hout : (p, d) ∉ treeW post) :
    ∀ e ∈ evDeleted d p, Justified pre post evs e := by
  intro e he
  simp only [evDeleted, List.mem_cons, List.not_mem_nil, or_false] at he
  rcases he with rfl | rfl
  · exact .ofDeleted (d := d) (by cases d <;> rfl) (by cases d <;> rfl) rfl (Or.inl hin) hout
  · exact dirMod_justified evs p hw

theorem mem_treeW_add {p : P} (hne : fs.exists p = false) (d : Bool) (hw : inWatch true p = true) : (p, d) ∈ treeW (fs.add p d) := by
  have := treeOf_add (r := true) (exists_false_iff.mp hne) d (p, d)
  rw [hw] at this
  exact this.mpr (mem_setEntry.mpr (Or.inr rfl))

theorem not_mem_treeW_del (p : P) (d : Bool) : (p, d) ∉ treeW (fs.del p) := by
  intro h; obtain ⟨z, hz, hzp, _⟩ := mem_treeW.mp h; exact (FS.mem_del.mp hz).2 hzp

theorem contract_sound_rmtreeOrd (hwf : fs.WF) (full : Bool) (p : P) (order : List P) (hv : validOp fs (.rmtreeOrd p order) = true) :
    ∀ e ∈ (contract fs true full (.rmtreeOrd p order)).1,
      Justified fs (fsAfter fs (.rmtreeOrd p order)) (contract fs true full (.rmtreeOrd p order)).1 e := by
  obtain ⟨x0, ok⟩ := rmtreeOK_of_valid hv
  intro e he
  rw [contract_rmtreeOrd true full ok.he] at he
  simp only [contractRemovals, List.mem_flatMap] at he
  obtain ⟨x, hx, hex⟩ := he
  split at hex
  · rename_i hw
    obtain ⟨hxm, hxp⟩ := (ok.mem_ents hwf).mp hx
    refine justified_evDeleted _ x.isDir x.path hw
      (mem_treeW.mpr ⟨x, hxm, rfl, rfl, isUnderW_of_watched_parent (hwf.path_ne_nil hxm) hw⟩) (fun h => ?_) e hex
    obtain ⟨z, hz, hzp, _⟩ := mem_treeW.mp h
    obtain ⟨_, h1, h2⟩ := (ok.mem_after hwf).mp hz
    rw [hzp] at h1 h2
    rcases hxp with h | h
    · exact h1 h
    · rw [h] at h2; cases h2
  · cases hex

theorem newPath_dest (c : EvClass) (a : P) {b : P} (s : Bool) (hb : b ≠ []) : newPath (mkEv c a b s) = b := if_neg hb
theorem newPath_src (c : EvClass) (a : P) (s : Bool) : newPath (mkEv c a [] s) = a := if_pos rfl

theorem contract_sound_rename (hwf : fs.WF) (full : Bool) (p q : P) (hv : validOp fs (.rename p q) = true) :
    ∀ ev ∈ (contract fs true full (.rename p q)).1,
      Justified fs (fsAfter fs (.rename p q)) (contract fs true full (.rename p q)).1 ev := by
  obtain ⟨e, ok⟩ := renameOK_of_valid hv
  have hem := FS.find?_some ok.he
  have hpn : p ≠ [] := ne_nil_of_two_le ok.hp2
  have hqn : q ≠ [] := ne_nil_of_two_le ok.hq2
  have hwp := inWatch_eq_watched true ok.hp2 (hwf.parent_dir ok.he ok.hp2)
  have hwq := inWatch_eq_watched true ok.hq2 ok.hqpar
  rw [fsAfter_rename ok]
  generalize hevs : (contract fs true full (.rename p q)).1 = evs
  have hpre : ∀ x ∈ fs.ents, (x.path = p ∨ isUnder p x.path = true) → watchedDir fs true (parentOf p) = true →
      (x.path, x.isDir) ∈ treeW fs := by
    intro x hx hm hw
    refine (mem_treeOf (r := true) (y := (x.path, x.isDir))).mpr ⟨x, hx, rfl, rfl, ?_⟩
    rcases hm with h | h
    · rw [h, hwp, hw]
    · rw [inWatch_below ok.hp2 h, hwp, hw]; rfl
  have hpost : ∀ x ∈ fs.ents, x.path ≠ q → (x.path = p ∨ isUnder p x.path = true) → watchedDir fs true (parentOf q) = true →
      (rwPath p q x.path, x.isDir) ∈ treeW (fs.renamed p q) := by
    intro x hx hxq hm hw
    refine (mem_treeOf_renamed (r := true) (rwPath p q x.path, x.isDir)).mpr ⟨x, hx, hxq, rfl, rfl, ?_⟩
    rcases hm with h | h
    · rw [h, rwPath_at, hwq, hw]
    · rw [rwPath_under h, inWatch_below ok.hq2 (rewrite_under h), hwq, hw]; rfl
  have hsame : ∀ x ∈ fs.ents, x.path ≠ q → ∃ a ∈ fs.ents, a.path = x.path ∧ ∃ a' ∈ (fs.renamed p q).ents,
      a'.path = rwPath p q x.path ∧ a'.ino = a.ino :=
    fun x hx hxq => ⟨x, hx, rfl, rwEnt p q x, FS.mem_renamed.mpr ⟨x, hx, hxq, rfl⟩, rfl, rfl⟩
  have hgone : ∀ d, (p, d) ∉ treeW (fs.renamed p q) := by
    intro d h
    obtain ⟨x, hx, hxq, h1, _, _⟩ := (mem_treeOf_renamed (r := true) _).mp h
    rcases rwPath_cases p q x.path with ⟨_, e1⟩ | ⟨_, _, u1⟩ | ⟨c1, _, e1⟩
    · rw [e1] at h1; exact ok.hne h1.symm
    · have := ok.q_free hwf e hem.1 (by rw [hem.2]; exact ok.hne)
      rw [hem.2, ← show rwPath p q x.path = p from h1, u1] at this; cases this
    · rw [e1] at h1; exact c1 h1
  have hmoved : ∀ a b : P, (a = p ∧ watchedDir fs true (parentOf p) = true ∨ a = []) →
      (b = q ∧ watchedDir fs true (parentOf q) = true ∨ b = []) →
      Justified fs (fs.renamed p q) evs (mkEv (movedCls e.isDir) a b) := by
    intro a b ha hb
    have he1 := hpre e hem.1 (Or.inl hem.2)
    have he2 := hpost e hem.1 (by rw [hem.2]; exact ok.hne) (Or.inl hem.2)
    have he3 := hsame e hem.1 (by rw [hem.2]; exact ok.hne)
    rw [hem.2] at he1 he2 he3; rw [rwPath_at] at he2 he3
    refine .ofMoved (movedCls_type _) (movedCls_isDir _) (fun h => ?_) (fun h => ?_) (fun h1 h2 => ?_) (fun h => nomatch h)
    · obtain ⟨rfl, hw⟩ := ha.resolve_right h; exact he1 hw
    · obtain ⟨rfl, hw⟩ := hb.resolve_right h; exact he2 hw
    · obtain ⟨rfl, _⟩ := ha.resolve_right h1; obtain ⟨rfl, _⟩ := hb.resolve_right h2; exact he3
  have htailJ : ∀ ev ∈ renameTail fs true q, Justified fs (fs.renamed p q) evs ev := by
    intro ev hev
    simp only [renameTail] at hev
    cases hq : fs.find? q with
    | none => rw [hq] at hev; cases hev
    | some old =>
      simp only [hq] at hev
      split at hev
      · rename_i hw
        simp only [Bool.and_eq_true] at hw
        rw [List.mem_singleton.mp hev]
        obtain ⟨d, hd, ht⟩ := watchedDir_rec_iff.mp hw.2
        rw [hq] at hd; cases hd
        have hu : isUnder ["W"] q = true := by
          refine (FS.find?_some hq).2 ▸ (inTreeDir_iff.mp ht).2.resolve_left fun h' => ?_
          rw [(FS.find?_some hq).2] at h'; rw [h'] at hqn; exact absurd ok.hq2 (by rw [h']; decide)
        exact .ofTouched (d := true) (Or.inl rfl) rfl rfl (Or.inl (hw.1 ▸ treeW_of_find hq hu))
      · cases hev
  have hsub : ∀ top ∈ evs, top.syn = false → top.cls.isDirectory = true → newPath top = q →
      watchedDir fs true (parentOf q) = true → ∀ d ∈ (fs.renamed p q).descendants q,
        (top.src = p → watchedDir fs true (parentOf p) = true →
          Justified fs (fs.renamed p q) evs (mkEv (movedCls d.isDir) (p ++ d.path.drop q.length) d.path true)) ∧
        Justified fs (fs.renamed p q) evs (mkEv (createdCls d.isDir) d.path [] true) := by
    intro top htop h1 h2 h3 hw d hd
    obtain ⟨x, hx, hxq, hxu, rfl⟩ := (ok.mem_descendants hwf).mp hd
    have hout := hpost x hx hxq (Or.inr hxu) hw
    have hne : rwPath p q x.path ≠ [] := by rw [rwPath_under hxu]; simp [hqn]
    have hrp : p ++ (rwPath p q x.path).drop q.length = x.path := by
      obtain ⟨r, _, hr⟩ := isUnder_iff.mp hxu
      rw [rwPath_under hxu, hr]; simp
    have hu : isUnder q (rwPath p q x.path) = true := by rw [rwPath_under hxu]; exact rewrite_under hxu
    simp only [rwEnt]
    constructor
    · intro h4 hw'
      refine .ofMoved (movedCls_type _) (movedCls_isDir _) (fun _ => ?_) (fun _ => hout) (fun _ _ => ?_)
        fun _ => ⟨top, htop, h1, h2, by rw [h3, newPath_dest _ _ _ hne]; exact hu, fun _ _ => ?_⟩
      · rw [show (mkEv (movedCls x.isDir) (p ++ (rwPath p q x.path).drop q.length) (rwPath p q x.path) true).src = x.path from hrp]
        exact hpre x hx (Or.inr hxu) hw'
      · rw [show (mkEv (movedCls x.isDir) (p ++ (rwPath p q x.path).drop q.length) (rwPath p q x.path) true).src = x.path from hrp]
        exact hsame x hx hxq
      · rw [h3, newPath_dest _ _ _ hne, h4]; rfl
    · exact .ofCreated (createdCls_type _) (createdCls_isDir _) hout
        fun _ => ⟨top, htop, h1, h2, by rw [h3, newPath_src]; exact hu, fun h => absurd rfl h⟩
  have hcon := congrArg Prod.fst (contract_rename_any true full ok)
  rw [hevs] at hcon
  cases hp' : watchedDir fs true (parentOf p) <;> cases hq' : watchedDir fs true (parentOf q) <;>
    simp only [hp', hq', Bool.and_self, Bool.and_false, Bool.and_true, if_true, if_false, Bool.false_eq_true] at hcon <;>
    refine fun ev hev => (?_ : ∀ ev ∈ _, Justified fs (fs.renamed p q) evs ev) ev (hcon ▸ hev)
  · exact fun _ h => nomatch h
  · -- arrives in the tree: a created (or moved) event, the parent, one synthetic created event per descendant
    have hout := hpost e hem.1 (by rw [hem.2]; exact ok.hne) (Or.inl hem.2) hq'
    rw [hem.2, rwPath_at] at hout
    simp only [List.forall_mem_append]
    refine ⟨⟨⟨?_, ?_⟩, ?_⟩, htailJ⟩
    · cases full <;> simp only [if_true, if_false, Bool.false_eq_true, List.forall_mem_singleton]
      · exact .ofCreated (createdCls_type _) (createdCls_isDir _) hout (fun h => nomatch h)
      · exact hmoved [] q (Or.inr rfl) (Or.inl ⟨rfl, hq'⟩)
    · exact List.forall_mem_singleton.mpr (dirMod_justified _ q hq')
    · split
      · rename_i hd
        have htop : ∃ top ∈ evs, top.syn = false ∧ top.cls.isDirectory = true ∧ newPath top = q := by
          rw [hcon, hd]
          cases full
          · exact ⟨_, List.mem_append_left _ (List.mem_append_left _ (List.mem_cons_self ..)), rfl, rfl, newPath_src _ _ _⟩
          · exact ⟨_, List.mem_append_left _ (List.mem_append_left _ (List.mem_cons_self ..)), rfl, rfl, newPath_dest _ _ _ hqn⟩
        obtain ⟨top, htop, t1, t2, t3⟩ := htop
        intro ev hev
        obtain ⟨d, hdD, rfl⟩ := List.mem_map.mp hev
        exact (hsub top htop t1 t2 t3 hq' d hdD).2
      · exact fun _ h => nomatch h
  · -- leaves the tree: a deleted (or moved) event and the parent
    refine List.forall_mem_append.mpr ⟨?_, htailJ⟩
    cases full <;> simp only [if_true, if_false, Bool.false_eq_true]
    · exact justified_evDeleted _ e.isDir p hp' (hem.2 ▸ hpre e hem.1 (Or.inl hem.2) hp') (hgone e.isDir)
    · exact List.forall_mem_cons.mpr ⟨hmoved p [] (Or.inl ⟨rfl, hp'⟩) (Or.inr rfl),
        List.forall_mem_singleton.mpr (dirMod_justified _ p hp')⟩
  · -- inside the tree: one moved event, both parents, one synthetic moved event per descendant
    simp only [List.forall_mem_append]
    refine ⟨⟨?_, ?_⟩, htailJ⟩
    · exact List.forall_mem_cons.mpr ⟨hmoved p q (Or.inl ⟨rfl, hp'⟩) (Or.inl ⟨rfl, hq'⟩),
        List.forall_mem_cons.mpr ⟨dirMod_justified _ p hp', List.forall_mem_singleton.mpr (dirMod_justified _ q hq')⟩⟩
    · split
      · rename_i hd
        have htop : mkEv (movedCls e.isDir) p q ∈ evs := by
          rw [hcon]; exact List.mem_append_left _ (List.mem_append_left _ (List.mem_cons_self ..))
        intro ev hev
        obtain ⟨d, hdD, rfl⟩ := List.mem_map.mp hev
        exact (hsub _ htop rfl (by rw [hd]; rfl) (newPath_dest _ _ _ hqn) hq' d hdD).1 rfl hp'
      · exact fun _ h => nomatch h

/-- C03: every event of the contract is justified by the operation that caused it -/
theorem contract_sound (hwf : fs.WF) (full : Bool) (op : Op) (hv : validOp fs op = true) :
    ∀ e ∈ (contract fs true full op).1, Justified fs (fsAfter fs op) (contract fs true full op).1 e := by
  cases op with
  | rename p q => exact contract_sound_rename hwf full p q hv
  | rmtree p => exact contract_sound_rmtreeOrd hwf full p (canonOrder fs p) hv
  | rmtreeOrd p o => exact contract_sound_rmtreeOrd hwf full p o hv
  | create p =>
    obtain ⟨hp, hne, hpar⟩ := validOp_create hv
    rw [contract_create]
    cases hw : watchedDir fs true (parentOf p)
    · exact fun _ h => nomatch h
    · have hin := mem_treeW_add hne false (inWatch_eq_watched true hp hpar ▸ hw)
      have hd := fun evs => dirMod_justified (post := fsAfter fs (.create p)) evs p hw
      simp only [↓reduceIte, List.forall_mem_cons]
      exact ⟨present_justified _ .FileCreatedEvent p (Or.inl rfl) hin, hd _,
        present_justified _ .FileOpenedEvent p (Or.inr (Or.inr (Or.inl rfl))) hin,
        present_justified _ .FileClosedEvent p (Or.inr (Or.inr (Or.inr (Or.inl rfl)))) hin, hd _, fun _ h => nomatch h⟩
  | mkdir p =>
    obtain ⟨hp, hne, hpar⟩ := validOp_mkdir hv
    rw [contract_mkdir]
    cases hw : watchedDir fs true (parentOf p)
    · exact fun _ h => nomatch h
    · exact List.forall_mem_cons.mpr ⟨present_justified _ .DirCreatedEvent p (Or.inl rfl)
          (mem_treeW_add hne true (inWatch_eq_watched true hp hpar ▸ hw)),
        List.forall_mem_singleton.mpr (dirMod_justified _ p hw)⟩
  | write p =>
    obtain ⟨f, hf, hfile, hp2⟩ := hwf.file hv
    rw [contract_write]
    cases hw : watchedDir fs true (parentOf p)
    · exact fun _ h => nomatch h
    · have hin : (p, false) ∈ treeW (fsAfter fs (.write p)) :=
        hfile ▸ treeW_of_find hf (isUnderW_of_watched_parent (ne_nil_of_two_le hp2) hw)
      simp only [↓reduceIte, List.forall_mem_cons]
      exact ⟨present_justified _ .FileOpenedEvent p (Or.inr (Or.inr (Or.inl rfl))) hin,
        present_justified _ .FileModifiedEvent p (Or.inr (Or.inl rfl)) hin,
        present_justified _ .FileClosedEvent p (Or.inr (Or.inr (Or.inr (Or.inl rfl)))) hin,
        dirMod_justified _ p hw, fun _ h => nomatch h⟩
  | chmod p =>
    obtain ⟨hp2, x, hx⟩ := validOp_chmod hv
    rw [contract_chmod true full hx, fsAfter_chmod]
    have hmod : ∀ evs, isUnder ["W"] p = true → ∀ c : EvClass, c.eventType = "modified" → c.isDirectory = x.isDir →
        Justified fs fs evs (mkEv c p) := fun _ hu c ht hd =>
      .ofTouched (Or.inl ht) hd rfl (Or.inl (treeW_of_find hx hu))
    refine List.forall_mem_append.mpr ⟨?_, ?_⟩ <;> split
    · rename_i hw
      simp only [Bool.and_eq_true] at hw
      obtain ⟨d, hd, ht⟩ := watchedDir_rec_iff.mp hw.2
      rw [hx] at hd; cases hd
      refine List.forall_mem_singleton.mpr (hmod _ ?_ _ rfl hw.1.symm)
      refine (FS.find?_some hx).2 ▸ (inTreeDir_iff.mp ht).2.resolve_left fun h' => ?_
      exact ne_top_of_two_le hp2 "W" ((FS.find?_some hx).2 ▸ h')
    · exact fun _ h => nomatch h
    · rename_i hw
      exact List.forall_mem_singleton.mpr (hmod _ (isUnderW_of_watched_parent (ne_nil_of_two_le hp2) hw) _
        (by cases x.isDir <;> rfl) (by cases x.isDir <;> rfl))
    · exact fun _ h => nomatch h
  | unlink p =>
    obtain ⟨f, hf, hfile, hp2⟩ := hwf.file hv
    rw [contract_unlink, fsAfter_unlink hf]
    split
    · rename_i hw
      simp only [Bool.and_eq_true] at hw
      exact justified_evDeleted _ false p hw.1
        (hfile ▸ treeW_of_find hf (isUnderW_of_watched_parent (ne_nil_of_two_le hp2) hw.1)) (not_mem_treeW_del p false)
    · exact fun _ h => nomatch h
  | rmdir p =>
    obtain ⟨x, hx, hd, _, _⟩ := validOp_rmdir hv
    have hxm := FS.find?_some hx
    rw [contract_rmdir, fsAfter_rmdir hx]
    split
    · rename_i hW
      rw [beq_iff_eq.mp hW]
      exact List.forall_mem_singleton.mpr
        (.ofDeleted (d := true) rfl rfl rfl (Or.inr ⟨rfl, rfl, hwf.rootW⟩) (not_mem_treeW_del _ true))
    · split
      · rename_i hw
        simp only [Bool.and_eq_true] at hw
        exact justified_evDeleted _ true p hw.1
          (hd ▸ treeW_of_find hx (isUnderW_of_watched_parent (hxm.2 ▸ hwf.path_ne_nil hxm.1) hw.1)) (not_mem_treeW_del p true)
      · exact fun _ h => nomatch h

end WD.Pipe
