/- a directory of the tree is renamed inside the tree: the two watch maps are re-keyed -/
import WD.Proofs.Pipeline.RenameIn
import WD.Proofs.Pipeline.AddId
import WD.Proofs.Pipeline.RenameOut

namespace WD.Pipe

def nk (ms src : P) (x : P × Nat) : P := src ++ x.1.drop ms.length

def rekeyP (ms src : P) (sub : List (P × Nat)) (wfp : List (P × Nat)) : List (P × Nat) :=
  sub.foldl (fun acc x => setP (acc.filter (fun y => y.1 != x.1)) (src ++ x.1.drop ms.length) x.2) wfp
def rekeyW (ms src : P) (sub : List (P × Nat)) (pfw : List (Nat × P)) : List (Nat × P) :=
  sub.foldl (fun acc x => setW acc x.2 (src ++ x.1.drop ms.length)) pfw

def rekeyLib (lib : Lib) (ms src : P) (mw : Nat) : Lib :=
  let wfpA := setP (lib.wdForPath.filter (fun x => x.1 != ms)) src mw
  let pfwA := setW lib.pathForWd mw src
  let sub := wfpA.filter (fun x => isUnder ms x.1)
  { lib with wdForPath := rekeyP ms src sub wfpA, pathForWd := rekeyW ms src sub pfwA }

theorem libRecord_to_paired_dir (fs : FS) (k : Kern) (lib : Lib) (wd : Nat) (d : Bool) (c : Nat) (n : String) (wp ms : P) (mw : Nat)
    (hw : lookupW lib.pathForWd wd = some wp) (hkey : lookupP lib.wdForPath ms = some mw) (hrec : lib.recursive = true)
    (hid : d = true → addTreeWatches fs k (rekeyLib (lib.remember c ms) ms (wp ++ [n]) mw) (wp ++ [n]) =
      (k, rekeyLib (lib.remember c ms) ms (wp ++ [n]) mw)) :
    libRecord fs k (lib.remember c ms) ⟨wd, .movedTo, d, c, some n⟩ =
      some (k, rekeyLib (lib.remember c ms) ms (wp ++ [n]) mw, [⟨wd, .movedTo, d, c, some n, wp ++ [n]⟩]) := by
  cases d with
  | false => simp [libRecord, Lib.remember, hw, hkey, hrec, rekeyLib, rekeyP, rekeyW]
  | true =>
    have h := hid rfl
    have e : libRecord fs k (lib.remember c ms) ⟨wd, .movedTo, true, c, some n⟩ =
        some ((addTreeWatches fs k (rekeyLib (lib.remember c ms) ms (wp ++ [n]) mw) (wp ++ [n])).1,
              (addTreeWatches fs k (rekeyLib (lib.remember c ms) ms (wp ++ [n]) mw) (wp ++ [n])).2,
              [⟨wd, .movedTo, true, c, some n, wp ++ [n]⟩]) := by
      simp [libRecord, Lib.remember, hw, hkey, hrec, rekeyLib, rekeyP, rekeyW]
    rw [e, h]

theorem rekeyP_nodup (ms src : P) (sub wfp : List (P × Nat)) (h : (wfp.map (·.1)).Nodup) :
    ((rekeyP ms src sub wfp).map (·.1)).Nodup :=
  foldl_inv (P := fun l : List (P × Nat) => (l.map (·.1)).Nodup) (fun _ _ h => nodup_setP (nodup_keys_filter h _) _ _) sub wfp h

theorem rekeyW_nodup (ms src : P) (sub : List (P × Nat)) (pfw : List (Nat × P)) (h : (pfw.map (·.1)).Nodup) :
    ((rekeyW ms src sub pfw).map (·.1)).Nodup :=
  foldl_inv (P := fun l : List (Nat × P) => (l.map (·.1)).Nodup) (fun _ _ h => nodup_setW h _ _) sub pfw h

theorem rekeyW_other (ms src : P) (sub : List (P × Nat)) (pfw : List (Nat × P)) {w : Nat} (hw : ∀ x ∈ sub, x.2 ≠ w) :
    lookupW (rekeyW ms src sub pfw) w = lookupW pfw w := by
  unfold rekeyW
  induction sub generalizing pfw with
  | nil => rfl
  | cons a rest ih =>
    rw [List.foldl_cons, ih _ (fun x hx => hw x (List.mem_cons_of_mem _ hx)), lookupW_setW,
      if_neg (hw a (List.mem_cons_self ..)).symm]

theorem rekeyW_of_mem (ms src : P) (sub : List (P × Nat)) (pfw : List (Nat × P)) (hk : (sub.map (·.2)).Nodup)
    {x : P × Nat} (hx : x ∈ sub) : lookupW (rekeyW ms src sub pfw) x.2 = some (nk ms src x) := by
  induction sub generalizing pfw with
  | nil => cases hx
  | cons a rest ih =>
    simp only [List.map_cons, List.nodup_cons] at hk
    rcases List.mem_cons.mp hx with rfl | hx
    · have := rekeyW_other ms src rest (setW pfw x.2 (nk ms src x))
        (fun b hb h => hk.1 (List.mem_map.mpr ⟨b, hb, h⟩))
      rw [lookupW_setW, if_pos rfl] at this
      exact this
    · exact ih _ hk.2 hx

theorem rekeyP_other (ms src : P) (sub wfp : List (P × Nat)) {y : P} (hy : ∀ x ∈ sub, nk ms src x ≠ y) :
    lookupP (rekeyP ms src sub wfp) y = if y ∈ sub.map (·.1) then none else lookupP wfp y := by
  unfold rekeyP
  induction sub generalizing wfp with
  | nil => rfl
  | cons a rest ih =>
    rw [List.foldl_cons, ih _ (fun x hx => hy x (List.mem_cons_of_mem _ hx)), lookupP_setP,
      if_neg (show y ≠ src ++ a.1.drop ms.length from (hy a (List.mem_cons_self ..)).symm), lookupP_filter_ne]
    by_cases h1 : y ∈ rest.map (·.1)
    · simp [h1]
    · by_cases h2 : y = a.1 <;> simp [h1, h2]

theorem rekeyP_of_mem (ms src : P) (sub wfp : List (P × Nat)) (hk : (sub.map (·.1)).Nodup)
    (hinj : ∀ x ∈ sub, ∀ y ∈ sub, nk ms src x = nk ms src y → x.1 = y.1)
    (hsep : ∀ x ∈ sub, ∀ y ∈ sub, nk ms src x ≠ y.1) {x : P × Nat} (hx : x ∈ sub) :
    lookupP (rekeyP ms src sub wfp) (nk ms src x) = some x.2 := by
  induction sub generalizing wfp with
  | nil => cases hx
  | cons a rest ih =>
    simp only [List.map_cons, List.nodup_cons] at hk
    have hm := List.mem_cons_self (a := a) (l := rest)
    rcases List.mem_cons.mp hx with rfl | hx
    · have := rekeyP_other ms src rest (setP (wfp.filter (fun z => z.1 != x.1)) (nk ms src x) x.2)
        (fun b hb h => hk.1 (hinj b (List.mem_cons_of_mem _ hb) x hm h ▸ List.mem_map.mpr ⟨b, hb, rfl⟩))
      rw [if_neg, lookupP_setP, if_pos rfl] at this
      · exact this
      · intro hmem
        obtain ⟨b, hb, hbx⟩ := List.mem_map.mp hmem
        exact hsep x hm b (List.mem_cons_of_mem _ hb) hbx.symm
    · exact ih _ hk.2 (fun a ha b hb => hinj a (List.mem_cons_of_mem _ ha) b (List.mem_cons_of_mem _ hb))
        (fun a ha b hb => hsep a (List.mem_cons_of_mem _ ha) b (List.mem_cons_of_mem _ hb)) hx

variable {fs : FS} {k0 : Kern} {lib : Lib} {p q : P} {e : Ent} {z : Option Nat}

theorem inv_after_move (inv0 : InvOn (fun _ => True) z (fs.del q) k0 lib) (hwf : fs.WF) (ok : RenameOK fs p q e)
    (hd : e.isDir = true) (hwp : watchedDir fs true (parentOf p) = true) (hwq : watchedDir fs true (parentOf q) = true)
    {mw : Nat} (hmw : lookupP lib.wdForPath p = some mw) :
    InvOn (fun _ => True) z (fs.renamed p q) k0 (rekeyLib lib p q mw) ∧
    (∀ w, z = some w → lookupW lib.pathForWd w = some q → lookupW (rekeyLib lib p q mw).pathForWd w = some q) := by
  have hem := FS.find?_some ok.he
  have hfree := ok.q_free hwf
  have hpq : isUnder q p = false := by
    have := hfree e hem.1 (by rw [hem.2]; exact ok.hne); rwa [hem.2] at this
  -- the two maps after the first three assignments
  let wfpA := setP (lib.wdForPath.filter (fun x => x.1 != p)) q mw
  let pfwA := setW lib.pathForWd mw q
  let sub := wfpA.filter (fun x => isUnder p x.1)
  have hwfpA : ∀ y, lookupP wfpA y = if y = q then some mw else if y = p then none else lookupP lib.wdForPath y := by
    intro y; simp only [wfpA]; rw [lookupP_setP, lookupP_filter_ne]
  have hpfwA : ∀ w, lookupW pfwA w = if w = mw then some q else lookupW lib.pathForWd w := by
    intro w; simp only [pfwA]; rw [lookupW_setW]
  have hndA : (wfpA.map (·.1)).Nodup := nodup_setP (nodup_keys_filter inv0.wfpNodup _) _ _
  have hndPA : (pfwA.map (·.1)).Nodup := nodup_setW inv0.pfwNodup _ _
  have hsub : ∀ x, x ∈ sub ↔ lookupP lib.wdForPath x.1 = some x.2 ∧ isUnder p x.1 = true := by
    intro x
    simp only [sub, List.mem_filter]
    constructor
    · rintro ⟨h1, h2⟩
      have hl := lookupP_of_mem hndA h1
      rw [hwfpA] at hl
      have n1 : x.1 ≠ q := by intro h; rw [h, ok.hnu] at h2; cases h2
      have n2 : x.1 ≠ p := by intro h; rw [h, isUnder_irrefl] at h2; cases h2
      simp only [n1, n2, if_false] at hl
      exact ⟨hl, h2⟩
    · rintro ⟨h1, h2⟩
      have n1 : x.1 ≠ q := by intro h; rw [h, ok.hnu] at h2; cases h2
      have n2 : x.1 ≠ p := by intro h; rw [h, isUnder_irrefl] at h2; cases h2
      refine ⟨?_, h2⟩
      have : lookupP wfpA x.1 = some x.2 := by rw [hwfpA]; simp [n1, n2, h1]
      exact lookupP_some_mem this
  have hsubk : (sub.map (·.1)).Nodup := nodup_keys_filter hndA _
  have hsubw : (sub.map (·.2)).Nodup := by
    apply nodup_map_of_inj_on _ (nodup_of_map_nodup _ hsubk)
    intro a ha b hb hab
    have h1 := inv0.wfpInv _ _ ((hsub a).mp ha).1
    have h2 := inv0.wfpInv _ _ ((hsub b).mp hb).1
    rw [hab] at h1; rw [h1] at h2
    exact Prod.ext (Option.some.inj h2) hab
  have hnk_under : ∀ x ∈ sub, isUnder q (nk p q x) = true := by
    intro x hx; exact rewrite_under ((hsub x).mp hx).2
  have hinj : ∀ x ∈ sub, ∀ y ∈ sub, nk p q x = nk p q y → x.1 = y.1 := by
    intro x hx y hy h
    obtain ⟨r1, _, e1⟩ := isUnder_iff.mp ((hsub x).mp hx).2
    obtain ⟨r2, _, e2⟩ := isUnder_iff.mp ((hsub y).mp hy).2
    simp only [nk, e1, e2, List.drop_left'] at h
    rw [e1, e2, List.append_cancel_left h]
  have hincomp : ∀ y, isUnder q y = true → isUnder p y = true → False := by
    intro y h1 h2
    rcases prefix_comparable h1 h2 with h | h | h
    · exact ok.hne h.symm
    · rw [hpq] at h; cases h
    · rw [ok.hnu] at h; cases h
  have hsep : ∀ x ∈ sub, ∀ y ∈ sub, nk p q x ≠ y.1 := by
    intro x hx y hy h
    exact hincomp _ (hnk_under x hx) (h ▸ ((hsub y).mp hy).2)
  have hlib : rekeyLib lib p q mw = { lib with wdForPath := rekeyP p q sub wfpA, pathForWd := rekeyW p q sub pfwA } := rfl
  have hW_sub : ∀ x ∈ sub, lookupW (rekeyW p q sub pfwA) x.2 = some (nk p q x) :=
    fun x hx => rekeyW_of_mem p q sub pfwA hsubw hx
  have hW_other : ∀ w, (∀ x ∈ sub, x.2 ≠ w) → lookupW (rekeyW p q sub pfwA) w = lookupW pfwA w :=
    fun w hw => rekeyW_other p q sub pfwA hw
  have hP_sub : ∀ x ∈ sub, lookupP (rekeyP p q sub wfpA) (nk p q x) = some x.2 :=
    fun x hx => rekeyP_of_mem p q sub wfpA hsubk hinj hsep hx
  have hnotkey : ∀ y, isUnder p y = false → y ∉ sub.map (·.1) := by
    intro y h2 hm
    obtain ⟨b, hb, hby⟩ := List.mem_map.mp hm
    have := ((hsub b).mp hb).2; rw [hby, h2] at this; cases this
  have hP_other : ∀ y, isUnder q y = false → isUnder p y = false →
      lookupP (rekeyP p q sub wfpA) y = lookupP wfpA y := by
    intro y h1 h2
    rw [rekeyP_other p q sub wfpA (fun a ha hay => by have := hnk_under a ha; rw [hay, h1] at this; cases this),
      if_neg (hnotkey y h2)]
  have hmw_p : lookupW lib.pathForWd mw = some p := inv0.wfpInv _ _ hmw
  have hmw_notsub : ∀ x ∈ sub, x.2 ≠ mw := by
    intro x hx h
    have h1 := inv0.wfpInv _ _ ((hsub x).mp hx).1
    rw [h, hmw_p] at h1
    have := ((hsub x).mp hx).2
    rw [← Option.some.inj h1, isUnder_irrefl] at this; cases this
  have hmoved : ∀ x ∈ fs.ents, (x.path = p ∨ isUnder p x.path = true) →
      inTreeDir x = x.isDir ∧ inTreeDir (rwEnt p q x) = x.isDir := by
    intro x _ hm
    have := ok.moved_inTree hwf hm
    simp [this.1, this.2, hwp, hwq]
  have hgood : ∀ w ∈ k0.watches, ∃ y ∈ (fs.renamed p q).ents, y.ino = w.2 ∧ inTreeDir y = true ∧
      lookupW (rekeyW p q sub pfwA) w.1 = some y.path ∧ lookupP (rekeyP p q sub wfpA) y.path = some w.1 := by
    intro w hw
    obtain ⟨x, hx, h1, h2, h3, h4⟩ := inv0.good w hw
    obtain ⟨hxf, hxq⟩ := FS.mem_del.mp hx
    refine ⟨rwEnt p q x, FS.mem_renamed.mpr ⟨x, hxf, hxq, rfl⟩, h1, ?_, ?_, ?_⟩
    · rcases rwPath_cases p q x.path with ⟨c1, _⟩ | ⟨c1, _, _⟩ | ⟨c1, c2, _⟩
      · rw [(hmoved x hxf (Or.inl c1)).2, ← (hmoved x hxf (Or.inl c1)).1]; exact h2
      · rw [(hmoved x hxf (Or.inr c1)).2, ← (hmoved x hxf (Or.inr c1)).1]; exact h2
      · rw [rwEnt_fixed c1 c2]; exact h2
    · simp only [rwEnt]
      rcases rwPath_cases p q x.path with ⟨c1, e1⟩ | ⟨c1, e1, _⟩ | ⟨c1, c2, e1⟩
      · have : w.1 = mw := by rw [c1, hmw] at h4; exact (Option.some.inj h4).symm
        rw [e1, this, hW_other mw hmw_notsub, hpfwA]; simp
      · have hxs : (x.path, w.1) ∈ sub := (hsub _).mpr ⟨h4, c1⟩
        rw [e1]; exact hW_sub (x.path, w.1) hxs
      · rw [e1]
        have hnot : ∀ a ∈ sub, a.2 ≠ w.1 := by
          intro a ha h
          have := inv0.wfpInv _ _ ((hsub a).mp ha).1
          rw [h, h3] at this
          have hu := ((hsub a).mp ha).2
          rw [← Option.some.inj this, c2] at hu; cases hu
        have hne : w.1 ≠ mw := by
          intro h; rw [h, hmw_p] at h3; exact c1 (Option.some.inj h3).symm
        rw [hW_other _ hnot, hpfwA]; simp [hne, h3]
    · simp only [rwEnt]
      rcases rwPath_cases p q x.path with ⟨c1, e1⟩ | ⟨c1, e1, _⟩ | ⟨c1, c2, e1⟩
      · have : w.1 = mw := by rw [c1, hmw] at h4; exact (Option.some.inj h4).symm
        rw [e1, hP_other q (isUnder_irrefl q) ok.hnu, hwfpA, this]; simp
      · have hxs : (x.path, w.1) ∈ sub := (hsub _).mpr ⟨h4, c1⟩
        rw [e1]; exact hP_sub (x.path, w.1) hxs
      · rw [e1, hP_other _ (hfree x hxf hxq) c2, hwfpA]; simp [hxq, c1, h4]
  have hpfw_some : ∀ w y, lookupW (rekeyW p q sub pfwA) w = some y → ∃ y', lookupW lib.pathForWd w = some y' := by
    intro w y h
    by_cases hs : ∃ x ∈ sub, x.2 = w
    · obtain ⟨x, hx, rfl⟩ := hs
      exact ⟨_, inv0.wfpInv _ _ ((hsub x).mp hx).1⟩
    · have hs' : ∀ x ∈ sub, x.2 ≠ w := fun x hx h => hs ⟨x, hx, h⟩
      rw [hW_other w hs', hpfwA] at h
      by_cases hm : w = mw
      · exact ⟨p, hm ▸ hmw_p⟩
      · simp only [hm, if_false] at h; exact ⟨y, h⟩
  constructor
  · rw [hlib]
    refine
      { wf := ok.wf hwf, isRec := inv0.isRec, kwd := inv0.kwd, kino := inv0.kino, klt := inv0.klt, good := hgood, cover := ?_,
        pfwDom := ?_, zlt := inv0.zlt, zdead := inv0.zdead, wfpInv := ?_, wfpNodup := rekeyP_nodup _ _ _ _ hndA,
        pfwNodup := rekeyW_nodup _ _ _ _ hndPA, cookies := inv0.cookies }
    · intro y hy hty _
      obtain ⟨x, hxf, hxq, rfl⟩ := FS.mem_renamed.mp hy
      have hx' : inTreeDir x = true := by
        rcases rwPath_cases p q x.path with ⟨c1, _⟩ | ⟨c1, _, _⟩ | ⟨c1, c2, _⟩
        · rw [(hmoved x hxf (Or.inl c1)).1, ← (hmoved x hxf (Or.inl c1)).2]; exact hty
        · rw [(hmoved x hxf (Or.inr c1)).1, ← (hmoved x hxf (Or.inr c1)).2]; exact hty
        · rw [rwEnt_fixed c1 c2] at hty; exact hty
      exact inv0.cover x (FS.mem_del.mpr ⟨hxf, hxq⟩) hx' trivial
    · intro w y h
      obtain ⟨y', hy'⟩ := hpfw_some w y h
      exact inv0.pfwDom w y' hy'
    · intro y w h
      simp only at h ⊢
      by_cases hnew : ∃ a ∈ sub, nk p q a = y
      · obtain ⟨a, ha, rfl⟩ := hnew
        rw [hP_sub a ha] at h
        rw [← Option.some.inj h]; exact hW_sub a ha
      · rw [rekeyP_other p q sub wfpA (fun a ha hay => hnew ⟨a, ha, hay⟩)] at h
        by_cases hm : y ∈ sub.map (·.1)
        · simp [hm] at h
        · simp only [hm, if_false] at h
          rw [hwfpA] at h
          by_cases hyq : y = q
          · simp only [hyq, if_true, Option.some.injEq] at h
            rw [← h, hyq, hW_other mw hmw_notsub, hpfwA]; simp
          · by_cases hyp : y = p
            · subst hyp; simp [ok.hne] at h
            · simp only [hyq, hyp, if_false] at h
              have h1 := inv0.wfpInv y w h
              have hnot : ∀ a ∈ sub, a.2 ≠ w := by
                intro a ha hh
                have := inv0.wfpInv _ _ ((hsub a).mp ha).1
                rw [hh, h1] at this
                exact hm (List.mem_map.mpr ⟨a, ha, (Option.some.inj this).symm⟩)
              have hne : w ≠ mw := by
                intro hh; rw [hh, hmw_p] at h1; exact hyp (Option.some.inj h1).symm
              rw [hW_other w hnot, hpfwA]; simp [hne, h1]
  · intro w _ hwq'
    rw [hlib]
    simp only
    have hnot : ∀ a ∈ sub, a.2 ≠ w := by
      intro a ha hh
      have := inv0.wfpInv _ _ ((hsub a).mp ha).1
      rw [hh, hwq'] at this
      have hu := ((hsub a).mp ha).2
      rw [← Option.some.inj this, ok.hnu] at hu; cases hu
    have hne : w ≠ mw := by
      intro hh; rw [hh, hmw_p] at hwq'; exact ok.hne (Option.some.inj hwq')
    rw [hW_other w hnot, hpfwA]; simp [hne, hwq']

theorem step_rename_move (s : Sys) (p q : P) (e : Ent) (inv : InvRec s.fs s.k s.lib) (hs : s.stopped = false)
    (hc : s.crashed = false) (ok : RenameOK s.fs p q e) (hd : e.isDir = true)
    (hwp : watchedDir s.fs true (parentOf p) = true) (hwq : watchedDir s.fs true (parentOf q) = true) :
    StepRec s (.rename p q) := by
  obtain ⟨z, k0, rrep, hk, inv0, hck, hz⟩ := rename_kernel inv ok
  have hwf := inv.wf
  have hpb := snoc_parent_base (ne_nil_of_two_le ok.hp2)
  have hqb := snoc_parent_base (ne_nil_of_two_le ok.hq2)
  have hem := FS.find?_some ok.he
  obtain ⟨wdp, hp1, hrp⟩ := inv.parent_watched hwp
  obtain ⟨wdq, hq1, hrq⟩ := inv.parent_watched hwq
  simp only [fromRecs, toRecs, hrp, hrq, hd, List.singleton_append] at hk
  have hte : inTreeDir e = true := by
    have := (ok.moved_inTree hwf (x := e) (Or.inl hem.2)).1
    rw [this, hd, hwp]; rfl
  obtain ⟨mw, _, _, _, hmw⟩ := inv.watched hem.1 hte trivial
  rw [hem.2] at hmw
  let kB : Kern := { k0 with nextCookie := s.k.nextCookie + 1 }
  let L1 := s.lib.remember s.k.nextCookie p
  have inv1 : InvOn (fun _ => True) z (s.fs.del q) kB L1 :=
    (inv0.bump (s.k.nextCookie + 1) (by omega)).remember _ _ (Nat.lt_succ_self _)
  obtain ⟨inv2, hzq⟩ := inv_after_move inv1 hwf ok hd hwp hwq (mw := mw) hmw
  -- after the re-keying every directory at or below `q` is watched under its path: the follow-up `_add_dir_watch` is idle
  have hqW : isUnder ["W"] q = true := by
    simp only [watchedDir, Bool.and_eq_true, Bool.or_eq_true, beq_iff_eq, Bool.true_and] at hwq
    exact isUnder_of_parent (ne_nil_of_two_le ok.hq2) hwq.2
  have hfindq := ok.find_renamed_dest hwf
  have hid : addTreeWatches (s.fs.renamed p q) kB (rekeyLib L1 p q mw) q = (kB, rekeyLib L1 p q mw) := by
    apply addTreeWatches_id inv2 q
    intro y hy
    rcases List.mem_append.mp hy with h | h
    · rw [hfindq] at h; simp at h; subst h
      refine ⟨(FS.find?_some hfindq).1, ?_, trivial⟩
      simp [inTreeDir, rwEnt, hem.2, rwPath_at, hd, hqW]
    · obtain ⟨h1, h2⟩ := List.mem_filter.mp h
      have hy' := List.mem_filter.mp h1
      refine ⟨hy'.1, ?_, trivial⟩
      simp [inTreeDir, h2, isUnder_trans hqW hy'.2]
  have hl12 : libBatch (s.fs.renamed p q) kB s.lib
      [⟨wdp, .movedFrom, true, s.k.nextCookie, some (baseName p)⟩, ⟨wdq, .movedTo, true, s.k.nextCookie, some (baseName q)⟩] =
      some (kB, rekeyLib L1 p q mw, [⟨wdp, .movedFrom, true, s.k.nextCookie, some (baseName p), p⟩,
        ⟨wdq, .movedTo, true, s.k.nextCookie, some (baseName q), q⟩]) := by
    rw [libBatch_cons, libRecord_from _ _ _ _ _ _ _ _ hp1, hpb]
    simp only
    rw [libBatch_cons, libRecord_to_paired_dir _ _ _ _ _ _ _ _ _ _ hq1 hmw inv.isRec (fun _ => by rw [hqb]; exact hid), hqb]
    rfl
  have hcon := contract_rename s.fs s.full p q e ok
  refine rename_assemble s p q hs hc ok.hq2 hk hl12 inv2 (tail := renameTail s.fs true q) ?_
    (E12 := [mkEv .DirMovedEvent p q, dirMod p, dirMod q] ++ subMoved (s.fs.renamed p q) p q) ?_ ?_ ?_
  · rcases hz with h | ⟨wd, h1, _, _, h4, h5, h6⟩
    · exact Or.inl h
    · exact Or.inr ⟨wd, h1, hzq wd h1 h4, h5, h6⟩
  · rw [gsOf_pair _ _ (by rfl) (by rfl) (by rfl)]; rfl
  · rw [gsOf_pair _ _ (by rfl) (by rfl) (by rfl)]; simp [emitAll_cons, emitAll_nil, emit, dirMod, mkEv]
  · rw [hcon]; simp [hwp, hwq, hd, movedCls]

end WD.Pipe
