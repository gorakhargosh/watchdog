/- "renamed twice in a row": a directory tree of the watched tree renamed to a free name and, before the reader wakes up,
   renamed again to another free name - `rename a b; rename b c` read as one batch (recursive watch) -/
import WD.Proofs.Pipeline.BurstMoveIn
import WD.Proofs.Pipeline.AddId
import WD.Proofs.Pipeline.RenameMove
namespace WD.Pipe

/-- the events of the burst: the first move has nothing to announce below it (nothing lies at `b` any more) -/
def chainEvents (F : FS) (a b c : P) : List PEv :=
  [mkEv .DirMovedEvent a b, dirMod a, dirMod b] ++ ([mkEv .DirMovedEvent b c, dirMod b, dirMod c] ++ subMoved F b c)

theorem burst_rename_chain_state (s : Sys) (a b c : P) (e : Ent) (inv : InvRec s.fs s.k s.lib) (hs : s.stopped = false)
    (hc : s.crashed = false) (ok1 : RenameOK s.fs a b e) (ok2 : RenameOK s.fs a c e) (hd : e.isDir = true)
    (hbf : s.fs.find? b = none) (hcf : s.fs.find? c = none) (hne : b ≠ c) (hnu : isUnder b c = false)
    (hwa : watchedDir s.fs true (parentOf a) = true) (hwb : watchedDir s.fs true (parentOf b) = true)
    (hwc : watchedDir s.fs true (parentOf c) = true) :
    (s.burst [.rename a b, .rename b c]).2 = chainEvents (s.fs.renamed a c) a b c ∧
    (s.burst [.rename a b, .rename b c]).1.fs = s.fs.renamed a c ∧
    (s.burst [.rename a b, .rename b c]).1.stopped = false ∧ (s.burst [.rename a b, .rename b c]).1.crashed = false ∧
    InvRec (s.burst [.rename a b, .rename b c]).1.fs (s.burst [.rename a b, .rename b c]).1.k
      (s.burst [.rename a b, .rename b c]).1.lib := by
  have hwf := inv.wf
  have hwf1 := ok1.wf hwf
  have hem := FS.find?_some ok1.he
  have hbn := ne_nil_of_two_le ok1.hq2
  have hcn := ne_nil_of_two_le ok2.hq2
  have hpba := snoc_parent_base (ne_nil_of_two_le ok1.hp2)
  have hpbb := snoc_parent_base hbn
  have hpbc := snoc_parent_base hcn
  obtain ⟨wdA, hA1, hrA⟩ := inv.parent_watched hwa
  obtain ⟨wdB, hB1, hrB⟩ := inv.parent_watched hwb
  obtain ⟨wdC, hC1, hrC⟩ := inv.parent_watched hwc
  -- the parents of `b` and `c` are not inside what moves: the first move leaves them alone
  have hpc_ne_b : parentOf c ≠ b := by
    intro h; have hh := ok2.hqpar; rw [h] at hh
    obtain ⟨x, hx, _⟩ := FS.isDir_iff.mp hh; rw [hbf] at hx; cases hx
  obtain ⟨hfB, hdB⟩ := ok1.find_parent_fixed hwf hbn ok1.hnu ok1.hqpar ok1.parent_q_ne_q
  obtain ⟨hfC, hdC⟩ := ok1.find_parent_fixed hwf hcn ok2.hnu ok2.hqpar hpc_ne_b
  have hwb1 := watchedDir_of_isDir hwb hdB
  have hwc1 := watchedDir_of_isDir hwc hdC
  have hfind1b := ok1.find_renamed_dest hwf
  have hfind1c : (s.fs.renamed a b).find? c = none := find_renamed_none hcf (Ne.symm hne) hnu
  have hisd : (rwEnt a b e).isDir = true := by simpa [rwEnt] using hd
  have hk : kernelOps s.fs s.k [.rename a b, .rename b c] =
      (s.fs.renamed a c, { s.k with nextCookie := s.k.nextCookie + 2 },
       [⟨wdA, .movedFrom, true, s.k.nextCookie, some (baseName a)⟩, ⟨wdB, .movedTo, true, s.k.nextCookie, some (baseName b)⟩] ++
       [⟨wdB, .movedFrom, true, s.k.nextCookie + 1, some (baseName b)⟩, ⟨wdC, .movedTo, true, s.k.nextCookie + 1, some (baseName c)⟩]) := by
    refine kernelOps_pair (fs1 := s.fs.renamed a b) (k1 := { s.k with nextCookie := s.k.nextCookie + 1 }) ?_ ?_
    · rw [kernelOp_rename_free s.k ok1.he hbf]
      simp [fromRecs, toRecs, hrA, hrB, hd]
    · rw [kernelOp_rename_free _ hfind1b hfind1c, renamed_renamed hwf hbf hbn hcf hne hnu]
      simp [fromRecs, toRecs, hfB, hfC, onEntry_bump, hrB, hrC, hisd]
  -- the library side: two re-keyings, neither of which looks at the file system
  have hte : inTreeDir e = true := by
    have := (ok1.moved_inTree hwf (x := e) (Or.inl hem.2)).1
    rw [this, hd, hwa]; rfl
  obtain ⟨mwa, _, _, _, hmwa⟩ := inv.watched hem.1 hte trivial
  rw [hem.2] at hmwa
  have inv1 : InvOn (fun _ => True) none (s.fs.del b) { s.k with nextCookie := s.k.nextCookie + 2 } (s.lib.remember s.k.nextCookie a) := by
    rw [FS.del_missing hbf]
    exact (inv.bump (s.k.nextCookie + 2) (by omega)).remember _ _ (by simp)
  obtain ⟨inv2, _⟩ := inv_after_move inv1 hwf ok1 hd hwa hwb (mw := mwa) hmwa
  -- after the first pair the invariant holds over the intermediate file system: the parents of `b` and `c` keep their watches
  have hkept : ∀ {x : P} {wd : Nat}, watchedDir (s.fs.renamed a b) true (parentOf x) = true →
      (s.fs.renamed a b).find? (parentOf x) = s.fs.find? (parentOf x) →
      (∀ f d c', s.k.onEntry ((s.fs.find? (parentOf x)).map (·.ino)) f d c' (baseName x) = [⟨wd, f, d, c', some (baseName x)⟩]) →
      lookupW (rekeyLib (s.lib.remember s.k.nextCookie a) a b mwa).pathForWd wd = some (parentOf x) := by
    intro x wd hw hf hr
    obtain ⟨wd', h1, h3⟩ := InvRec.parent_watched inv2 hw
    have := h3 .movedFrom true 0
    rw [hf, onEntry_bump, hr] at this
    simp only [List.cons.injEq, NRec.mk.injEq, and_true] at this
    rw [this]; exact h1
  have hB2 := hkept hwb1 hfB hrB
  have hC2 := hkept hwc1 hfC hrC
  have hte1 : inTreeDir (rwEnt a b e) = true := by
    have := (ok1.moved_inTree hwf (x := e) (Or.inl hem.2)).2
    rw [this, hd, hwb]; rfl
  obtain ⟨mwb, _, _, _, hmwb⟩ := inv2.watched (FS.find?_some hfind1b).1 hte1 trivial
  rw [(FS.find?_some hfind1b).2] at hmwb
  have ok2' : RenameOK (s.fs.renamed a b) b c (rwEnt a b e) :=
    ⟨ok1.hq2, ok2.hq2, hfind1b, hdC, hne, hnu, fun old ho => by rw [hfind1c] at ho; cases ho⟩
  have inv3 : InvOn (fun _ => True) none ((s.fs.renamed a b).del c) { s.k with nextCookie := s.k.nextCookie + 2 }
      ((rekeyLib (s.lib.remember s.k.nextCookie a) a b mwa).remember (s.k.nextCookie + 1) b) := by
    rw [FS.del_missing hfind1c]
    exact inv2.remember _ _ (by simp)
  obtain ⟨inv4, _⟩ := inv_after_move inv3 hwf1 ok2' hisd hwb1 hwc1 (mw := mwb) hmwb
  rw [renamed_renamed hwf hbf hbn hcf hne hnu] at inv4
  -- the follow-up `_add_dir_watch` of the two re-keyings (D23): `b` is gone by the time the batch is read, `c` is covered
  obtain ⟨hFb, hFdb⟩ := gone_after_move (o := a) hwf hbf hbn hne hnu (fresh_not_above hwf hcf hcn ok1.hqpar)
  have hcW := isUnderW_of_watched_parent hcn hwc
  have hfindC := ok2.find_renamed_dest hwf
  have hidC : addTreeWatches (s.fs.renamed a c) { s.k with nextCookie := s.k.nextCookie + 2 }
      (rekeyLib ((rekeyLib (s.lib.remember s.k.nextCookie a) a b mwa).remember (s.k.nextCookie + 1) b) b c mwb) c =
      ({ s.k with nextCookie := s.k.nextCookie + 2 },
       rekeyLib ((rekeyLib (s.lib.remember s.k.nextCookie a) a b mwa).remember (s.k.nextCookie + 1) b) b c mwb) := by
    apply addTreeWatches_id inv4 c
    intro y hy
    rcases List.mem_append.mp hy with h | h
    · rw [hfindC] at h; simp at h; subst h
      refine ⟨(FS.find?_some hfindC).1, ?_, trivial⟩
      simp [inTreeDir, rwEnt, hem.2, rwPath_at, hd, hcW]
    · obtain ⟨h1, h2⟩ := List.mem_filter.mp h
      have hy' := List.mem_filter.mp h1
      refine ⟨hy'.1, ?_, trivial⟩
      have hu : isUnder c y.path = true := by simpa using hy'.2
      simp [inTreeDir, h2, isUnder_trans hcW hu]
  have hl : libBatch (s.fs.renamed a c) { s.k with nextCookie := s.k.nextCookie + 2 } s.lib
      ([⟨wdA, .movedFrom, true, s.k.nextCookie, some (baseName a)⟩, ⟨wdB, .movedTo, true, s.k.nextCookie, some (baseName b)⟩] ++
       [⟨wdB, .movedFrom, true, s.k.nextCookie + 1, some (baseName b)⟩, ⟨wdC, .movedTo, true, s.k.nextCookie + 1, some (baseName c)⟩]) =
      some ({ s.k with nextCookie := s.k.nextCookie + 2 },
            rekeyLib ((rekeyLib (s.lib.remember s.k.nextCookie a) a b mwa).remember (s.k.nextCookie + 1) b) b c mwb,
            [⟨wdA, .movedFrom, true, s.k.nextCookie, some (baseName a), a⟩, ⟨wdB, .movedTo, true, s.k.nextCookie, some (baseName b), b⟩] ++
            [⟨wdB, .movedFrom, true, s.k.nextCookie + 1, some (baseName b), b⟩, ⟨wdC, .movedTo, true, s.k.nextCookie + 1, some (baseName c), c⟩]) := by
    rw [List.cons_append, List.cons_append, List.nil_append, libBatch_cons, libRecord_from _ _ _ _ _ _ _ _ hA1, hpba]
    simp only
    rw [libBatch_cons, libRecord_to_paired_dir _ _ _ _ _ _ _ _ _ _ hB1 hmwa inv.isRec
      (fun _ => by rw [hpbb]; exact addTreeWatches_nothing _ _ _ _ hFb hFdb), hpbb]
    simp only
    rw [libBatch_cons, libRecord_from _ _ _ _ _ _ _ _ hB2, hpbb]
    simp only
    rw [libBatch_cons, libRecord_to_paired_dir _ _ _ _ _ _ _ _ _ _ hC2 hmwb inv2.isRec (fun _ => by rw [hpbc]; exact hidC), hpbc]
    simp [libBatch_nil]
  -- grouping: two pairs (the cookies differ); the emitter finds nothing below `b`, so only the second move has synthetic events
  have hburst := Sys.burst_eq s _ hs hc hk hl inv4.isRec (evs := chainEvents (s.fs.renamed a c) a b c)
    (by rw [gsOf_append_fresh, gsOf_pair, gsOf_pair]; rfl; all_goals simp)
    (by simp [emitAll_cons, emitAll_nil, emit, subMoved, hFdb, dirMod, mkEv, chainEvents])
    (by simp [movedOut])
  rw [hburst]
  exact ⟨rfl, rfl, hs, hc, inv4⟩

theorem burst_rename_chain_replay (fs : FS) (a b c : P) (e : Ent) (hwf : fs.WF)
    (ok1 : RenameOK fs a b e) (ok2 : RenameOK fs a c e) (hd : e.isDir = true)
    (hbf : fs.find? b = none) (hcf : fs.find? c = none) (hne : b ≠ c) (hnu : isUnder b c = false)
    (hwc : watchedDir fs true (parentOf c) = true) :
    sameTree (replay (treeW fs) (chainEvents (fs.renamed a c) a b c)) (treeW (fs.renamed a c)) := by
  have hbn := ne_nil_of_two_le ok1.hq2
  have hkeep : ∀ y ∈ eraseSub (treeW fs) a, y ∈ treeW (fs.renamed a c) := by
    intro y hy
    obtain ⟨h0, h1, h2⟩ := mem_eraseSub.mp hy
    obtain ⟨x, hx, g1, g2, g3⟩ := mem_treeW.mp h0
    refine (mem_treeW_renamed y).mpr ⟨x, hx, (FS.find?_none.mp hcf) x hx, ?_, g2, g3⟩
    rw [g1, rwPath_other h1 h2]
  have hfirst : replay (treeW fs) ([mkEv .DirMovedEvent a b, dirMod a, dirMod b] ++ [mkEv .DirMovedEvent b c, dirMod b, dirMod c]) =
      setEntry (eraseSub (setEntry (eraseSub (treeW fs) a) b true) b) c true := by
    simp [replay, applyEv, mkEv, dirMod, EvClass.eventType, EvClass.isDirectory, ne_nil_of_two_le ok1.hp2, hbn,
      ne_nil_of_two_le ok2.hq2]
  unfold chainEvents
  rw [← List.append_assoc, replay_append, hfirst]
  exact replay_passing_through hwf ok2 hd hbn hbf ok1.hqpar hcf hne hnu hwc hkeep
    (fun x hx h1 h2 hW => mem_eraseSub.mpr ⟨mem_treeW.mpr ⟨x, hx, rfl, rfl, hW⟩, h1, h2⟩)

end WD.Pipe
