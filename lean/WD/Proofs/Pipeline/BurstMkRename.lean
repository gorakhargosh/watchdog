/- "created and immediately renamed": `mkdir p; rename p q` issued back to back and read as one batch under a recursive
   watch (both parents directories of the tree, `q` a free name).  The CREATE record finds nothing to watch any more
   (ENOENT), the MOVED_TO finds no watch to re-key and watches the arrived directory instead. -/
import WD.Model.PipelineBurst
import WD.Proofs.Pipeline.RenameIn
import WD.Proofs.Pipeline.OpsDir
import WD.Proofs.Pipeline.BurstGrow
import WD.Proofs.Pipeline.BurstFiles
import WD.Proofs.Pipeline.ReplayRun
namespace WD.Pipe

/-- a MOVED_TO right after its MOVED_FROM whose source was never watched (the directory was created moments ago): nothing
    to re-key, the arrived directory is watched now -/
theorem libRecord_to_paired_dir_nokey (fs : FS) (k : Kern) (lib : Lib) (wd : Nat) (c : Nat) (n : String) (wp ms : P)
    (hw : lookupW lib.pathForWd wd = some wp) (hkey : lookupP lib.wdForPath ms = none) (hrec : lib.recursive = true) :
    libRecord fs k (lib.remember c ms) ⟨wd, .movedTo, true, c, some n⟩ =
      some ((addTreeWatches fs k (lib.remember c ms) (wp ++ [n])).1, (addTreeWatches fs k (lib.remember c ms) (wp ++ [n])).2,
            [⟨wd, .movedTo, true, c, some n, wp ++ [n]⟩]) := by
  simp [libRecord, Lib.remember, hw, hkey, hrec]

theorem descendants_add_self {fs : FS} (hwf : fs.WF) {q : P} (hq : q ≠ []) (hqf : fs.exists q = false) (b : Bool) :
    (fs.add q b).descendants q = [] := by
  unfold FS.descendants
  rw [List.filter_eq_nil_iff]
  intro e he
  rcases FS.mem_add.mp he with he | he
  · simp [hwf.no_descendants_of_missing hq hqf e he]
  · subst he; simp [isUnder_irrefl]

theorem mkdir_rename_fs {fs : FS} (hwf : fs.WF) {p q : P} (hp : p ≠ []) (hne : fs.exists p = false) (hqf : fs.exists q = false)
    (hpq : p ≠ q) :
    (fs.add p true).find? p = some ⟨p, true, fs.nextIno⟩ ∧ (fs.add p true).find? q = none ∧
    (fs.add p true).renamed p q = fs.add q true := by
  have hfind1q : (fs.add p true).find? q = none := by
    rw [FS.find?_add, find?_none_of_exists_false hqf]; simp [hpq]
  refine ⟨by rw [FS.find?_add, find?_none_of_exists_false hne]; simp, hfind1q, ?_⟩
  unfold FS.renamed
  rw [FS.del_missing hfind1q]
  simp only [FS.add, List.map_append, List.map_cons, List.map_nil, rwEnt, rwPath_at]
  rw [map_id_of_unique fs.ents _ (fun x hx => rwEnt_fixed (exists_false_iff.mp hne x hx) (hwf.no_descendants_of_missing hp hne x hx))]

theorem burst_mkdir_rename (s : Sys) (p q : P) (inv : InvRec s.fs s.k s.lib) (hs : s.stopped = false) (hc : s.crashed = false)
    (hv1 : validOp s.fs (.mkdir p) = true) (hq2 : 2 ≤ q.length) (hqf : s.fs.exists q = false) (hpq : p ≠ q)
    (hqpar : s.fs.isDir (parentOf q) = true)
    (hwp : watchedDir s.fs true (parentOf p) = true) (hwq : watchedDir s.fs true (parentOf q) = true) :
    (s.burst [.mkdir p, .rename p q]).2 =
      [mkEv .DirCreatedEvent p, dirMod p, mkEv .DirMovedEvent p q, dirMod p, dirMod q] ∧
    (s.burst [.mkdir p, .rename p q]).1.fs = s.fs.add q true ∧
    (s.burst [.mkdir p, .rename p q]).1.stopped = false ∧ (s.burst [.mkdir p, .rename p q]).1.crashed = false ∧
    InvRec (s.burst [.mkdir p, .rename p q]).1.fs (s.burst [.mkdir p, .rename p q]).1.k (s.burst [.mkdir p, .rename p q]).1.lib := by
  obtain ⟨hp, hne, hpar⟩ := validOp_mkdir hv1
  have hnnp := ne_nil_of_two_le hp
  have hnnq := ne_nil_of_two_le hq2
  have hpbp := snoc_parent_base hnnp
  have hpbq := snoc_parent_base hnnq
  obtain ⟨wdA, hA1, hrecA⟩ := inv.parent_watched hwp
  obtain ⟨wdB, hB1, hrecB⟩ := inv.parent_watched hwq
  obtain ⟨hfind1p, hfind1q, hren⟩ := mkdir_rename_fs inv.wf hnnp hne hqf hpq
  have hparent1 : ∀ x : P, s.fs.isDir x = true → (s.fs.add p true).find? x = s.fs.find? x := by
    intro x hx
    obtain ⟨e, he, _⟩ := FS.isDir_iff.mp hx
    rw [FS.find?_add, he]; rfl
  have hk : kernelOps s.fs s.k [.mkdir p, .rename p q] =
      (s.fs.add q true, { s.k with nextCookie := s.k.nextCookie + 1 },
       [⟨wdA, .create, true, 0, some (baseName p)⟩] ++
       [⟨wdA, .movedFrom, true, s.k.nextCookie, some (baseName p)⟩, ⟨wdB, .movedTo, true, s.k.nextCookie, some (baseName q)⟩]) := by
    refine kernelOps_pair (fs1 := s.fs.add p true) (k1 := s.k) (by simp [kernelOp, hrecA, FS.add]) ?_
    rw [kernelOp_rename_free s.k hfind1p hfind1q, hren]
    simp [fromRecs, toRecs, hparent1 _ hpar, hparent1 _ hqpar, hrecA, hrecB]
  -- the library side, looking at the final file system
  have hFp : (s.fs.add q true).find? p = none := by
    rw [FS.find?_add, find?_none_of_exists_false hne]; simp [Ne.symm hpq]
  have hFq : (s.fs.add q true).find? q = some ⟨q, true, s.fs.nextIno⟩ := by
    rw [FS.find?_add, find?_none_of_exists_false hqf]; simp
  have hdescq := descendants_add_self inv.wf hnnq hqf true
  have hkey := inv.no_key_of_missing (find?_none_of_exists_false hne)
  have hunw : ({ s.k with nextCookie := s.k.nextCookie + 1 } : Kern).wdOfIno s.fs.nextIno = none := inv.fresh_unwatched
  have hat : addTreeWatches (s.fs.add q true) { s.k with nextCookie := s.k.nextCookie + 1 } (s.lib.remember s.k.nextCookie p) q =
      (({ s.k with nextCookie := s.k.nextCookie + 1 } : Kern).withWatch s.fs.nextIno, (s.lib.remember s.k.nextCookie p).withWatch q s.k.nextWd) := by
    rw [addTreeWatches_eq, hFq, hdescq]
    simp only [Option.toList_some, List.filter_nil, List.append_nil, List.foldl_cons, List.foldl_nil, addStep]
    rw [addWatch_new (e := ⟨q, true, s.fs.nextIno⟩) hFq hunw]
  have hl : libBatch (s.fs.add q true) { s.k with nextCookie := s.k.nextCookie + 1 } s.lib
      ([⟨wdA, .create, true, 0, some (baseName p)⟩] ++
       [⟨wdA, .movedFrom, true, s.k.nextCookie, some (baseName p)⟩, ⟨wdB, .movedTo, true, s.k.nextCookie, some (baseName q)⟩]) =
      some (({ s.k with nextCookie := s.k.nextCookie + 1 } : Kern).withWatch s.fs.nextIno,
            (s.lib.remember s.k.nextCookie p).withWatch q s.k.nextWd,
            [⟨wdA, .create, true, 0, some (baseName p), p⟩] ++
            [⟨wdA, .movedFrom, true, s.k.nextCookie, some (baseName p), p⟩, ⟨wdB, .movedTo, true, s.k.nextCookie, some (baseName q), q⟩]) := by
    -- ENOENT for the CREATE; the pair finds no key for `p`
    rw [List.singleton_append, libBatch_cons, libRecord_create_dir _ _ _ wdA (baseName p) (parentOf p) hA1 inv.isRec, hpbp]
    simp only [addWatch, hFp]
    rw [libBatch_cons, libRecord_from _ _ _ _ _ _ _ _ hA1, hpbp]
    simp only
    rw [libBatch_cons, libRecord_to_paired_dir_nokey _ _ _ wdB _ (baseName q) (parentOf q) p hB1 hkey inv.isRec, hpbq, hat]
    simp [libBatch_nil]
  -- grouping: the CREATE alone, the two halves of the move as one pair; the emitter finds nothing below `q`
  have hburst := Sys.burst_eq s _ hs hc hk hl inv.isRec
    (evs := [mkEv .DirCreatedEvent p, dirMod p, mkEv .DirMovedEvent p q, dirMod p, dirMod q])
    (by rw [gsOf_append_fresh, gsOf_one, gsOf_pair]; rfl; all_goals simp)
    (by simp [emitAll_cons, emitAll_nil, emit, subMoved, hdescq, dirMod, mkEv])
    (by simp [movedOut])
  rw [hburst]
  refine ⟨rfl, rfl, hs, hc, ?_⟩
  -- the invariant: the arrived directory is watched under its new name
  have hnew : (⟨q, true, s.fs.nextIno⟩ : Ent) ∈ (s.fs.add q true).ents := FS.mem_add.mpr (Or.inr rfl)
  have hit : inTreeDir (⟨q, true, s.fs.nextIno⟩ : Ent) = true := by rw [inTreeDir_of_parent hq2 hqpar s.fs.nextIno, hwq]
  have i0 := (inv.bump (s.k.nextCookie + 1) (by omega)).remember s.k.nextCookie p (by simp)
  have i2 := i0.fs_grow (inv.wf.add hq2 hqf hqpar true) (fun e he => FS.mem_add.mpr (Or.inl he))
  refine (i2.addWatch hnew hit hunw).mono ?_
  intro e he _ _
  rcases FS.mem_add.mp he with h | h
  · exact Or.inl ⟨trivial, h⟩
  · exact Or.inr h

/-- what the burst delivers is what the two operations deliver one at a time (their contracts, concatenated), so the
    replay gives the tree -/
theorem burst_mkdir_rename_replay (s : Sys) (p q : P) (inv : InvRec s.fs s.k s.lib) (hs : s.stopped = false) (hc : s.crashed = false)
    (hv1 : validOp s.fs (.mkdir p) = true) (hq2 : 2 ≤ q.length) (hqf : s.fs.exists q = false) (hpq : p ≠ q)
    (hqpar : s.fs.isDir (parentOf q) = true)
    (hwp : watchedDir s.fs true (parentOf p) = true) (hwq : watchedDir s.fs true (parentOf q) = true) :
    (s.burst [.mkdir p, .rename p q]).2 = (contractRun s.fs true s.full [.mkdir p, .rename p q]).flatten ∧
    sameTree (replay (treeW s.fs) (s.burst [.mkdir p, .rename p q]).2) (treeW (s.burst [.mkdir p, .rename p q]).1.fs) := by
  obtain ⟨h1, h2, _, _, _⟩ := burst_mkdir_rename s p q inv hs hc hv1 hq2 hqf hpq hqpar hwp hwq
  obtain ⟨hp, hne, hpar⟩ := validOp_mkdir hv1
  have hnnp := ne_nil_of_two_le hp
  obtain ⟨hfind1p, hfind1q, hren⟩ := mkdir_rename_fs inv.wf hnnp hne hqf hpq
  have hfs1 : fsAfter s.fs (.mkdir p) = s.fs.add p true := rfl
  have hfs2 : fsAfter (s.fs.add p true) (.rename p q) = s.fs.add q true := by
    rw [fsAfter, kernelOp_rename_free _ hfind1p hfind1q, hren]
  have hw1 : ∀ {x : P}, watchedDir s.fs true x = true → s.fs.isDir x = true → watchedDir (s.fs.add p true) true x = true :=
    fun hx hd => watchedDir_of_isDir hx (FS.isDir_add_of_isDir hd)
  have hcon : (contractRun s.fs true s.full [.mkdir p, .rename p q]).flatten =
      [mkEv .DirCreatedEvent p, dirMod p, mkEv .DirMovedEvent p q, dirMod p, dirMod q] := by
    simp only [contractRun, contract, hwp, if_true, Bool.false_eq_true, if_false, hfs1, hfind1p, hw1 hwp hpar, hw1 hwq hqpar,
      Bool.and_self, renameTail, hfind1q, hfs2, subMoved, descendants_add_self inv.wf (ne_nil_of_two_le hq2) hqf true, movedCls]
    simp
  refine ⟨by rw [h1, hcon], ?_⟩
  rw [h1, ← hcon, h2]
  have hval : fsValid s.fs [.mkdir p, .rename p q] = true := by
    have hnu : isUnder p q = false := by
      cases h : isUnder p q with
      | false => rfl
      | true =>
        -- the parent of `q` would be `p` or lie below it, but `p` did not exist
        obtain ⟨e, he, _⟩ := FS.isDir_iff.mp hqpar
        rcases isUnder_parent h with h' | h'
        · rw [h', find?_none_of_exists_false hne] at he; cases he
        · have := inv.wf.no_descendants_of_missing hnnp hne e (FS.find?_some he).1
          rw [(FS.find?_some he).2, h'] at this; cases this
    have hv2 : validOp (s.fs.add p true) (.rename p q) = true := by
      simp [validOp, hp, hq2, FS.exists, hfind1p, FS.isDir_add_of_isDir hqpar, hpq, hnu, hfind1q]
    simp [fsValid, hv1, hfs1, hv2]
  have := replay_run inv.wf s.full [.mkdir p, .rename p q] hval (by simp)
  simpa [fsRun, hfs1, hfs2] using this

end WD.Pipe
