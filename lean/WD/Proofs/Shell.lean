/- WD.Shell: with `wait_for_process` or `drop_during_process` commands never overlap -/
import WD.Model.Shell
namespace WD.ProofsShell
open WD.Shell

/-- wait mode: a live command is the one the dispatcher is blocked on -/
def InvW (s : State) : Prop := ∀ pid, s.aliveP pid = true → s.pc = .waitProc pid

/-- drop mode (not waiting): a live command has its watcher in the set; a watcher in the set watches the current command -/
def InvD (s : State) : Prop :=
  (∀ pid, s.aliveP pid = true → ∃ (j : Nat) (w : Watcher), s.watchers[j]? = some w ∧ w.pid = pid ∧ w.inSet = true) ∧
  (∀ (j : Nat) (w : Watcher), s.watchers[j]? = some w → w.inSet = true → s.process = some w.pid)

structure Inv (s : State) : Prop where
  w : s.wait = true → InvW s
  d : s.wait = false → s.drop = true → InvD s

theorem spawn_alive_old {s : State} (hq : ∀ pid, s.aliveP pid = false) (pid : Nat) (h : s.spawn.aliveP pid = true) :
    pid = s.procs.length := by
  by_cases e : pid = s.procs.length
  · exact e
  · have hd := hq pid
    simp only [State.aliveP, State.spawn, State.log] at hd h
    rw [List.getElem?_append] at h
    by_cases hl : pid < s.procs.length
    · simp only [hl, if_true] at h; rw [hd] at h; cases h
    · simp only [hl, if_false] at h
      cases hk : pid - s.procs.length with
      | zero => omega
      | succ k => simp [hk] at h

theorem not_running {s : State} (h : s.running = false) :
    (∀ (j : Nat) (w : Watcher), s.watchers[j]? = some w → w.inSet = false) ∧
    (∀ pid, s.process = some pid → s.aliveP pid = false) := by
  unfold State.running at h
  simp only [Bool.or_eq_false_iff] at h
  refine ⟨?_, ?_⟩
  · intro j w hj
    have hm : w ∈ s.watchers := List.mem_of_getElem? hj
    have := List.any_eq_false.1 h.1 w hm
    simpa using this
  · intro pid hp; have := h.2; rw [hp] at this; exact this

theorem arriveL_inv (script : List Op) : ∀ s : State, (s.wait = true → ∀ pid, s.aliveP pid = false) →
    (s.wait = false → s.drop = true → InvD s) → Inv (arriveL script s) := by
  have rest : ∀ (s s' : State), (s.wait = true → ∀ pid, s.aliveP pid = false) →
      (s.wait = false → s.drop = true → InvD s) → s'.wait = s.wait → s'.drop = s.drop → s'.aliveP = s.aliveP →
      s'.watchers = s.watchers → s'.process = s.process → Inv s' := by
    intro s s' hw hd e1 e2 e3 e4 e5
    refine ⟨fun x pid hp => ?_, fun a b => ?_⟩
    · rw [e3, hw (e1 ▸ x) pid] at hp; cases hp
    · obtain ⟨d1, d2⟩ := hd (e1 ▸ a) (e2 ▸ b)
      exact ⟨fun pid hp => by rw [e4]; exact d1 pid (e3 ▸ hp), fun j w hj hin => by rw [e5]; exact d2 j w (e4 ▸ hj) hin⟩
  induction script with
  | nil => intro s hw hd; exact rest s _ hw hd rfl rfl rfl rfl rfl
  | cons op tl ih =>
    intro s hw hd
    cases op with
    | sleep d => exact rest s _ hw hd rfl rfl rfl rfl rfl
    | event =>
      simp only [arriveL]
      split
      · exact ih (s.log _) hw hd
      · next hnr =>
        split
        · next hwt =>
          refine ⟨fun _ => ?_, fun a => by simp [State.spawn, State.log, hwt] at a⟩
          intro pid hp
          have : pid = s.procs.length := spawn_alive_old (hw hwt) pid hp
          subst this; rfl
        · next hwt =>
          have hwf : s.wait = false := by simpa using hwt
          refine ⟨fun a => by simp [State.spawn, State.log, hwf] at a, fun _ hdr => ?_⟩
          have hdr' : s.drop = true := hdr
          have hnr' : s.running = false := by simpa [hdr'] using hnr
          obtain ⟨noSet, curDead⟩ := not_running hnr'
          have allDead : ∀ pid, s.aliveP pid = false := by
            intro pid
            cases ha : s.aliveP pid
            · rfl
            · obtain ⟨j, w, hj, _, hin⟩ := (hd hwf hdr').1 pid ha
              rw [noSet j w hj] at hin; cases hin
          refine ⟨?_, ?_⟩
          · intro pid hp
            have : pid = s.procs.length := spawn_alive_old allDead pid hp
            subst this
            exact ⟨s.watchers.length, { pid := s.procs.length }, by simp [State.spawn, State.log], rfl, rfl⟩
          · intro j w hj hin
            simp only [State.spawn, State.log] at hj ⊢
            rw [List.getElem?_append] at hj
            by_cases hl : j < s.watchers.length
            · simp only [hl, if_true] at hj
              rw [noSet j w hj] at hin; cases hin
            · simp only [hl, if_false] at hj
              cases hk : j - s.watchers.length with
              | zero => simp [hk] at hj; subst hj; rfl
              | succ k => simp [hk] at hj

/-- in wait mode the dispatcher moves on only when no command is alive: a live one is the one it waits for -/
theorem clientStep_inv {s : State} (h : Inv s) (hen : clientEnabled s = true) : Inv (clientStep s) := by
  have dead : s.wait = true → ∀ pid, s.aliveP pid = false := by
    intro x pid
    cases ha : s.aliveP pid
    · rfl
    · have := h.w x pid ha; simp [clientEnabled, this, ha] at hen
  unfold clientStep arrive
  split
  · exact arriveL_inv _ s dead h.d
  · exact arriveL_inv _ s dead h.d
  · exact arriveL_inv _ (s.log _) dead h.d
  · exact arriveL_inv _ (s.log _) dead h.d
  · exact h

theorem setWatcher_inv {s : State} {k : Nat} {w w' : Watcher} (h : Inv s) (hk : s.watchers[k]? = some w)
    (hpid : w'.pid = w.pid) (hin : w'.inSet = w.inSet ∨ (w'.inSet = false ∧ s.aliveP w.pid = false)) :
    Inv { s with watchers := s.watchers.set k w' } := by
  have hkl : k < s.watchers.length := by
    obtain ⟨hl, _⟩ := List.getElem?_eq_some_iff.1 hk; exact hl
  refine ⟨fun x => (fun pid hp => h.w x pid hp : InvW _), fun a b => ?_⟩
  obtain ⟨d1, d2⟩ := h.d a b
  refine ⟨?_, ?_⟩
  · intro pid hp
    obtain ⟨j, w0, hj, e1, e2⟩ := d1 pid hp
    by_cases hjk : j = k
    · subst hjk; rw [hk] at hj; cases hj
      rcases hin with e | ⟨_, hdead⟩
      · exact ⟨j, w', by simp [hkl], hpid.trans e1, e.trans e2⟩
      · rw [e1] at hdead
        have hp' : s.aliveP pid = true := hp
        rw [hdead] at hp'; cases hp'
    · exact ⟨j, w0, by simp [Ne.symm hjk, hj], e1, e2⟩
  · intro j w0 hj hi
    simp only [List.getElem?_set] at hj
    by_cases hjk : k = j
    · subst hjk; simp [hkl] at hj; subst hj
      rcases hin with e | ⟨e, _⟩
      · rw [hpid]; exact d2 k w hk (e ▸ hi)
      · rw [e] at hi; cases hi
    · simp [hjk] at hj; exact d2 j w0 hj hi

theorem watcherStep_inv {s : State} {k : Nat} {w : Watcher} (h : Inv s) (hk : s.watchers[k]? = some w) :
    Inv (watcherStep s k w) := by
  unfold watcherStep
  split
  · exact h
  · split
    · exact setWatcher_inv h hk rfl (Or.inl rfl)
    · next _ hdead => exact setWatcher_inv h hk rfl (Or.inr ⟨rfl, by simpa using hdead⟩)

theorem step_inv {s s' : State} {i : Nat} (h : Inv s) (hs : step s i = some s') : Inv s' := by
  cases i with
  | zero =>
    simp only [step] at hs
    split at hs
    · next hen => cases hs; exact clientStep_inv h hen
    · cases hs
  | succ k =>
    simp only [step] at hs
    split at hs
    · next w hk =>
      split at hs
      · cases hs; exact watcherStep_inv h hk
      · cases hs
    · cases hs

theorem aliveP_tick {s : State} (d pid : Nat) (h : ({ s with clock := s.clock + d } : State).aliveP pid = true) :
    s.aliveP pid = true := by
  simp only [State.aliveP] at h ⊢
  cases hp : s.procs[pid]? with
  | none => simp [hp] at h
  | some p =>
    simp only [hp, Proc.alive] at h ⊢
    split at h <;> simp_all <;> omega

theorem tick_inv {s : State} (h : Inv s) (d : Nat) : Inv ({ s with clock := s.clock + d } : State) := by
  refine ⟨fun x => ?_, fun a b => ?_⟩
  · intro pid hp
    exact h.w x pid (aliveP_tick d pid hp)
  · obtain ⟨d1, d2⟩ := h.d a b
    exact ⟨fun pid hp => d1 pid (aliveP_tick d pid hp), d2⟩

theorem init_inv (wait drop : Bool) (lifetimes : List (Option Nat)) (script : List Op) :
    Inv (init wait drop lifetimes script) :=
  ⟨fun _ => (fun pid hp => by simp [State.aliveP, init] at hp : InvW _),
   fun _ _ => ⟨fun pid hp => by simp [State.aliveP, init] at hp, fun j w hj => by simp [init] at hj⟩⟩

theorem run_inv {s : State} (h : Inv s) (as : List Action) : Inv (run s as) := by
  induction as generalizing s with
  | nil => exact h
  | cons a as ih =>
    refine ih ?_
    cases a with
    | step tid =>
      simp only [act]
      cases hs : step s tid with
      | none => exact h
      | some s' => exact step_inv h hs
    | tick d => exact tick_inv h d

theorem arriveL_cfg (script : List Op) : ∀ s : State, (arriveL script s).wait = s.wait ∧ (arriveL script s).drop = s.drop := by
  induction script with
  | nil => intro s; exact ⟨rfl, rfl⟩
  | cons op rest ih =>
    intro s
    cases op with
    | sleep d => exact ⟨rfl, rfl⟩
    | event =>
      simp only [arriveL]
      split
      · exact ih _
      · split <;> exact ⟨rfl, rfl⟩

theorem act_cfg (s : State) (a : Action) : (act s a).wait = s.wait ∧ (act s a).drop = s.drop := by
  cases a with
  | tick d => exact ⟨rfl, rfl⟩
  | step tid =>
    simp only [act]
    cases tid with
    | zero =>
      simp only [step]
      split
      · simp only [Option.getD_some, clientStep, arrive]
        split <;> first | exact arriveL_cfg _ _ | exact ⟨rfl, rfl⟩
      · exact ⟨rfl, rfl⟩
    | succ k =>
      simp only [step]
      split
      · split
        · simp only [Option.getD_some, watcherStep]
          split
          · exact ⟨rfl, rfl⟩
          · split <;> exact ⟨rfl, rfl⟩
        · exact ⟨rfl, rfl⟩
      · exact ⟨rfl, rfl⟩

theorem run_cfg (s : State) (as : List Action) : (run s as).wait = s.wait ∧ (run s as).drop = s.drop := by
  induction as generalizing s with
  | nil => exact ⟨rfl, rfl⟩
  | cons a as ih =>
    have h1 := ih (act s a)
    have h2 := act_cfg s a
    exact ⟨h1.1.trans h2.1, h1.2.trans h2.2⟩

theorem no_overlap (wait drop : Bool) (lifetimes : List (Option Nat)) (script : List Op) (as : List Action)
    (hwd : wait = true ∨ drop = true) (p q : Nat)
    (hp : (run (init wait drop lifetimes script) as).aliveP p = true)
    (hq : (run (init wait drop lifetimes script) as).aliveP q = true) : p = q := by
  have inv := run_inv (init_inv wait drop lifetimes script) as
  obtain ⟨cw, cd⟩ := run_cfg (init wait drop lifetimes script) as
  have cw' : (run (init wait drop lifetimes script) as).wait = wait := cw
  have cd' : (run (init wait drop lifetimes script) as).drop = drop := cd
  cases hw : wait
  · have hdrop : drop = true := by rcases hwd with e | e; · rw [hw] at e; cases e
                                   · exact e
    obtain ⟨d1, d2⟩ := inv.d (by rw [cw', hw]) (by rw [cd', hdrop])
    obtain ⟨j1, w1, a1, b1, c1⟩ := d1 p hp
    obtain ⟨j2, w2, a2, b2, c2⟩ := d1 q hq
    have e1 := d2 j1 w1 a1 c1
    have e2 := d2 j2 w2 a2 c2
    rw [e1, b1, b2] at e2
    cases e2; rfl
  · have e1 := inv.w (by rw [cw', hw]) p hp
    have e2 := inv.w (by rw [cw', hw]) q hq
    rw [e1] at e2; cases e2; rfl

end WD.ProofsShell
