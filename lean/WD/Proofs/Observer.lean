/- The statements of WD.Props.C04 (C04 and C05) about runs of `WD.Obs`, each read off an invariant: the unconditional ones
   off `Inv1` (`inv1_reach`), those that need every step to complete (`runOk`) off the invariants of
   WD.Proofs.Observer.Step (`between_reach`).  The four that are false without that hypothesis are quoted in comments. -/
import WD.Model.Observer
import WD.Spec.ObserverSpec
import WD.Proofs.Observer.Inv1
import WD.Proofs.Observer.Step
import WD.Proofs.Observer.SStep
import WD.Proofs.Observer.Counterexamples
namespace WD.ProofsObs
open WD WD.Obs

variable (clients : List (List Op)) (cbs : List (Hid × List (List Op))) (emit : List (Wid × List Nat))
  (sched : List Nat)

theorem routing (p q : List Obs) (h : Hid) (w : Wid) (v u : Nat)
    (hh : (run (init clients cbs emit) sched).hist = p ++ .call h w v u :: q) : registered p h w = true := by
  exact ((inv1_reach clients cbs emit sched).good p _ q hh).1

theorem handlers_eq_registered (h : Hid) (w : Wid) :
    (h ∈ (run (init clients cbs emit) sched).handlersOf w) ↔
      registered (run (init clients cbs emit) sched).hist h w = true := by
  exact (inv1_reach clients cbs emit sched).reg h w

theorem dispatched_was_queued (p q : List Obs) (h : Hid) (w : Wid) (v u : Nat)
    (hh : (run (init clients cbs emit) sched).hist = p ++ .call h w v u :: q) : Obs.enq w v u ∈ p := by
  exact ((inv1_reach clients cbs emit sched).good p _ q hh).2

theorem enq_uids_increasing :
    (enqUids (run (init clients cbs emit) sched).hist).Pairwise (· < ·) := by
  exact good1_enq_pairwise (inv1_reach clients cbs emit sched).good

/- FALSE as stated (`order_at_most_once_false` in Counterexamples.lean); see `order_at_most_once_partial`
theorem order_at_most_once (h : Hid) :
    (callUids h (run (init clients cbs emit) sched).hist).Pairwise (· < ·)
-/

theorem dispatch_copy (p q : List Obs) (u : Nat) (w : Wid) (hs : List Hid)
    (hh : (run (init clients cbs emit) sched).hist = p ++ .dispatch u w hs :: q) (h : Hid) :
    h ∈ hs ↔ registered p h w = true := by
  exact (inv1_reach clients cbs emit sched).good p _ q hh h

/- FALSE as stated (third witness in Counterexamples.lean); see `complete_partial`
theorem complete (p q r : List Obs) (u : Nat) (w : Wid) (hs : List Hid)
    (hh : (run (init clients cbs emit) sched).hist = p ++ .dispatch u w hs :: q ++ .dispatchEnd u :: r)
    (h : Hid) (hm : h ∈ hs) : (∃ v, Obs.call h w v u ∈ q) ∨ Obs.skip h u ∈ q
-/

theorem skip_unregistered (p q : List Obs) (h : Hid) (u : Nat)
    (hh : (run (init clients cbs emit) sched).hist = p ++ .skip h u :: q) :
    ∃ w hs, Obs.dispatch u w hs ∈ p ∧ registered p h w = false := by
  exact (inv1_reach clients cbs emit sched).good p _ q hh

/- FALSE as stated (second witness in Counterexamples.lean); see `unregistered_on_return_partial`
theorem unregistered_on_return (p q : List Obs) (op : Op) (h : Hid) (w : Wid)
    (hh : (run (init clients cbs emit) sched).hist = p ++ .did op "ok" :: q) (hr : removes op h w = true) :
    registered p h w = false
-/

/- FALSE as stated (second witness in Counterexamples.lean); see `nothing_after_return_partial`
theorem nothing_after_return (p q r : List Obs) (op : Op) (h : Hid) (w : Wid) (v u : Nat)
    (hh : (run (init clients cbs emit) sched).hist = p ++ .did op "ok" :: q ++ .call h w v u :: r)
    (hr : removes op h w = true) : Obs.reg h w ∈ q
-/

theorem unschedule_joins_emitter (s : State) (ti : Nat) (t : Thread) (w : Wid) (e : Eid) (o : EmObj) (ei : Nat)
    (ht : s.thread? ti = some t) (hpc : t.pc = .unschedJoin w e) (he : s.em? e = some o) (hti : o.tidx = some ei)
    (hen : enabled s ti = true) : s.threadDone ei = true := by
  simpa [enabled, ht, hpc, he, hti] using hen

/-! ### corrected variants of the four statements that are false as stated (see the counterexamples in
    WD/Proofs/Observer/Counterexamples.lean): they hold along every schedule all of whose steps complete
    (`runOk`: the `fuel` of the model never runs out in the middle of a step and no "impossible" branch of
    the model is taken) -/

theorem unregistered_on_return_partial (hok : runOk (init clients cbs emit) sched = true)
    (p q : List Obs) (op : Op) (h : Hid) (w : Wid)
    (hh : (run (init clients cbs emit) sched).hist = p ++ .did op "ok" :: q) (hr : removes op h w = true) :
    registered p h w = false :=
  (between_reach clients cbs emit sched hok).l.good p _ q hh rfl h w hr

theorem nothing_after_return_partial (hok : runOk (init clients cbs emit) sched = true)
    (p q r : List Obs) (op : Op) (h : Hid) (w : Wid) (v u : Nat)
    (hh : (run (init clients cbs emit) sched).hist = p ++ .did op "ok" :: q ++ .call h w v u :: r)
    (hr : removes op h w = true) : Obs.reg h w ∈ q := by
  have h1 : registered (p ++ .did op "ok" :: q) h w = true := routing clients cbs emit sched _ r h w v u hh
  have h2 : registered p h w = false :=
    unregistered_on_return_partial clients cbs emit sched hok p (q ++ .call h w v u :: r) op h w
      (by rw [hh]; simp) hr
  rw [registered_append, List.foldl_cons, h2] at h1
  have h3 : regStep h w false (.did op "ok") = false := rfl
  rw [h3] at h1
  exact reg_mem_of_foldl h1

theorem complete_partial (hok : runOk (init clients cbs emit) sched = true)
    (p q r : List Obs) (u : Nat) (w : Wid) (hs : List Hid)
    (hh : (run (init clients cbs emit) sched).hist = p ++ .dispatch u w hs :: q ++ .dispatchEnd u :: r)
    (h : Hid) (hm : h ∈ hs) : (∃ v, Obs.call h w v u ∈ q) ∨ Obs.skip h u ∈ q :=
  complete_of_good (between_reach clients cbs emit sched hok).d.c.good p q r u w hs hh h hm

/-- needs, in addition, that at most one thread of kind `dispatcher` exists in the final state (threads are
    never removed, so this says that `start` spawned a dispatcher at most once during the run): with two
    `start` calls the statement fails, see `order_at_most_once_false` -/
theorem order_at_most_once_partial (hok : runOk (init clients cbs emit) sched = true)
    (hone : ((run (init clients cbs emit) sched).threads.filter (fun t => t.kind == .dispatcher)).length ≤ 1)
    (h : Hid) : (callUids h (run (init clients cbs emit) sched).hist).Pairwise (· < ·) :=
  goodO_call_pairwise ((between_reach clients cbs emit sched hok).d.o (oneD_of_count hone)).good h

end WD.ProofsObs
