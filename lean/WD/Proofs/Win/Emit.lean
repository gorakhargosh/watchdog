/- the Windows translation layer: reads compose (`foldl_out`), so cutting a batch into reads changes nothing -/
import WD.Model.WinEmit
import WD.Proofs.Pipeline.ReplayFlat
namespace WD.Win
open WD WD.Pipe

theorem emitBatch_nil (fs : FS) (r : Bool) (st : EmSt) : emitBatch fs r st [] = (st, []) := rfl
theorem emitBatches_nil (fs : FS) (r : Bool) (st : EmSt) : emitBatches fs r st [] = (st, []) := rfl

theorem foldl_out {σ α β : Type} (f : σ → α → σ × List β) (l : List α) (s : σ) (out : List β) :
    l.foldl (fun acc x => ((f acc.1 x).1, acc.2 ++ (f acc.1 x).2)) (s, out) =
      ((l.foldl (fun acc x => ((f acc.1 x).1, acc.2 ++ (f acc.1 x).2)) (s, [])).1,
       out ++ (l.foldl (fun acc x => ((f acc.1 x).1, acc.2 ++ (f acc.1 x).2)) (s, [])).2) := by
  induction l generalizing s out with
  | nil => simp
  | cons x rest ih =>
    simp only [List.foldl_cons]
    rw [ih, ih _ ([] ++ _)]
    simp [List.append_assoc]

theorem emitBatch_cons (fs : FS) (r : Bool) (st : EmSt) (x : WRec) (rest : List WRec) :
    emitBatch fs r st (x :: rest) =
      ((emitBatch fs r (emitRec fs r st x).1 rest).1, (emitRec fs r st x).2 ++ (emitBatch fs r (emitRec fs r st x).1 rest).2) := by
  simp only [emitBatch, List.foldl_cons, List.nil_append]
  rw [foldl_out]

theorem emitBatch_append (fs : FS) (r : Bool) (st : EmSt) (a b : List WRec) :
    emitBatch fs r st (a ++ b) =
      ((emitBatch fs r (emitBatch fs r st a).1 b).1, (emitBatch fs r st a).2 ++ (emitBatch fs r (emitBatch fs r st a).1 b).2) := by
  simp only [emitBatch, List.foldl_append]
  exact foldl_out _ b _ _

/-- reading the records in several pieces gives what reading them at once gives (the pending old name
    of a rename survives a read) -/
theorem emitBatches_flatten (fs : FS) (r : Bool) (st : EmSt) (bs : List (List WRec)) :
    emitBatches fs r st bs = emitBatch fs r st bs.flatten := by
  induction bs generalizing st with
  | nil => rfl
  | cons b rest ih =>
    have h := foldl_out (emitBatch fs r) rest (emitBatch fs r st b).1 ([] ++ (emitBatch fs r st b).2)
    rw [List.flatten_cons, emitBatch_append, ← ih]
    simpa [emitBatches] using h

theorem cutInto_flatten (cut : List Nat) (recs : List WRec) : (cutInto cut recs).flatten = recs := by
  induction cut generalizing recs with
  | nil => simp [cutInto]
  | cons n ns ih =>
    simp only [cutInto]
    split
    · simp
    · simp [ih]

/-- C20 (batch cuts, Windows): however the records of an operation are cut into reads, the delivered
    events and the emitter's state are those of a single read -/
theorem cut_irrelevant (s : WSys) (op : Op) (cut : List Nat) : s.op op cut = s.op op [] := by
  simp only [WSys.op, emitBatches_flatten, cutInto_flatten]

end WD.Win
