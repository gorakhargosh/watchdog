/- several operations per read, Windows layer: a burst of mkdirs and file creations at any depth handed to `queue_events`
   in ONE read.  The OS reports every new entry, and for a new directory the emitter also walks what lies inside it by
   then - entries may be announced twice; replaying the stream still gives the tree. -/
import WD.Proofs.Win.Burst
import WD.Proofs.Pipeline.BurstGrow
namespace WD.Win
open WD WD.Pipe

theorem mem_treeOf {recursive : Bool} {fs : FS} {y : P × Bool} :
    y ∈ treeOf recursive fs ↔ ∃ e ∈ fs.ents, e.path = y.1 ∧ e.isDir = y.2 ∧ vis recursive y.1 = true := by
  unfold treeOf vis
  cases recursive with
  | true => simp only [if_true]; exact mem_treeW
  | false =>
    simp only [Bool.false_eq_true, if_false, treeW1, List.mem_filter, mem_treeW, decide_eq_true_eq, Bool.and_eq_true, beq_iff_eq]
    constructor
    · rintro ⟨⟨e, he, h1, h2, h3⟩, hl⟩; exact ⟨e, he, h1, h2, hl, h3⟩
    · rintro ⟨e, he, h1, h2, hl, h3⟩; exact ⟨⟨e, he, h1, h2, h3⟩, hl⟩

theorem mem_createdOf {evs : List PEv} {y : P × Bool} :
    y ∈ createdOf evs ↔ ∃ ev ∈ evs, ev.cls.eventType = "created" ∧ y = (ev.src, ev.cls.isDirectory) := by
  simp only [createdOf, List.mem_filterMap]
  constructor
  · rintro ⟨ev, hev, hy⟩
    split at hy
    · exact ⟨ev, hev, ‹_›, (Option.some.inj hy).symm⟩
    · cases hy
  · rintro ⟨ev, hev, hc, rfl⟩
    exact ⟨ev, hev, if_pos hc⟩

/-- created events may repeat: it is enough that all of them, and the starting tree, lie in one path-functional set `T` -/
theorem replay_created_dups (T : Tree) (hT : ∀ x ∈ T, ∀ y ∈ T, x.1 = y.1 → x = y) :
    ∀ (evs : List PEv) (t : Tree), (∀ y ∈ t, y ∈ T) →
    (∀ e ∈ evs, e.cls.eventType = "created" ∧ (e.src, e.cls.isDirectory) ∈ T) →
    ∀ y, y ∈ replay t evs ↔ y ∈ t ∨ y ∈ createdOf evs := by
  intro evs
  induction evs with
  | nil => intro t _ _ y; simp [replay, createdOf]
  | cons e rest ih =>
    intro t ht hev y
    obtain ⟨hc, hin⟩ := hev e (List.mem_cons_self ..)
    have happ : applyEv t e = setEntry t e.src e.cls.isDirectory := by
      obtain ⟨c, p, q, s⟩ := e; exact applyEv_created t c hc p q s
    have ht' : ∀ y ∈ setEntry t e.src e.cls.isDirectory, y ∈ T := by
      intro y hy
      rcases mem_setEntry.mp hy with ⟨h, _⟩ | rfl
      · exact ht y h
      · exact hin
    rw [replay_cons, happ, ih _ ht' (fun x hx => hev x (List.mem_cons_of_mem _ hx)) y]
    have hco : createdOf (e :: rest) = (e.src, e.cls.isDirectory) :: createdOf rest := by simp [createdOf, hc]
    rw [hco, mem_setEntry]
    constructor
    · rintro ((⟨h, _⟩ | h) | h)
      · exact Or.inl h
      · exact Or.inr (h ▸ List.mem_cons_self ..)
      · exact Or.inr (List.mem_cons_of_mem _ h)
    · rintro (h | h)
      · by_cases hp : y.1 = e.src
        · exact Or.inl (Or.inr (hT y (ht y h) _ hin hp))
        · exact Or.inl (Or.inl ⟨h, hp⟩)
      · rcases List.mem_cons.mp h with h | h
        · exact Or.inl (Or.inr h)
        · exact Or.inr h

theorem winRecsAll_grow (rec : Bool) : ∀ (ops : List Op) (fs : FS), fs.WF → allGrow fs ops = true →
    (winRecsAll fs rec ops).1 = fsRun fs ops ∧
    (∀ r ∈ (winRecsAll fs rec ops).2, r.act = .added ∧ vis rec r.path = true ∧ ∃ e ∈ (fsRun fs ops).ents, e.path = r.path) ∧
    (∀ e ∈ (fsRun fs ops).ents, e ∉ fs.ents → vis rec e.path = true → (⟨.added, e.path⟩ : WRec) ∈ (winRecsAll fs rec ops).2) := by
  intro ops
  induction ops with
  | nil =>
    intro fs _ _
    exact ⟨rfl, by simp [winRecsAll], fun e he hn => absurd he hn⟩
  | cons op rest ih =>
    intro fs hwf hv
    have hall := hv
    simp only [allGrow, Bool.and_eq_true] at hv
    obtain ⟨⟨hvalid, hkind⟩, hrest⟩ := hv
    obtain ⟨p, b, hop, hp, hne, hpar, hfs⟩ := grow_op hvalid hkind
    have hwf1 : (fsAfter fs op).WF := by rw [hfs]; exact hwf.add hp hne hpar b
    obtain ⟨i1, i2, i3⟩ := ih (fsAfter fs op) hwf1 hrest
    obtain ⟨_, g2, _, _⟩ := grow_facts rest (fsAfter fs op) hwf1 hrest
    have hrec : winRecs fs rec op = if vis rec p then [⟨.added, p⟩] else [] := by
      rcases hop with ⟨rfl, _⟩ | ⟨rfl, _⟩ <;> simp [winRecs]
    have hEF : (⟨p, b, fs.nextIno⟩ : Ent) ∈ (fsRun (fsAfter fs op) rest).ents := g2 _ (by rw [hfs]; exact FS.mem_add.mpr (Or.inr rfl))
    simp only [winRecsAll, fsRun]
    refine ⟨i1, ?_, ?_⟩
    · intro r hr
      rcases List.mem_append.mp hr with h | h
      · rw [hrec] at h
        split at h
        · rename_i hvis
          simp only [List.mem_singleton] at h; subst h
          exact ⟨rfl, hvis, _, hEF, rfl⟩
        · cases h
      · exact i2 r h
    · intro e he hn hvis
      by_cases h1 : e ∈ (fsAfter fs op).ents
      · rw [hfs] at h1
        rcases FS.mem_add.mp h1 with h | h
        · exact absurd h hn
        · subst h
          refine List.mem_append.mpr (Or.inl ?_)
          rw [hrec]; simp only at hvis; simp [hvis]
      · exact List.mem_append.mpr (Or.inr (i3 e he h1 hvis))

theorem emitBatch_added_eq (F : FS) (rec : Bool) (st : EmSt) (recs : List WRec) (h : ∀ r ∈ recs, r.act = .added) :
    emitBatch F rec st recs = (st, recs.flatMap (fun r =>
      [mkEv (createdCls (F.isDir r.path)) r.path] ++ (if F.isDir r.path && rec then subCreated F r.path else []))) := by
  induction recs with
  | nil => rfl
  | cons r rest ih =>
    obtain ⟨act, path⟩ := r
    obtain rfl : act = .added := h _ (List.mem_cons_self ..)
    rw [emitBatch_cons, emitRec_added rfl, ih (fun x hx => h x (List.mem_cons_of_mem _ hx))]
    rfl

theorem emitBatch_added (F : FS) (hwf : F.WF) (rec : Bool) (st : EmSt) (recs : List WRec)
    (h : ∀ r ∈ recs, r.act = .added ∧ vis rec r.path = true ∧ ∃ e ∈ F.ents, e.path = r.path) :
    (emitBatch F rec st recs).1 = st ∧
    (∀ ev ∈ (emitBatch F rec st recs).2, ev.cls.eventType = "created" ∧ (ev.src, ev.cls.isDirectory) ∈ treeOf rec F) ∧
    (∀ r ∈ recs, ∀ e ∈ F.ents, e.path = r.path → (e.path, e.isDir) ∈ createdOf (emitBatch F rec st recs).2) := by
  rw [emitBatch_added_eq F rec st recs (fun r hr => (h r hr).1)]
  have hcr : ∀ d : Bool, (createdCls d).eventType = "created" ∧ (createdCls d).isDirectory = d := by
    intro d; cases d <;> exact ⟨rfl, rfl⟩
  refine ⟨rfl, ?_, ?_⟩
  · intro ev hev
    obtain ⟨r, hr, hev⟩ := List.mem_flatMap.mp hev
    obtain ⟨_, hvis, e, he, hep⟩ := h r hr
    have hisd : F.isDir r.path = e.isDir := by simp [FS.isDir, hep ▸ hwf.find_mem he]
    rw [hisd] at hev
    rcases List.mem_append.mp hev with h1 | h1
    · obtain rfl := List.mem_singleton.mp h1
      exact ⟨(hcr _).1, mem_treeOf.mpr ⟨e, he, hep, ((hcr _).2).symm, hvis⟩⟩
    · split at h1
      · rename_i hcond
        obtain rfl : rec = true := (Bool.and_eq_true _ _ ▸ hcond).2
        obtain ⟨x, hx, rfl⟩ := List.mem_map.mp h1
        obtain ⟨hxm, hxu⟩ := List.mem_filter.mp hx
        refine ⟨by cases x.isDir <;> rfl, mem_treeOf.mpr ⟨x, hxm, rfl, by cases x.isDir <;> rfl, ?_⟩⟩
        exact isUnder_trans hvis hxu
      · cases h1
  · intro r hr e he hep
    have hisd : F.isDir r.path = e.isDir := by simp [FS.isDir, hep ▸ hwf.find_mem he]
    have hm : mkEv (createdCls e.isDir) r.path ∈ recs.flatMap (fun r =>
        [mkEv (createdCls (F.isDir r.path)) r.path] ++ (if F.isDir r.path && rec then subCreated F r.path else [])) :=
      List.mem_flatMap.mpr ⟨r, hr, List.mem_append.mpr (Or.inl (by rw [hisd]; exact List.mem_singleton.mpr rfl))⟩
    exact mem_createdOf.mpr ⟨_, hm, (hcr _).1, by rw [hep]; exact congrArg (Prod.mk r.path) (hcr _).2.symm⟩

/-- **several operations per read, growth**: a burst of mkdirs and file creations at any depth handed to `queue_events`
    in ONE read after its last operation (recursive or not): the emitter's state is untouched, and replaying the delivered
    events on the tree before the burst gives the tree after it - although an entry created inside a directory of the
    same burst is announced twice (by its own record and by the walk of the new directory) -/
theorem burst_grow (s : WSys) (ops : List Op) (hwf : s.fs.WF) (hs : s.st.stopped = false) (hv : allGrow s.fs ops = true) :
    (s.burst ops).1 = { s with fs := fsRun s.fs ops } ∧
    sameTree (replay (treeOf s.recursive s.fs) (s.burst ops).2) (treeOf s.recursive (fsRun s.fs ops)) := by
  obtain ⟨r1, r2, r3⟩ := winRecsAll_grow s.recursive ops s.fs hwf hv
  obtain ⟨g1, g2, _, _⟩ := grow_facts ops s.fs hwf hv
  obtain ⟨e1, e2, e3⟩ := emitBatch_added (fsRun s.fs ops) g1 s.recursive s.st _ r2
  have hb : s.burst ops = ({ s with fs := fsRun s.fs ops, st := (emitBatch (fsRun s.fs ops) s.recursive s.st (winRecsAll s.fs s.recursive ops).2).1 },
      (emitBatch (fsRun s.fs ops) s.recursive s.st (winRecsAll s.fs s.recursive ops).2).2) := by
    simp only [WSys.burst, hs, Bool.false_eq_true, if_false, r1]
  rw [hb, e1]
  refine ⟨rfl, ?_⟩
  have hW : ∀ y ∈ treeOf s.recursive (fsRun s.fs ops), y ∈ treeW (fsRun s.fs ops) := by
    intro y hy; unfold treeOf treeW1 at hy; split at hy
    · exact hy
    · exact (List.mem_filter.mp hy).1
  have hT : ∀ x ∈ treeOf s.recursive (fsRun s.fs ops), ∀ y ∈ treeOf s.recursive (fsRun s.fs ops), x.1 = y.1 → x = y :=
    fun x hx y hy => treeW_path_inj g1 x (hW x hx) y (hW y hy)
  have hsub : ∀ y ∈ treeOf s.recursive s.fs, y ∈ treeOf s.recursive (fsRun s.fs ops) := by
    intro y hy
    obtain ⟨a, ha, ha1, ha2, ha3⟩ := mem_treeOf.mp hy
    exact mem_treeOf.mpr ⟨a, g2 a ha, ha1, ha2, ha3⟩
  intro y
  simp only
  rw [replay_created_dups _ hT _ _ hsub e2 y]
  constructor
  · rintro (h | h)
    · exact hsub y h
    · obtain ⟨ev, hev, _, rfl⟩ := mem_createdOf.mp h
      exact (e2 ev hev).2
  · intro hy
    obtain ⟨a, ha, ha1, ha2, ha3⟩ := mem_treeOf.mp hy
    by_cases h0 : a ∈ s.fs.ents
    · exact Or.inl (mem_treeOf.mpr ⟨a, h0, ha1, ha2, ha3⟩)
    · right
      have hrec := r3 a ha h0 (ha1 ▸ ha3)
      have := e3 _ hrec a ha rfl
      have hya : y = (a.path, a.isDir) := Prod.ext ha1.symm ha2.symm
      rw [hya]; exact this

end WD.Win
