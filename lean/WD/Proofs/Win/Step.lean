/- one drained operation through the Windows layer yields the Windows contract -/
import WD.Proofs.Win.Emit
namespace WD.Win
open WD WD.Pipe

theorem isUnder_eq_parent (a : P) {p : P} (hne : p ≠ []) : isUnder a p = (parentOf p == a || isUnder a (parentOf p)) := by
  apply Bool.eq_iff_iff.mpr
  rw [Bool.or_eq_true, beq_iff_eq]
  exact ⟨isUnder_parent, isUnder_of_parent hne⟩

theorem vis_watched {fs : FS} (r : Bool) {p : P} (hp : 2 ≤ p.length) (hpar : fs.isDir (parentOf p) = true) :
    vis r p = watchedDir fs r (parentOf p) := by
  have hu := isUnder_eq_parent ["W"] (ne_nil_of_two_le hp)
  cases r with
  | true => simp only [vis, if_true, watchedDir, hpar, Bool.true_and, hu]
  | false =>
    simp only [vis, Bool.false_eq_true, if_false, watchedDir, hpar, Bool.true_and, Bool.false_and, Bool.or_false, hu]
    have hl := parentOf_length p
    cases h : parentOf p == ["W"] with
    | true =>
      rw [beq_iff_eq.mp h] at hl
      have : p.length = 2 := by simp at hl; omega
      simp [this]
    | false =>
      cases h2 : isUnder ["W"] (parentOf p) with
      | false => simp
      | true =>
        have := isUnder_length h2
        have : p.length ≠ 2 := by simp at this; omega
        simp [this]

theorem emitBatch_removed (fs : FS) (r : Bool) (st : EmSt) (ps : List P) (f : P → Bool) :
    emitBatch fs r st (ps.flatMap (fun p => if f p then [WRec.mk .removed p] else [])) =
      (st, ps.flatMap (fun p => if f p then [mkEv .FileDeletedEvent p] else [])) := by
  induction ps with
  | nil => rfl
  | cons p rest ih =>
    simp only [List.flatMap_cons, emitBatch_append]
    cases hf : f p
    · simp [emitBatch_nil, ih]
    · simp [emitBatch_cons, emitBatch_nil, emitRec, ih]

theorem isDir_add_self {fs : FS} {p : P} (d : Bool) (hne : fs.exists p = false) : (fs.add p d).isDir p = d := by
  have hnone : fs.find? p = none := FS.find?_none.mpr (exists_false_iff.mp hne)
  simp [FS.isDir, FS.find?_add, hnone]

theorem isDir_renamed_dst {fs : FS} {p q : P} {e : Ent} (ok : RenameOK fs p q e) (hwf : fs.WF) :
    (fs.renamed p q).isDir q = e.isDir := by
  simp [FS.isDir, ok.find_renamed_dest hwf, rwEnt]

theorem emitRec_stopped (fs : FS) (r : Bool) (st : EmSt) (x : WRec) :
    (emitRec fs r st x).1.stopped = (st.stopped || x.act == .removedSelf) := by
  obtain ⟨a, p⟩ := x
  cases a
  case renamedNew => simp only [emitRec]; split <;> exact (Bool.or_false _).symm
  case removedSelf => exact (Bool.or_true _).symm
  all_goals exact (Bool.or_false _).symm

theorem emitBatch_stopped (fs : FS) (r : Bool) (st : EmSt) (recs : List WRec) :
    (emitBatch fs r st recs).1.stopped = (st.stopped || recs.any (fun x => x.act == .removedSelf)) := by
  induction recs generalizing st with
  | nil => simp [emitBatch_nil]
  | cons x rest ih => simp [emitBatch_cons, ih, emitRec_stopped, Bool.or_assoc]

theorem emitBatch_single (fs : FS) (r : Bool) (st : EmSt) (x : WRec) : emitBatch fs r st [x] = emitRec fs r st x := rfl

theorem emitBatch_one (fs : FS) (r : Bool) (st : EmSt) (c : Bool) (x : WRec) :
    emitBatch fs r st (if c then [x] else []) = if c then emitRec fs r st x else (st, []) := by
  cases c <;> rfl

theorem emitRec_added {fs : FS} {p : P} {d : Bool} (h : fs.isDir p = d) (r : Bool) (st : EmSt) :
    emitRec fs r st ⟨.added, p⟩ = (st, [mkEv (createdCls d) p] ++ (if d && r then subCreated fs p else [])) := by
  subst h; rfl

theorem emitRec_renamedNew {fs : FS} {q : P} {d : Bool} (h : fs.isDir q = d) (r : Bool) {st : EmSt} (hl : st.lastOld ≠ []) :
    emitRec fs r st ⟨.renamedNew, q⟩ =
      (st, [mkEv (movedCls d) st.lastOld q] ++ (if d && r then subMoved fs st.lastOld q else [])) := by
  subst h
  cases hd : fs.isDir q <;> simp [emitRec, hd, movedCls, subMovedW, hl]

theorem emitRec_renamedOld (fs : FS) (r : Bool) (st : EmSt) (p : P) :
    emitRec fs r st ⟨.renamedOld, p⟩ = ({ st with lastOld := p }, []) := rfl

theorem fsAfter_create (fs : FS) (p : P) : fsAfter fs (.create p) = fs.add p false := rfl
theorem fsAfter_mkdir (fs : FS) (p : P) : fsAfter fs (.mkdir p) = fs.add p true := rfl
theorem fsAfter_write (fs : FS) (p : P) : fsAfter fs (.write p) = fs := rfl

theorem winValid_valid {fs : FS} {op : Op} (h : winValid fs op = true) : validOp fs op = true := by
  simp only [winValid, Bool.and_eq_true] at h; exact h.1

/-- C20 (Windows, one operation): the events delivered for the records of one valid operation, read after
    the operation, are the Windows contract's; the emitter stops exactly when the contract says so -/
theorem win_step {fs : FS} (hwf : fs.WF) (r : Bool) (st : EmSt) (op : Op) (hv : winValid fs op = true) :
    (emitBatch (fsAfter fs op) r st (winRecs fs r op)).2 = (winContract fs r op).1 ∧
    (emitBatch (fsAfter fs op) r st (winRecs fs r op)).1.stopped = (st.stopped || (winContract fs r op).2) := by
  have hv := winValid_valid hv
  cases op with
  | create p =>
    obtain ⟨hp, hne, hpar⟩ := validOp_create hv
    simp only [winRecs, winContract, fsAfter_create, emitBatch_one, emitRec_added (isDir_add_self false hne)]
    cases vis r p <;> exact ⟨rfl, (Bool.or_false _).symm⟩
  | mkdir p =>
    obtain ⟨hp, hne, hpar⟩ := validOp_mkdir hv
    have h2 : subCreated (fs.add p true) p = [] := by
      simp only [subCreated, List.map_eq_nil_iff, FS.descendants, List.filter_eq_nil_iff]
      intro e he
      rcases FS.mem_add.mp he with he | he
      · rw [FS.WF.no_descendants_of_missing hwf (ne_nil_of_two_le hp) hne e he]; simp
      · subst he; simp [isUnder_irrefl]
    simp only [winRecs, winContract, fsAfter_mkdir, emitBatch_one, emitRec_added (isDir_add_self true hne), h2, ite_self]
    cases vis r p <;> exact ⟨rfl, (Bool.or_false _).symm⟩
  | write p =>
    have hf : fs.isDir p = false := by
      obtain ⟨e, he, hd⟩ := FS.isFile_iff.mp hv
      simp [FS.isDir, he, hd]
    simp only [winRecs, winContract, fsAfter_write, emitBatch_one, emitRec, hf]
    cases vis r p <;> exact ⟨rfl, (Bool.or_false _).symm⟩
  | chmod p | unlink p =>
    simp only [winRecs, winContract, fsAfter_chmod, emitBatch_one, emitRec]
    cases vis r p <;> exact ⟨rfl, (Bool.or_false _).symm⟩
  | rmdir p =>
    by_cases hw : p = ["W"]
    · subst hw; exact ⟨rfl, (Bool.or_true _).symm⟩
    · have hb : (p == ["W"]) = false := beq_eq_false_iff_ne.mpr hw
      simp only [winRecs, winContract, hb, Bool.false_eq_true, if_false, emitBatch_one, emitRec]
      cases vis r p <;> exact ⟨rfl, (Bool.or_false _).symm⟩
  | rmtree p | rmtreeOrd p order =>
    simp only [winRecs, winContract]
    rw [emitBatch_removed]
    exact ⟨rfl, (Bool.or_false _).symm⟩
  | rename p q =>
    obtain ⟨e, ok⟩ := renameOK_of_valid hv
    have hd : fs.isDir p = e.isDir := by simp [FS.isDir, ok.he]
    have hdq := isDir_renamed_dst ok hwf
    simp only [winRecs, winContract, fsAfter_rename ok, hd]
    cases vis r p <;> cases vis r q <;> simp only [Bool.false_and, Bool.and_false, Bool.and_self, Bool.false_eq_true, if_false, if_true]
    · exact ⟨rfl, (Bool.or_false _).symm⟩
    · rw [emitBatch_single, emitRec_added hdq]
      exact ⟨rfl, (Bool.or_false _).symm⟩
    · exact ⟨rfl, (Bool.or_false _).symm⟩
    · have hl : ({ st with lastOld := p } : EmSt).lastOld ≠ [] := ne_nil_of_two_le ok.hp2
      rw [emitBatch_cons, emitRec_renamedOld, emitBatch_single, emitRec_renamedNew hdq r hl]
      exact ⟨rfl, (Bool.or_false _).symm⟩

end WD.Win
