/- several FILE operations per ReadDirectoryChangesW read: the emitter delivers what it delivers when each operation is
   read on its own -/
import WD.Proofs.Win.Run
namespace WD.Win
open WD WD.Pipe

theorem isDir_fileOp {fs : FS} (hwf : fs.WF) {op : Op} (hv : winValid fs op = true) (hk : winFileKind fs op = true) (x : P) :
    (fsAfter fs op).isDir x = fs.isDir x := by
  have hvv := winValid_valid hv
  cases op with
  | create p =>
    obtain ⟨hp, hne, hpar⟩ := validOp_create hvv
    rw [fsAfter_create]
    by_cases hx : x = p
    · subst hx
      rw [isDir_add_self false hne]
      cases h : fs.find? x with
      | none => simp [FS.isDir, h]
      | some e => simp [FS.exists, h] at hne
    · simp [FS.isDir, FS.find?_add, Ne.symm hx]
  | write p => rfl
  | chmod p => rw [fsAfter_chmod]
  | unlink p =>
    have hv' : fs.isFile p = true := by simpa [validOp] using hvv
    obtain ⟨f, hf, hfile⟩ := FS.isFile_iff.mp hv'
    have hfp : f.path = p := (FS.find?_some hf).2
    have h1 : fsAfter fs (.unlink p) = fs.del p := by
      simp only [fsAfter, kernelOp, hf, removeEntry, hfile, FS.del, hfp]
    rw [h1]
    by_cases hx : x = p
    · subst hx; simp [FS.isDir, FS.find?_del, hf, hfile]
    · rw [FS.isDir_del hx]
  | rename p q =>
    obtain ⟨e, ok⟩ := renameOK_of_valid hvv
    have hfile : e.isDir = false := by
      obtain ⟨f, hf, hff⟩ := FS.isFile_iff.mp hk
      rw [ok.he] at hf; cases hf; exact hff
    rw [fsAfter_rename ok]
    have hwfR := ok.wf hwf
    have hem := FS.find?_some ok.he
    have fixed : ∀ d ∈ fs.ents, d.isDir = true → rwEnt p q d = d ∧ d.path ≠ q := by
      intro d hd hdd
      have h1 : d.path ≠ p := by
        intro h; have := hwf.path_inj hd hem.1 (h.trans hem.2.symm); subst this; rw [hfile] at hdd; cases hdd
      have h2 : isUnder p d.path = false := by
        cases hu : isUnder p d.path with
        | false => rfl
        | true =>
          exfalso
          have hpd := hwf.ancestor_dir _ d hd rfl p (ne_nil_of_two_le ok.hp2) hu
          obtain ⟨f, hf, hfd⟩ := FS.isDir_iff.mp hpd
          rw [ok.he] at hf; cases hf; rw [hfile] at hfd; cases hfd
      refine ⟨rwEnt_fixed h1 h2, ?_⟩
      intro hq
      have hold := ok.hold d (by rw [← hq]; exact FS.find?_of_mem hwf.paths hd)
      rw [hdd, hfile] at hold; cases hold.1
    apply Bool.eq_iff_iff.mpr
    constructor
    · intro h
      obtain ⟨y, hy, hyd⟩ := FS.isDir_iff.mp h
      have hym := FS.find?_some hy
      obtain ⟨d, hd, hdq, rfl⟩ := FS.mem_renamed.mp hym.1
      have hdd : d.isDir = true := by simpa [rwEnt] using hyd
      obtain ⟨hfix, _⟩ := fixed d hd hdd
      rw [hfix] at hym
      exact FS.isDir_iff.mpr ⟨d, by rw [← hym.2]; exact FS.find?_of_mem hwf.paths hd, hdd⟩
    · intro h
      obtain ⟨d, hd, hdd⟩ := FS.isDir_iff.mp h
      have hdm := FS.find?_some hd
      obtain ⟨hfix, hnq⟩ := fixed d hdm.1 hdd
      have hmem : d ∈ (fs.renamed p q).ents := FS.mem_renamed.mpr ⟨d, hdm.1, hnq, hfix.symm⟩
      exact FS.isDir_iff.mpr ⟨d, by rw [← hdm.2]; exact FS.find?_of_mem hwfR.paths hmem, hdd⟩
  | _ => cases hk

theorem emitRec_congr (fs fs' : FS) (rec : Bool) (st : EmSt) (r : WRec) (h1 : fs.isDir r.path = fs'.isDir r.path)
    (h2 : r.act = .added ∨ r.act = .renamedNew → fs.isDir r.path = false) :
    emitRec fs rec st r = emitRec fs' rec st r := by
  obtain ⟨a, p⟩ := r
  cases a <;> simp only [emitRec]
  · have := h2 (Or.inl rfl); simp only at this h1; rw [← h1, this]; simp
  · simp only at h1; rw [h1]
  · have := h2 (Or.inr rfl); simp only at this h1; rw [← h1, this]; simp

theorem emitBatch_congr (fs fs' : FS) (rec : Bool) (recs : List WRec) :
    ∀ (st : EmSt), (∀ r ∈ recs, fs.isDir r.path = fs'.isDir r.path ∧
      (r.act = .added ∨ r.act = .renamedNew → fs.isDir r.path = false)) →
    emitBatch fs rec st recs = emitBatch fs' rec st recs := by
  induction recs with
  | nil => intro st _; rfl
  | cons r rest ih =>
    intro st h
    have hr := h r (List.mem_cons_self ..)
    rw [emitBatch_cons, emitBatch_cons, emitRec_congr fs fs' rec st r hr.1 hr.2,
      ih _ (fun x hx => h x (List.mem_cons_of_mem _ hx))]

theorem mem_one {c : Bool} {x r : WRec} (h : r ∈ (if c then [x] else [])) : r = x := by
  cases c
  · cases h
  · exact List.mem_singleton.mp h

theorem winRecs_file {fs : FS} (hwf : fs.WF) (rec : Bool) {op : Op} (hv : winValid fs op = true)
    (hk : winFileKind fs op = true) :
    ∀ r ∈ winRecs fs rec op, r.act = .added ∨ r.act = .renamedNew → (fsAfter fs op).isDir r.path = false := by
  have hvv := winValid_valid hv
  intro r hr hact
  cases op with
  | create p =>
    obtain rfl := mem_one hr
    exact isDir_add_self false (validOp_create hvv).2.1
  | write p | chmod p | unlink p =>
    obtain rfl := mem_one hr
    rcases hact with h | h <;> cases h
  | rename p q =>
    obtain ⟨e, ok⟩ := renameOK_of_valid hvv
    have hfile : e.isDir = false := by
      obtain ⟨f, hf, hff⟩ := FS.isFile_iff.mp hk
      rw [ok.he] at hf; cases hf; exact hff
    have hdq : (fsAfter fs (.rename p q)).isDir q = false := by
      rw [fsAfter_rename ok, isDir_renamed_dst ok hwf, hfile]
    have : r.path = q := by
      revert hr
      simp only [winRecs]
      cases vis rec p <;> cases vis rec q <;> intro hr <;> simp at hr
      · subst hr; rfl
      · subst hr; rcases hact with h | h <;> cases h
      · rcases hr with rfl | rfl
        · rcases hact with h | h <;> cases h
        · rfl
    rw [this]; exact hdq
  | _ => cases hk

theorem fileOp_not_rootRemoval {fs : FS} {op : Op} (hk : winFileKind fs op = true) : op ≠ .rmdir ["W"] := by
  intro h; subst h; cases hk

theorem isDir_burst (rec : Bool) (ops : List Op) : ∀ (fs : FS), fs.WF → winAllFile fs ops = true →
    ∀ x, (winRecsAll fs rec ops).1.isDir x = fs.isDir x := by
  induction ops with
  | nil => intro fs _ _ x; rfl
  | cons op rest ih =>
    intro fs hwf h x
    simp only [winAllFile, Bool.and_eq_true] at h
    obtain ⟨⟨hv, hk⟩, hrest⟩ := h
    simp only [winRecsAll]
    rw [ih (fsAfter fs op) (wf_after hwf op (winValid_valid hv) (fileOp_not_rootRemoval hk)) hrest x,
      isDir_fileOp hwf hv hk x]

theorem winRecsAll_fs (rec : Bool) (ops : List Op) (s : WSys) : (winRecsAll s.fs rec ops).1 = (s.run ops).1.fs := by
  induction ops generalizing s with
  | nil => rfl
  | cons op rest ih =>
    simp only [winRecsAll, WSys.run]
    have := ih (s.op op).1
    rw [WSys.op_fs] at this
    exact this

/-- **several operations per read, file operations**: a burst of file operations (creations, writes, attribute changes,
    removals, renames and moves of files) whose records reach `queue_events` in ONE read after the last of them leaves the
    emitter in the same state and delivers the same events, in the same order, as one read per operation -/
theorem burst_files (ops : List Op) : ∀ (s : WSys), s.fs.WF → s.st.stopped = false → winAllFile s.fs ops = true →
    s.burst ops = ((s.run ops).1, (s.run ops).2.flatten) := by
  induction ops with
  | nil =>
    intro s _ hs _
    simp [WSys.burst, winRecsAll, hs, WSys.run, emitBatch_nil]
  | cons op rest ih =>
    intro s hwf hs h
    simp only [winAllFile, Bool.and_eq_true] at h
    obtain ⟨⟨hv, hk⟩, hrest⟩ := h
    have hne := fileOp_not_rootRemoval hk
    have hwf1 : (fsAfter s.fs op).WF := wf_after hwf op (winValid_valid hv) hne
    have hs1 : (s.op op).1.st.stopped = false := by
      rw [(WSys.op_contract s op hwf hs hv).2]
      exact Bool.eq_false_iff.mpr (fun hc => hne ((winContract_stop_iff s.fs s.recursive op).mp hc))
    have ih1 := ih (s.op op).1 (by rw [WSys.op_fs]; exact hwf1) hs1 (by rw [WSys.op_fs]; exact hrest)
    -- the first operation's records mean the same against the final file system
    have hcongr : emitBatch (winRecsAll (fsAfter s.fs op) s.recursive rest).1 s.recursive s.st (winRecs s.fs s.recursive op) =
        emitBatch (fsAfter s.fs op) s.recursive s.st (winRecs s.fs s.recursive op) :=
      (emitBatch_congr _ _ _ _ _ (fun r hr =>
        ⟨(isDir_burst s.recursive rest (fsAfter s.fs op) hwf1 hrest _).symm, winRecs_file hwf s.recursive hv hk r hr⟩)).symm
    rw [WSys.op_running s op [] hs] at ih1 hs1
    dsimp only at hs1
    simp only [WSys.burst, hs1, Bool.false_eq_true, if_false, Prod.mk.injEq] at ih1
    simp only [WSys.burst, WSys.run, winRecsAll, hs, Bool.false_eq_true, if_false, WSys.op_running s op [] hs, emitBatch_append,
      hcongr, List.flatten_cons, ← ih1.1, ← ih1.2]

end WD.Win
