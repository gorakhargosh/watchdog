/- replaying the Windows contract: the events that change the replayed tree are those of the inotify
   contract (up to the kind of a deletion, which the replay does not look at) -/
import WD.Proofs.Win.Step
namespace WD.Win
open WD WD.Pipe

/-- what the replay looks at in an event -/
inductive Key
  | cr (p : P) (d : Bool) | del (p : P) | mv (p q : P) (d : Bool)
  deriving DecidableEq, Repr

def key (e : PEv) : Option Key :=
  match e.cls.eventType with
  | "created" => some (.cr e.src e.cls.isDirectory)
  | "deleted" => some (.del e.src)
  | "moved" => some (.mv e.src e.dest e.cls.isDirectory)
  | _ => none

def applyKey (t : Tree) : Key → Tree
  | .cr p d => setEntry t p d
  | .del p => eraseSub t p
  | .mv p q d =>
    let t1 := if p = [] then t else eraseSub t p
    if q = [] then t1 else setEntry t1 q d

def replayK (t : Tree) (ks : List Key) : Tree := ks.foldl applyKey t

theorem key_created {e : PEv} (h : e.cls.eventType = "created") : key e = some (.cr e.src e.cls.isDirectory) := by simp [key, h]
theorem key_deleted {e : PEv} (h : e.cls.eventType = "deleted") : key e = some (.del e.src) := by simp [key, h]
theorem key_moved {e : PEv} (h : e.cls.eventType = "moved") : key e = some (.mv e.src e.dest e.cls.isDirectory) := by simp [key, h]
theorem key_other {e : PEv} (h : e.cls.eventType ≠ "created" ∧ e.cls.eventType ≠ "deleted" ∧ e.cls.eventType ≠ "moved") :
    key e = none := by
  simp only [key]
  split
  · exact absurd ‹_› h.1
  · exact absurd ‹_› h.2.1
  · exact absurd ‹_› h.2.2
  · rfl

theorem applyEv_key (t : Tree) (e : PEv) : applyEv t e = match key e with | some k => applyKey t k | none => t := by
  obtain ⟨c, p, q, s⟩ := e
  by_cases h1 : c.eventType = "created"
  · rw [applyEv_created t c h1, key_created h1]; rfl
  · by_cases h2 : c.eventType = "deleted"
    · rw [applyEv_deleted t c h2, key_deleted h2]; rfl
    · by_cases h3 : c.eventType = "moved"
      · rw [applyEv_moved t c h3, key_moved h3]; rfl
      · rw [applyEv_other t c ⟨h1, h2, h3⟩, key_other ⟨h1, h2, h3⟩]

theorem replay_eq_replayK (t : Tree) (evs : List PEv) : replay t evs = replayK t (evs.filterMap key) := by
  induction evs generalizing t with
  | nil => rfl
  | cons e rest ih =>
    rw [replay_cons, ih, applyEv_key]
    cases h : key e with
    | none => simp [h]
    | some k => simp [h, replayK]

theorem replay_congr (t : Tree) {a b : List PEv} (h : a.filterMap key = b.filterMap key) : replay t a = replay t b := by
  rw [replay_eq_replayK, replay_eq_replayK, h]

@[simp] theorem key_mk_fcreated (p q : P) (s : Bool) : key (mkEv .FileCreatedEvent p q s) = some (.cr p false) := key_created rfl
@[simp] theorem key_mk_dcreated (p q : P) (s : Bool) : key (mkEv .DirCreatedEvent p q s) = some (.cr p true) := key_created rfl
@[simp] theorem key_mk_fdeleted (p q : P) (s : Bool) : key (mkEv .FileDeletedEvent p q s) = some (.del p) := key_deleted rfl
@[simp] theorem key_mk_ddeleted (p q : P) (s : Bool) : key (mkEv .DirDeletedEvent p q s) = some (.del p) := key_deleted rfl
@[simp] theorem key_mk_fmoved (p q : P) (s : Bool) : key (mkEv .FileMovedEvent p q s) = some (.mv p q false) := key_moved rfl
@[simp] theorem key_mk_dmoved (p q : P) (s : Bool) : key (mkEv .DirMovedEvent p q s) = some (.mv p q true) := key_moved rfl
theorem modified_other : "modified" ≠ "created" ∧ "modified" ≠ "deleted" ∧ "modified" ≠ "moved" := by simp
@[simp] theorem key_mk_fmod (p q : P) (s : Bool) : key (mkEv .FileModifiedEvent p q s) = none := key_other modified_other
@[simp] theorem key_mk_dmod (p q : P) (s : Bool) : key (mkEv .DirModifiedEvent p q s) = none := key_other modified_other
@[simp] theorem key_mk_opened (p q : P) (s : Bool) : key (mkEv .FileOpenedEvent p q s) = none :=
  key_other (show "opened" ≠ "created" ∧ "opened" ≠ "deleted" ∧ "opened" ≠ "moved" by simp)
@[simp] theorem key_mk_closed (p q : P) (s : Bool) : key (mkEv .FileClosedEvent p q s) = none :=
  key_other (show "closed" ≠ "created" ∧ "closed" ≠ "deleted" ∧ "closed" ≠ "moved" by simp)
@[simp] theorem key_dirMod (p : P) : key (dirMod p) = none := by simp [dirMod]
@[simp] theorem key_mk_created (d : Bool) (p q : P) (s : Bool) : key (mkEv (createdCls d) p q s) = some (.cr p d) := by
  cases d <;> simp [createdCls]
@[simp] theorem key_mk_moved (d : Bool) (p q : P) (s : Bool) : key (mkEv (movedCls d) p q s) = some (.mv p q d) := by
  cases d <;> simp [movedCls]

theorem keys_mod (c d : Bool) (p : P) :
    (if c = true then [mkEv (if d = true then EvClass.DirModifiedEvent else .FileModifiedEvent) p] else []).filterMap key = [] := by
  cases c <;> cases d <;> simp
theorem keys_dmod (c : Bool) (p : P) : (if c = true then [mkEv EvClass.DirModifiedEvent p] else []).filterMap key = [] := by
  cases c <;> simp

theorem keys_evDeleted (d : Bool) (p : P) : (evDeleted d p).filterMap key = [.del p] := by
  cases d <;> simp [evDeleted]

theorem keys_removals {fs : FS} (hwf : fs.WF) (r : Bool) (ps : List P)
    (h : ∀ q ∈ ps, 2 ≤ q.length ∧ ∃ e, fs.find? q = some e) :
    (ps.flatMap (fun p => if vis r p then [mkEv .FileDeletedEvent p] else [])).filterMap key =
      (contractRemovals fs r (ps.filterMap fs.find?)).filterMap key := by
  induction ps with
  | nil => rfl
  | cons q rest ih =>
    obtain ⟨hq2, e, he⟩ := h q (List.mem_cons_self ..)
    have hem := FS.find?_some he
    have hpar := hwf.parent_dir he hq2
    have ih' := ih (fun x hx => h x (List.mem_cons_of_mem _ hx))
    simp only [List.flatMap_cons, List.filterMap_append, List.filterMap_cons, he, contractRemovals, hem.2] at ih' ⊢
    rw [ih', ← vis_watched r hq2 hpar]
    cases vis r q
    · simp
    · simp [keys_evDeleted]

theorem validRmtree_paths {fs : FS} {p : P} {order : List P} (h : validRmtree fs p order = true) :
    (∀ q ∈ order ++ [p], 2 ≤ q.length ∧ ∃ e, fs.find? q = some e) := by
  simp only [validRmtree, Bool.and_eq_true, decide_eq_true_eq, List.all_eq_true] at h
  obtain ⟨⟨⟨⟨⟨hp2, hd⟩, hall⟩, _⟩, _⟩, _⟩ := h
  intro q hq
  rcases List.mem_append.mp hq with hq | hq
  · have := hall q hq
    refine ⟨?_, FS.exists_iff.mp this.2⟩
    have := isUnder_length this.1; omega
  · simp at hq; subst hq
    obtain ⟨e, he, _⟩ := FS.isDir_iff.mp hd
    exact ⟨hp2, e, he⟩

theorem filterMap_find_snoc {fs : FS} {p : P} (order : List P) :
    (order ++ [p]).filterMap fs.find? = order.filterMap fs.find? ++ (fs.find? p).toList := by
  cases h : fs.find? p <;> simp [List.filterMap_append, h]

theorem keys_del_one {fs : FS} (hwf : fs.WF) (r : Bool) {p : P} {e : Ent} (he : fs.find? p = some e) (hp2 : 2 ≤ p.length) (d : Bool) :
    (if vis r p then [mkEv .FileDeletedEvent p] else []).filterMap key =
      (if watchedDir fs r (parentOf p) && fs.exists p then evDeleted d p else []).filterMap key := by
  rw [← vis_watched r hp2 (hwf.parent_dir he hp2), FS.exists_iff.mpr ⟨e, he⟩, Bool.and_true]
  cases vis r p
  · rfl
  · simp [keys_evDeleted]

theorem keys_eq {fs : FS} (hwf : fs.WF) (r : Bool) (op : Op) (hv : winValid fs op = true) (hroot : op ≠ .rmdir ["W"]) :
    (winContract fs r op).1.filterMap key = (contract fs r false op).1.filterMap key := by
  have hx := hv
  replace hv := winValid_valid hv
  cases op with
  | create p =>
    obtain ⟨hp, hne, hpar⟩ := validOp_create hv
    simp only [winContract, contract, ← vis_watched r hp hpar]
    cases vis r p <;> simp
  | mkdir p =>
    obtain ⟨hp, hne, hpar⟩ := validOp_mkdir hv
    simp only [winContract, contract, ← vis_watched r hp hpar]
    cases vis r p <;> simp
  | write p =>
    simp only [validOp] at hv
    obtain ⟨e, he, _, hp2⟩ := hwf.file hv
    simp only [winContract, contract, ← vis_watched r hp2 (hwf.parent_dir he hp2)]
    cases h : vis r p <;> simp
  | chmod p =>
    simp only [winContract, contract, keys_mod]
    cases fs.find? p with
    | none => rfl
    | some e => simp only [List.filterMap_append, keys_mod, keys_dmod]; rfl
  | unlink p =>
    obtain ⟨e, he, _, hp2⟩ := hwf.file hv
    exact keys_del_one hwf r he hp2 false
  | rmdir p =>
    have hv' := hv
    simp only [validOp, Bool.and_eq_true, Bool.or_eq_true, decide_eq_true_eq, beq_iff_eq] at hv'
    have hw : p ≠ ["W"] := fun h => hroot (h ▸ rfl)
    obtain ⟨e, he, _⟩ := FS.isDir_iff.mp hv'.1.2
    simp only [winContract, contract, beq_eq_false_iff_ne.mpr hw, Bool.false_eq_true, if_false]
    exact keys_del_one hwf r he (hv'.1.1.resolve_right hw) true
  | rmtree p | rmtreeOrd p order =>
    simp only [winContract, contract]
    rw [← filterMap_find_snoc]
    exact keys_removals hwf r _ (validRmtree_paths hv)
  | rename p q =>
    obtain ⟨e, ok⟩ := renameOK_of_valid hv
    have hq : fs.find? q = none := by
      cases h : fs.find? q with
      | none => rfl
      | some x => simp [winValid, FS.exists, h] at hx
    have hd : fs.isDir p = e.isDir := by simp [FS.isDir, ok.he]
    have hpp := hwf.parent_dir ok.he ok.hp2
    simp only [winContract, contract, ok.he, fsAfter_rename ok, hd, renameTail, hq,
      ← vis_watched r ok.hp2 hpp, ← vis_watched r ok.hq2 ok.hqpar]
    cases vis r p <;> cases vis r q <;> simp [keys_evDeleted]

end WD.Win
