/- whole histories through the Windows layer: contract refinement, replay, MODIFIED noise -/
import WD.Proofs.Win.Replay
namespace WD.Win
open WD WD.Pipe

theorem winContract_stop_iff (fs : FS) (r : Bool) (op : Op) : (winContract fs r op).2 = true ↔ op = .rmdir ["W"] := by
  cases op with
  | rmdir p =>
    by_cases h : p = ["W"]
    · subst h; exact ⟨fun _ => rfl, fun _ => rfl⟩
    · have hb : (p == ["W"]) = false := beq_eq_false_iff_ne.mpr h
      simp only [winContract, hb, Bool.false_eq_true, if_false, false_iff]
      exact fun hh => h (Op.rmdir.inj hh)
  | rename p q =>
    simp only [winContract, apply_ite Prod.snd, ite_self, Bool.false_eq_true, false_iff]
    exact fun h => nomatch h
  | _ => exact ⟨fun h => (nomatch h), fun h => (nomatch h)⟩

theorem WSys.op_fs (s : WSys) (op : Op) (cut : List Nat) : (s.op op cut).1.fs = fsAfter s.fs op := by
  simp only [WSys.op]; split <;> rfl
theorem WSys.op_rec (s : WSys) (op : Op) (cut : List Nat) : (s.op op cut).1.recursive = s.recursive := by
  simp only [WSys.op]; split <;> rfl

theorem WSys.run_stopped (s : WSys) (ops : List Op) (h : s.st.stopped = true) : (s.run ops).2 = ops.map (fun _ => []) := by
  induction ops generalizing s with
  | nil => rfl
  | cons op rest ih =>
    have h1 : s.op op = ({ s with fs := fsAfter s.fs op }, []) := by simp [WSys.op, h]
    simp only [WSys.run, h1, List.map_cons]
    rw [ih { s with fs := fsAfter s.fs op } h]

theorem WSys.op_running (s : WSys) (op : Op) (cut : List Nat) (hs : s.st.stopped = false) :
    s.op op cut = ({ s with fs := fsAfter s.fs op, st := (emitBatch (fsAfter s.fs op) s.recursive s.st (winRecs s.fs s.recursive op)).1 },
      (emitBatch (fsAfter s.fs op) s.recursive s.st (winRecs s.fs s.recursive op)).2) := by
  simp only [WSys.op, hs, Bool.false_eq_true, if_false, emitBatches_flatten, cutInto_flatten]

theorem WSys.op_contract (s : WSys) (op : Op) (hwf : s.fs.WF) (hs : s.st.stopped = false) (hv : winValid s.fs op = true) :
    (s.op op).2 = (winContract s.fs s.recursive op).1 ∧
    (s.op op).1.st.stopped = (winContract s.fs s.recursive op).2 := by
  rw [WSys.op_running s op [] hs]
  simpa [hs] using win_step hwf s.recursive s.st op hv

/-- C20 (Windows): for every history the file system accepts, every operation drained, the delivered
    stream is the Windows contract's, operation by operation -/
theorem run_contract (s : WSys) (ops : List Op) (hwf : s.fs.WF) (hs : s.st.stopped = false)
    (hv : winFsValid s.fs ops = true) : (s.run ops).2 = winContractRun s.fs s.recursive ops := by
  induction ops generalizing s with
  | nil => rfl
  | cons op rest ih =>
    simp only [winFsValid, Bool.and_eq_true] at hv
    obtain ⟨h1, h2⟩ := WSys.op_contract s op hwf hs hv.1
    simp only [WSys.run, winContractRun, h1]
    congr 1
    cases hstop : (winContract s.fs s.recursive op).2 with
    | true =>
      simp only [if_true]
      exact WSys.run_stopped _ _ (h2.trans hstop)
    | false =>
      simp only [Bool.false_eq_true, if_false]
      have hne : op ≠ .rmdir ["W"] := fun h => by
        have := (winContract_stop_iff s.fs s.recursive op).mpr h
        rw [hstop] at this; cases this
      have := ih (s.op op).1 (by rw [WSys.op_fs]; exact wf_after hwf op (winValid_valid hv.1) hne)
        (h2.trans hstop) (by rw [WSys.op_fs]; exact hv.2)
      rw [WSys.op_fs, WSys.op_rec] at this
      exact this

/-- the same with every operation's records cut into reads at arbitrary places -/
theorem runCuts_eq_run (s : WSys) (ops : List (Op × List Nat)) : s.runCuts ops = s.run (ops.map Prod.fst) := by
  induction ops generalizing s with
  | nil => rfl
  | cons x rest ih =>
    obtain ⟨op, cut⟩ := x
    simp only [WSys.runCuts, WSys.run, List.map_cons, cut_irrelevant s op cut, ih]

/-- the tree the watch is accountable for: everything below the root, or its direct children -/
def treeOf (recursive : Bool) (fs : FS) : Tree := if recursive then treeW fs else treeW1 fs

theorem win_replay_contract {fs : FS} (hwf : fs.WF) (r : Bool) (op : Op) (hv : winValid fs op = true) (hroot : op ≠ .rmdir ["W"]) :
    sameTree (replay (treeOf r fs) (winContract fs r op).1) (treeOf r (fsAfter fs op)) := by
  rw [replay_congr _ (keys_eq hwf r op hv hroot)]
  cases r
  · exact replay_contract_any hwf false false op (winValid_valid hv)
  · exact replay_contract hwf false op (winValid_valid hv)

/-- a history replays to the final tree as soon as the contract events of every single operation do (`run` is the
    contract of a history built from the per-operation contract `c`, as `winContractRun` is from `winContract`) -/
theorem replay_run_of_step {T : FS → Tree} {c : FS → Op → List PEv × Bool} {run : FS → List Op → List (List PEv)}
    (hnil : ∀ fs, run fs [] = [])
    (hcons : ∀ fs op rest, run fs (op :: rest) =
      (c fs op).1 :: (if (c fs op).2 then rest.map (fun _ => []) else run (fsAfter fs op) rest))
    (hstop : ∀ fs op, (c fs op).2 = true ↔ op = .rmdir ["W"])
    (hstep : ∀ {fs : FS}, fs.WF → ∀ op, winValid fs op = true → op ≠ .rmdir ["W"] →
      sameTree (replay (T fs) (c fs op).1) (T (fsAfter fs op)))
    {fs : FS} (hwf : fs.WF) (ops : List Op) (hv : winFsValid fs ops = true) (hroot : Op.rmdir ["W"] ∉ ops) :
    sameTree (replay (T fs) (run fs ops).flatten) (T (fsRun fs ops)) := by
  induction ops generalizing fs with
  | nil => rw [hnil]; exact sameTree_refl _
  | cons op rest ih =>
    simp only [winFsValid, Bool.and_eq_true] at hv
    have hne : op ≠ .rmdir ["W"] := fun h => hroot (h ▸ List.mem_cons_self ..)
    have hst : (c fs op).2 = false := Bool.eq_false_iff.mpr (fun h => hne ((hstop fs op).mp h))
    rw [hcons, hst]
    simp only [Bool.false_eq_true, if_false, List.flatten_cons, replay_append, fsRun]
    exact sameTree_trans (sameTree_replay (hstep hwf op hv.1 hne) _)
      (ih (wf_after hwf op (winValid_valid hv.1) hne) hv.2 (fun h => hroot (List.mem_cons_of_mem _ h)))

theorem win_replay_run (r : Bool) {fs : FS} (hwf : fs.WF) (ops : List Op) (hv : winFsValid fs ops = true) (hroot : Op.rmdir ["W"] ∉ ops) :
    sameTree (replay (treeOf r fs) (winContractRun fs r ops).flatten) (treeOf r (fsRun fs ops)) :=
  replay_run_of_step (c := fun fs => winContract fs r) (run := fun fs => winContractRun fs r) (fun _ => rfl)
    (fun _ _ _ => rfl) (fun fs => winContract_stop_iff fs r) (fun hwf => win_replay_contract hwf r) hwf ops hv hroot

def strip (recs : List WRec) : List WRec := recs.filter (fun r => r.act != .modified)

theorem emitBatch_strip (fs : FS) (r : Bool) (st : EmSt) (recs : List WRec) :
    (emitBatch fs r st recs).1 = (emitBatch fs r st (strip recs)).1 ∧
    (emitBatch fs r st recs).2.filterMap key = (emitBatch fs r st (strip recs)).2.filterMap key := by
  induction recs generalizing st with
  | nil => exact ⟨rfl, rfl⟩
  | cons x rest ih =>
    by_cases hx : x.act = .modified
    · have h1 : strip (x :: rest) = strip rest := by simp [strip, hx]
      have h2 : (emitRec fs r st x).1 = st := by obtain ⟨a, p⟩ := x; simp at hx; subst hx; rfl
      have h3 : (emitRec fs r st x).2.filterMap key = [] := by
        obtain ⟨a, p⟩ := x; simp at hx; subst hx
        simp only [emitRec]
        cases fs.isDir p <;> simp
      rw [h1, emitBatch_cons, h2]
      exact ⟨(ih st).1, by simp [List.filterMap_append, h3, (ih st).2]⟩
    · have h1 : strip (x :: rest) = x :: strip rest := by simp [strip, hx]
      rw [h1, emitBatch_cons, emitBatch_cons]
      exact ⟨(ih _).1, by simp [List.filterMap_append, (ih _).2]⟩

/-- C20 (Windows, noise): extra MODIFIED records anywhere in the stream leave the emitter's state and every
    created / deleted / moved event as they are -/
theorem noise_irrelevant (fs : FS) (r : Bool) (st : EmSt) {recs recs' : List WRec} (h : Noisy recs recs') :
    (emitBatch fs r st recs').1 = (emitBatch fs r st recs).1 ∧
    ∀ t, replay t (emitBatch fs r st recs').2 = replay t (emitBatch fs r st recs).2 := by
  have h1 := emitBatch_strip fs r st recs
  have h2 := emitBatch_strip fs r st recs'
  have hs : strip recs' = strip recs := h
  rw [hs] at h2
  exact ⟨h2.1.trans h1.1.symm, fun t => replay_congr t (h2.2.trans h1.2.symm)⟩

end WD.Win
