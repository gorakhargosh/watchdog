/- `SI` (one starting client ⇒ one dispatcher) is preserved by every completed step, hence holds along every run -/
import WD.Proofs.Observer.SPass
import WD.Proofs.Observer.ModelXEq
namespace WD.ProofsObs
open WD WD.Obs

/-- the dispatcher thread's precondition for its loop head -/
def SD (c : Nat) (s : State) (ti : Nat) : Prop :=
  SI c s (some ti) ∧ ∀ t, s.threads[ti]? = some t → t.kind = .dispatcher

theorem spass_d (c ti : Nat) : ∀ fuel,
    (∀ s s', dLoopX fuel s ti = some s' → SD c s ti → SI c s' none) ∧
    (∀ s s', dGetX fuel s ti = some s' → SD c s ti → SI c s' none) := by
  intro fuel
  induction fuel with
  | zero =>
    exact ⟨fun _ _ h => (nomatch h), fun _ _ h => (nomatch h)⟩
  | succ n ih =>
    refine ⟨?_, ?_⟩
    · intro s s' h hD
      unfold dLoopX at h
      split at h
      · cases h
        exact hD.1.setPc rfl rfl
      · exact ih.2 _ _ h hD
    · intro s s' h hD
      unfold dGetX at h
      simp only [] at h
      split at h
      · cases h
        refine SI.toNone (x := some ti) ?_
        exact hD.1.updThreadD hD.2 _ (fun t => rfl) (fun t => rfl)
      · rename_i item rest hq
        have hD1 : SD c ({ s with queue := rest, last := (match s.last with | some l => if item.same l then none else some l | none => none) } : State) ti :=
          ⟨hD.1.frame rfl rfl, hD.2⟩
        split at h
        · exact ih.1 _ _ h hD1
        · cases h
          refine SI.toNone (x := some ti) ?_
          exact hD1.1.updThreadD hD1.2 _ (fun t => rfl) (fun t => rfl)

structure AllS (c : Nat) (fuel : Nat) : Prop where
  fin : ∀ s ti res s', finishOpX fuel s ti res = some s' → SI c s (some ti) → SI c s' none
  nxt : ∀ s ti s', nextOpX fuel s ti = some s' → SI c s (some ti) → SI c s' none
  sta : ∀ s ti op s', startOpX fuel s ti op = some s' → SI c s (some ti) →
    (op = .start → s.dIdx = none → ti = c) → SI c s' none
  ent : ∀ s ti op s', enterLockedX fuel s ti op = some s' → SI c s (some ti) → SI c s' none
  lck : ∀ s ti op s', lockedX fuel s ti op = some s' → SI c s (some ti) → SI c s' none
  sfin : ∀ s ti h w e s', schedFinishX fuel s ti h w e = some s' → SI c s (some ti) → SI c s' none
  ufin : ∀ s ti w s', unschedFinishX fuel s ti w = some s' → SI c s (some ti) → SI c s' none
  uab : ∀ s ti b s', uallBodyX fuel s ti b = some s' → SI c s (some ti) → SI c s' none
  uajn : ∀ s ti es b s', uallJoinNextX fuel s ti es b = some s' → SI c s (some ti) → SI c s' none
  cit : ∀ s ti s', continueIterX fuel s ti = some s' → SI c s (some ti) → SI c s' none

theorem allS (c : Nat) : ∀ fuel, AllS c fuel := by
  intro fuel
  induction fuel with
  | zero =>
    -- with no fuel left no step completes
    exact ⟨fun _ _ _ _ h => (nomatch h), fun _ _ _ h => (nomatch h), fun _ _ _ _ h => (nomatch h),
      fun _ _ _ _ h => (nomatch h), fun _ _ _ _ h => (nomatch h), fun _ _ _ _ _ _ h => (nomatch h),
      fun _ _ _ _ h => (nomatch h), fun _ _ _ _ h => (nomatch h), fun _ _ _ _ _ h => (nomatch h),
      fun _ _ _ h => (nomatch h)⟩
  | succ n ih =>
    constructor
    ·
      intro s ti res s' h hC
      unfold finishOpX at h
      split at h
      · cases h
      · rename_i t ht
        refine ih.nxt _ _ _ h ?_
        cases hc : t.cur with
        | none => exact (hC.log (.ret t.label t.idx res)).setThreadSame ht _ rfl rfl rfl (fun _ h => h)
        | some op => exact ((hC.log (.did op res)).log (.ret t.label t.idx res)).setThreadSame ht _ rfl rfl rfl (fun _ h => h)
    ·
      intro s ti s' h hC
      unfold nextOpX at h
      split at h
      · cases h
      · rename_i t ht
        split at h
        · rename_i op rest hops
          refine ih.sta _ _ _ _ h (hC.setThreadSame ht _ rfl rfl rfl (fun o ho => by rw [hops]; exact List.mem_cons_of_mem _ ho)) ?_
          intro hop hd
          have hd' : s.dIdx = none := hd
          exact hC.a ti t ht (hC.c hd' ti t ht) (by rw [hops, hop]; exact List.mem_cons_self)
        · split at h
          · exact ih.cit _ _ _ h hC
          · cases h
            exact hC.closeThread ht _ rfl rfl rfl (Or.inl rfl) (fun _ h => h)
    ·
      intro s ti op s' h hC hst
      unfold startOpX at h
      split at h
      · split at h
        · exact ih.fin _ _ _ _ h hC
        · rename_i hns
          have hd : s.dIdx = none := by
            cases hz : s.dIdx with
            | none => rfl
            | some d => rw [hz] at hns; simp at hns
          exact SI.stem hC.toNone (hst rfl hd) hd h
      · split at h
        · exact ih.fin _ _ _ _ h hC
        · split at h
          · exact ih.fin _ _ _ _ h hC
          · cases h
            exact hC.setPc rfl rfl
      · exact ih.ent _ _ _ _ h (hC.frame rfl rfl)
      · split at h
        · cases h
          rename_i t ht
          have hC1 : SI c (if s.lockOwner = some ti then ({ s with lockOwner := none, lockCount := 0 } : State) else s) (some ti) := by
            split
            · exact hC.frame rfl rfl
            · exact hC
          have ht1 : (if s.lockOwner = some ti then ({ s with lockOwner := none, lockCount := 0 } : State) else s).threads[ti]? = some t := by
            split <;> exact ht
          generalize (if s.lockOwner = some ti then ({ s with lockOwner := none, lockCount := 0 } : State) else s) = s1 at hC1 ht1
          exact (hC1.log (.died t.name)).closeThread ht1 _ rfl rfl rfl (Or.inr rfl) (fun _ h => by cases h)
        · cases h
      · exact ih.ent _ _ _ _ h hC
    ·
      intro s ti op s' h hC
      unfold enterLockedX at h
      split at h
      · exact ih.lck _ _ _ _ h (hC.frame rfl rfl)
      · cases h
        exact hC.setPc rfl rfl
    ·
      intro s ti op s' h hC
      unfold lockedX at h
      simp only [] at h
      split at h
      · rename_i h0 w fault
        split at h
        · refine ih.fin _ _ _ _ h ?_
          apply SI.release
          exact hC.frame rfl rfl
        · split at h
          · exact ih.fin _ _ _ _ h hC.release
          · have hC1 : SI c ({ s with emObjs := s.emObjs ++ [({ wid := w, script := (alookup w s.emitScripts).getD [] } : EmObj)] } : State) (some ti) :=
              hC.frame rfl rfl
            split at h
            · split at h
              · exact ih.fin _ _ _ _ h hC1.release
              · cases h
                exact (SI.updEm (hC1.spawnE _ _) _ _).setPc rfl rfl
            · exact ih.sfin _ _ _ _ _ _ h hC1
      · rename_i w
        split at h
        · exact ih.fin _ _ _ _ h hC.release
        · split at h
          · exact ih.fin _ _ _ _ h hC.release
          · rename_i e he hnone
            have hC2 : SI c ((({ s with handlers := aerase w s.handlers, regEm := s.regEm.filter (· != e) } : State).log (.unregW w)).updEm e (fun o => { o with stopped := true })) (some ti) :=
              SI.updEm (SI.log (hC.frame (s' := { s with handlers := aerase w s.handlers, regEm := s.regEm.filter (· != e) }) rfl rfl) _) _ _
            split at h
            · cases h
              exact hC2.setPc rfl rfl
            · exact ih.ufin _ _ _ _ h hC2
      · rename_i h0 w
        refine ih.fin _ _ _ _ h ?_
        apply SI.release
        exact hC.frame rfl rfl
      · rename_i h0 w
        split at h
        · refine ih.fin _ _ _ _ h ?_
          apply SI.release
          exact hC.frame rfl rfl
        · refine ih.fin _ _ _ _ h ?_
          apply SI.release
          exact hC.frame rfl rfl
      · exact ih.uab _ _ _ _ h hC
      · exact ih.uab _ _ _ _ h hC
      · cases h
    ·
      intro s ti h0 w e s' h hC
      unfold schedFinishX at h
      refine ih.fin _ _ _ _ h ?_
      apply SI.release
      exact hC.frame rfl rfl
    ·
      intro s ti w s' h hC
      unfold unschedFinishX at h
      split at h
      · refine ih.fin _ _ _ _ h ?_
        apply SI.release
        exact hC.frame rfl rfl
      · exact ih.fin _ _ _ _ h hC.release
    ·
      intro s ti b s' h hC
      unfold uallBodyX at h
      refine ih.uajn _ _ _ _ _ h ?_
      apply SI.foldUpdEm
      exact hC.frame rfl rfl
    ·
      intro s ti es b s' h hC
      unfold uallJoinNextX at h
      split at h
      · split at h
        · cases h
          exact hC.setPc rfl rfl
        · exact ih.uajn _ _ _ _ _ h hC
      · have hC1 : SI c ({ s with regEm := [], watches := [] } : State).release (some ti) :=
          SI.release (hC.frame rfl rfl)
        split at h
        · refine ih.fin _ _ _ _ h ?_
          exact hC1.putItem _ _ _
        · exact ih.fin _ _ _ _ h hC1
    ·
      intro s ti s' h hC
      unfold continueIterX at h
      simp only [] at h
      split at h
      · cases h
      · rename_i t ht
        split at h
        · cases h
        · rename_i u w v hit
          have hkt : t.kind = .dispatcher := hC.kd ti t ht (Or.inl (by rw [hit]; rfl))
          refine (spass_d c ti n).1 _ _ h ⟨?_, ?_⟩
          · apply SI.release
            exact (hC.log (.dispatchEnd u)).setThreadD ht hkt _ rfl id
          · intro t2 ht2
            have ht2' : ((s.log (.dispatchEnd u)).setThread ti { t with iter := none }).release.thread? ti = some t2 := ht2
            rw [release_thread?, setThread_thread?_self _ (by simpa using ht)] at ht2'
            cases ht2'; exact hkt
        · rename_i u w v h0 rest hit
          have hkt : t.kind = .dispatcher := hC.kd ti t ht (Or.inl (by rw [hit]; rfl))
          have hC0 : SI c (if (alookup w s.handlers).isNone then ({ s with handlers := ainsert w [] s.handlers } : State) else s) (some ti) := by
            split
            · exact hC.frame rfl rfl
            · exact hC
          have ht0 : (if (alookup w s.handlers).isNone then ({ s with handlers := ainsert w [] s.handlers } : State) else s).threads[ti]? = some t := by
            split <;> exact ht
          generalize (if (alookup w s.handlers).isNone then ({ s with handlers := ainsert w [] s.handlers } : State) else s) = s0 at h hC0 ht0
          split at h
          · refine ih.nxt _ _ _ h ?_
            have hC0' : SI c ({ s0 with invoc := ainsert h0 ((alookup h0 s0.invoc).getD 0 + 1) s0.invoc } : State) (some ti) :=
              hC0.frame rfl rfl
            exact (hC0'.log (.call h0 w v u)).setThreadD ht0 hkt _ rfl id
          · refine ih.cit _ _ _ h ?_
            exact (hC0.log (.skip h0 u)).setThreadD ht0 hkt _ rfl id

theorem SI.eLoop {c : Nat} {s : State} (hS : SI c s none) (ti : Nat) (e : Eid) : SI c (eLoop s ti e) none := by
  unfold WD.Obs.eLoop
  split
  · exact hS
  · split
    · exact hS.setPc rfl rfl
    · split
      · exact hS.setPc rfl rfl
      · exact hS.setPc rfl rfl

theorem SI.stepX {c : Nat} {s s' : State} {ti : Nat} (hS : SI c s none) (h : stepX s ti = some s') : SI c s' none := by
  have A := allS c FUEL
  have D := spass_d c ti FUEL
  unfold WD.ProofsObs.stepX at h
  generalize FUEL = F at A D h
  split at h
  · cases h
  · split at h
    · cases h
    · rename_i t ht
      have ht' : s.threads[ti]? = some t := ht
      have hW : sem t.pc = false → SI c s (some ti) := fun hp => hS.weaken ti (fun t2 ht2 => by rw [ht'] at ht2; cases ht2; exact hp)
      split at h
      · rename_i hpc
        have hW' := hW (by rw [hpc]; rfl)
        split at h
        · exact A.nxt _ _ _ h hW'
        · rename_i hk
          exact D.1 _ _ h ⟨hW', fun t2 ht2 => by rw [ht'] at ht2; cases ht2; exact hk⟩
        · cases h; exact hS.eLoop _ _
      · rename_i op hpc
        exact A.lck _ _ _ _ h ((hW (by rw [hpc]; rfl)).frame rfl rfl)
      · rename_i hpc; exact A.sfin _ _ _ _ _ _ h (hW (by rw [hpc]; rfl))
      · rename_i hpc; exact A.ufin _ _ _ _ h (hW (by rw [hpc]; rfl))
      · rename_i hpc; exact A.uajn _ _ _ _ _ h (hW (by rw [hpc]; rfl))
      · rename_i hpc; exact A.uajn _ _ _ _ _ h (hW (by rw [hpc]; rfl))
      · rename_i es hpc
        obtain ⟨h1, h2⟩ := hS.b ti t ht' (by rw [hpc]; rfl)
        exact SI.stem hS h1 h2 h
      · rename_i hpc; exact A.fin _ _ _ _ h (hW (by rw [hpc]; rfl))
      · rename_i hpc; exact A.fin _ _ _ _ h (hW (by rw [hpc]; rfl))
      · rename_i hpc
        have hW' := hW (by rw [hpc]; rfl)
        have hkt : t.kind = .dispatcher := hS.kd ti t ht' (Or.inr (by rw [hpc]; rfl))
        refine D.2 _ _ h ⟨?_, ?_⟩
        · rw [updThread_of_some _ ht]
          exact hW'.setThreadSame ht' _ rfl rfl rfl (fun _ h => h)
        · intro t2 ht2
          have ht2' : (s.updThread ti (fun t => { t with notified := false })).thread? ti = some t2 := ht2
          rw [updThread_thread? _ _ ht] at ht2'
          simp only [if_true] at ht2'
          cases ht2'; exact hkt
      · rename_i u w v hpc
        simp only [] at h
        have hW' := hW (by rw [hpc]; rfl)
        have hkt : t.kind = .dispatcher := hS.kd ti t ht' (Or.inr (by rw [hpc]; rfl))
        have hC2 : SI c (if (alookup w s.handlers).isNone then ({ s with lockOwner := some ti, lockCount := 1, handlers := ainsert w [] s.handlers } : State) else { s with lockOwner := some ti, lockCount := 1 }) (some ti) := by
          split
          · exact hW'.frame rfl rfl
          · exact hW'.frame rfl rfl
        have ht2 : (if (alookup w s.handlers).isNone then ({ s with lockOwner := some ti, lockCount := 1, handlers := ainsert w [] s.handlers } : State) else { s with lockOwner := some ti, lockCount := 1 }).thread? ti = some t := by
          split <;> exact ht
        generalize (if (alookup w s.handlers).isNone then ({ s with lockOwner := some ti, lockCount := 1, handlers := ainsert w [] s.handlers } : State) else { s with lockOwner := some ti, lockCount := 1 }) = s2 at h hC2 ht2
        have ht3 : (s2.log (.dispatch u w (s2.handlersOf w))).thread? ti = some t := by rw [log_thread?]; exact ht2
        rw [updThread_of_some _ ht3] at h
        refine A.cit _ _ _ h ?_
        exact (hC2.log _).setThreadD ht2 hkt _ rfl id
      · split at h
        · split at h
          · split at h
            · cases h
              apply SI.eLoop
              exact (hS.updEm _ _).putItem _ _ _
            · cases h; exact hS.eLoop _ _
          · cases h
        · cases h
      · split at h
        · cases h; exact hS.eLoop _ _
        · cases h
      · cases h

theorem SI.init (clients : List (List Op)) (cbs : List (Hid × List (List Op))) (emit : List (Wid × List Nat)) (c : Nat)
    (hc : ∀ (i : Nat) (ops : List Op), clients[i]? = some ops → Op.start ∈ ops → i = c) :
    SI c (init clients cbs emit) none := by
  refine ⟨fun j t hj _ hm => hc j t.ops (init_thread hj).2.2.2.2 hm, fun j t hj hp => ?_, fun _ j t hj => ?_,
    fun i j hi => ?_, fun j t hx => (nomatch hx), fun j t hj => KD.fresh (init_thread hj).1 (init_thread hj).2.1⟩
  · rw [(init_thread hj).1] at hp; cases hp
  · rw [(init_thread hj).2.2.1]; exact fun h => nomatch h
  · obtain ⟨u, hu, hk⟩ := kinds_get_some hi
    rw [(init_thread hu).2.2.1] at hk; cases hk

/-- `start()` in the script of at most one client (callbacks may contain it too): at most one dispatcher thread, along
    every schedule all of whose steps complete -/
theorem oneD_of_single_starter (clients : List (List Op)) (cbs : List (Hid × List (List Op)))
    (emit : List (Wid × List Nat)) (sched : List Nat) (c : Nat)
    (hc : ∀ (i : Nat) (ops : List Op), clients[i]? = some ops → Op.start ∈ ops → i = c)
    (hok : runOk (init clients cbs emit) sched = true) : oneD (run (init clients cbs emit) sched) :=
  (run_induction (P := fun s => SI c s none) (fun _ _ _ hP h => SI.stepX hP h) sched _
    (SI.init clients cbs emit c hc) hok).d

theorem count_of_oneD {s : State} (h : oneD s) : (s.threads.filter (fun t => t.kind == .dispatcher)).length ≤ 1 :=
  (filter_length_le_one_iff _ _).mpr (fun i j a b ha hb pa pb =>
    h i j (by rw [mem_kinds_of_thread ha, eq_of_beq pa]) (by rw [mem_kinds_of_thread hb, eq_of_beq pb]))

end WD.ProofsObs
