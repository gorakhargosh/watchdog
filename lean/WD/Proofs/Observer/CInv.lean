/- every entry is dispatched at most once, and a finished dispatch has visited every handler of its copy -/
import WD.Proofs.Observer.LInv
namespace WD.ProofsObs
open WD WD.Obs

def NoDisp (u : Nat) (hist : List Obs) : Prop := ∀ w hs, Obs.dispatch u w hs ∉ hist

def notDisp (o : Obs) : Bool := match o with | .dispatch .. => false | _ => true

theorem NoDisp.snoc {u : Nat} {hist : List Obs} {o : Obs} (h : NoDisp u hist) (ho : ∀ w hs, o ≠ .dispatch u w hs) :
    NoDisp u (hist ++ [o]) := by
  intro w hs hm
  simp only [List.mem_append, List.mem_singleton] at hm
  rcases hm with hm | hm
  · exact h w hs hm
  · exact ho w hs hm.symm

theorem notDisp_ne {o : Obs} (ho : notDisp o = true) (u : Nat) (w : Wid) (hs : List Hid) : o ≠ .dispatch u w hs := by
  intro e; subst e; simp [notDisp] at ho

/-- progress of the dispatch of entry `u` over the copy `hs`: every handler not in `rest` was called or skipped in `q` -/
def Done (u : Nat) (w : Wid) (hs rest : List Hid) (q : List Obs) : Prop :=
  ∀ h ∈ hs, h ∈ rest ∨ (∃ v, Obs.call h w v u ∈ q) ∨ Obs.skip h u ∈ q

def GoodAtC (p : List Obs) : Obs → Prop
  | .dispatch u _ _ => NoDisp u p
  | .dispatchEnd u => ∃ p1 w hs q, p = p1 ++ .dispatch u w hs :: q ∧ Done u w hs [] q
  | _ => True

def IT (hist : List Obs) (t : Thread) : Prop :=
  ∀ u w v rest, t.iter = some (u, w, v, rest) →
    ∃ p hs q, hist = p ++ .dispatch u w hs :: q ∧ Done u w hs rest q

theorem IT.mono {hist : List Obs} {t : Thread} (h : IT hist t) (o : Obs) : IT (hist ++ [o]) t := by
  intro u w v rest e
  obtain ⟨p, hs, q, h1, h2⟩ := h u w v rest e
  refine ⟨p, hs, q ++ [o], by rw [h1]; simp, ?_⟩
  intro x hx
  rcases h2 x hx with h3 | ⟨v', h3⟩ | h3
  · exact Or.inl h3
  · exact Or.inr (Or.inl ⟨v', List.mem_append_left _ h3⟩)
  · exact Or.inr (Or.inr (List.mem_append_left _ h3))

theorem IT.of_iter {hist : List Obs} {t t' : Thread} (h : IT hist t) (e : t'.iter = t.iter) : IT hist t' := by
  unfold IT; rw [e]; exact h

theorem IT.of_none {hist : List Obs} {t' : Thread} (e : t'.iter = none) : IT hist t' := by
  intro u w v rest h; rw [e] at h; cases h

/-- the uid a thread is about to dispatch -/
def dl (t : Thread) : Option Nat := match t.pc with | .dLock u _ _ => some u | _ => none

def PT (s : State) (t : Thread) : Prop :=
  ∀ u, dl t = some u → NoDisp u s.hist ∧ u ∉ quids s.queue ∧ u < s.nextUid

theorem dl_of_pc {t t' : Thread} (h : t'.pc = t.pc) : dl t' = dl t := by unfold dl; rw [h]

theorem PT.of_dl {s : State} {t t' : Thread} (h : PT s t) (e : dl t' = dl t) : PT s t' := by
  unfold PT; rw [e]; exact h

theorem PT.of_none {s : State} {t : Thread} (e : dl t = none) : PT s t :=
  fun _ hu => nomatch e.symm.trans hu

/-- `x = some ti`: thread `ti` is in the middle of a step (its pc is stale); `x = none`: between steps -/
structure CX (s : State) (x : Option Nat) : Prop where
  good : Good GoodAtC s.hist
  it : ∀ (j : Nat) (t : Thread), s.threads[j]? = some t → IT s.hist t
  pt : ∀ (j : Nat) (t : Thread), some j ≠ x → s.threads[j]? = some t → PT s t
  dist : ∀ (i j : Nat) (a b : Thread) (u : Nat), some i ≠ x → some j ≠ x → i ≠ j → s.threads[i]? = some a →
    s.threads[j]? = some b → dl a = some u → dl b = some u → False
  qfresh : ∀ u ∈ quids s.queue, NoDisp u s.hist
  nfresh : ∀ u, s.nextUid ≤ u → NoDisp u s.hist
  qs : (quids s.queue).Pairwise (· < ·)
  qn : ∀ u ∈ quids s.queue, u < s.nextUid

theorem CX.frame {s s' : State} {x : Option Nat} (hC : CX s x) (hh : s'.hist = s.hist) (ht : s'.threads = s.threads)
    (hq : s'.queue = s.queue) (hn : s'.nextUid = s.nextUid) : CX s' x := by
  constructor
  · rw [hh]; exact hC.good
  · rw [hh, ht]; exact hC.it
  · intro j t hj hjt; rw [ht] at hjt
    have := hC.pt j t hj hjt
    unfold PT; rw [hh, hq, hn]; exact this
  · rw [ht]; exact hC.dist
  · rw [hq, hh]; exact hC.qfresh
  · rw [hn, hh]; exact hC.nfresh
  · rw [hq]; exact hC.qs
  · rw [hq, hn]; exact hC.qn

theorem CX.hist_step {s s' : State} {x : Option Nat} {o : Obs} (hC : CX s x) (hh : s'.hist = s.hist ++ [o])
    (ht : s'.threads = s.threads) (hq : s'.queue = s.queue) (hn : s'.nextUid = s.nextUid)
    (hg : GoodAtC s.hist o) (ho : notDisp o = true) : CX s' x := by
  constructor
  · rw [hh]; exact hC.good.snoc hg
  · rw [hh, ht]; intro j t hj; exact (hC.it j t hj).mono o
  · intro j t hj hjt; rw [ht] at hjt
    intro u hu
    obtain ⟨h1, h2, h3⟩ := hC.pt j t hj hjt u hu
    rw [hh, hq, hn]
    exact ⟨h1.snoc (notDisp_ne ho u), h2, h3⟩
  · rw [ht]; exact hC.dist
  · rw [hq, hh]; intro u hu; exact (hC.qfresh u hu).snoc (notDisp_ne ho u)
  · rw [hn, hh]; intro u hu; exact (hC.nfresh u hu).snoc (notDisp_ne ho u)
  · rw [hq]; exact hC.qs
  · rw [hq, hn]; exact hC.qn

theorem CX.log {s : State} {x : Option Nat} (hC : CX s x) (o : Obs) (hg : GoodAtC s.hist o)
    (ho : notDisp o = true) : CX (s.log o) x :=
  hC.hist_step rfl rfl rfl rfl hg ho

theorem CX.weaken {s : State} (hC : CX s none) (ti : Nat) : CX s (some ti) := by
  constructor
  · exact hC.good
  · exact hC.it
  · intro j t _ hjt; exact hC.pt j t (by simp) hjt
  · intro i j a b u _ _ hij; exact hC.dist i j a b u (by simp) (by simp) hij
  · exact hC.qfresh
  · exact hC.nfresh
  · exact hC.qs
  · exact hC.qn

theorem CX.dist_set {s : State} {x x' : Option Nat} {ti : Nat} {t' : Thread} (hC : CX s x)
    (hx : ∀ j, j ≠ ti → some j ≠ x' → some j ≠ x)
    (hd : some ti ≠ x' → ∀ (j : Nat) (b : Thread) (u : Nat), j ≠ ti → some j ≠ x' → s.threads[j]? = some b →
      dl t' = some u → dl b = some u → False) :
    ∀ (i j : Nat) (a b : Thread) (u : Nat), some i ≠ x' → some j ≠ x' → i ≠ j → (s.setThread ti t').threads[i]? = some a →
      (s.setThread ti t').threads[j]? = some b → dl a = some u → dl b = some u → False := by
  intro i j a b u hi hj hij ha hb hda hdb
  rcases getElem?_set_cases ha with ⟨e1, e2⟩ | ⟨n1, h1⟩ <;> rcases getElem?_set_cases hb with ⟨e3, e4⟩ | ⟨n2, h2⟩
  · exact hij (e1.trans e3.symm)
  · rw [e1] at hi; rw [e2] at hda; exact hd hi j b u n2 hj h2 hda hdb
  · rw [e3] at hj; rw [e4] at hdb; exact hd hj i a u n1 hi h1 hdb hda
  · exact hC.dist i j a b u (hx i n1 hi) (hx j n2 hj) hij h1 h2 hda hdb

theorem CX.setThreadMine {s : State} {ti : Nat} (hC : CX s (some ti)) (t' : Thread) (hi : IT s.hist t') :
    CX (s.setThread ti t') (some ti) :=
  ⟨hC.good, threads_set hC.it hi, threads_set_of hC.pt (fun h => absurd rfl h),
   hC.dist_set (fun _ _ h => h) (fun h => absurd rfl h), hC.qfresh, hC.nfresh, hC.qs, hC.qn⟩

theorem CX.updThread_same {s : State} {x : Option Nat} (hC : CX s x) (k : Nat) (f : Thread → Thread)
    (hf : ∀ t, (f t).pc = t.pc ∧ (f t).iter = t.iter) : CX (s.updThread k f) x := by
  rw [updThread_eq]
  split
  · rename_i tk htk
    have hdl : dl (f tk) = dl tk := dl_of_pc (hf tk).1
    exact ⟨hC.good, threads_set hC.it ((hC.it k tk htk).of_iter (hf tk).2),
      threads_set_of hC.pt (fun hk => (hC.pt k tk hk htk).of_dl hdl),
      hC.dist_set (fun _ _ h => h) (fun hk j b u hne hj hb hda => hC.dist k j tk b u hk hj (Ne.symm hne) htk hb (hdl ▸ hda)),
      hC.qfresh, hC.nfresh, hC.qs, hC.qn⟩
  · exact hC

theorem CX.spawn {s : State} {x : Option Nat} (hC : CX s x) (b : String) (k : Kind) : CX (s.spawn b k).1 x := by
  have key : ∀ (j : Nat) (t : Thread), (s.spawn b k).1.threads[j]? = some t → s.threads[j]? = some t ∨ dl t = none :=
    fun j t hj => (spawn_cases hj).imp id (fun ⟨_, _, e⟩ => by rw [e]; rfl)
  refine ⟨hC.good, threads_spawn hC.it (fun _ => IT.of_none rfl), threads_spawn_of hC.pt (fun _ => PT.of_none rfl), ?_,
    hC.qfresh, hC.nfresh, hC.qs, hC.qn⟩
  intro i j a b' u hi hj hij ha hb hda hdb
  rcases key i a ha with h1 | h1
  · rcases key j b' hb with h2 | h2
    · exact hC.dist i j a b' u hi hj hij h1 h2 hda hdb
    · rw [h2] at hdb; cases hdb
  · rw [h1] at hda; cases hda

theorem CX.close {s : State} {ti : Nat} (hC : CX s (some ti)) (t' : Thread) (hi : IT s.hist t') (hp : PT s t')
    (hd : ∀ (j : Nat) (b : Thread) (u : Nat), j ≠ ti → s.threads[j]? = some b → dl t' = some u → dl b = some u → False) :
    CX (s.setThread ti t') none :=
  ⟨hC.good, threads_set hC.it hi,
   fun j t _ hjt => (getElem?_set_cases hjt).elim (fun e => by rw [e.2]; exact hp)
     (fun e => hC.pt j t (fun c => e.1 (Option.some.inj c)) e.2),
   hC.dist_set (fun j hne _ c => hne (Option.some.inj c)) (fun _ j b u hne _ => hd j b u hne),
   hC.qfresh, hC.nfresh, hC.qs, hC.qn⟩

theorem CX.closeNone {s : State} {ti : Nat} (hC : CX s (some ti)) (ht : s.threads[ti]? = none) : CX s none :=
  have hne : ∀ (j : Nat) (t : Thread), s.threads[j]? = some t → some j ≠ some ti :=
    fun j t hjt e => by cases e; rw [ht] at hjt; cases hjt
  ⟨hC.good, hC.it, fun j t _ hjt => hC.pt j t (hne j t hjt) hjt,
   fun i j a b u _ _ hij ha hb => hC.dist i j a b u (hne i a ha) (hne j b hb) hij ha hb,
   hC.qfresh, hC.nfresh, hC.qs, hC.qn⟩

theorem CX.closeUpd {s : State} {ti : Nat} (hC : CX s (some ti)) (f : Thread → Thread)
    (h1 : ∀ t, dl (f t) = none) (h2 : ∀ t, (f t).iter = t.iter ∨ (f t).iter = none) :
    CX (s.updThread ti f) none := by
  rw [updThread_eq]
  split
  · rename_i t ht
    exact hC.close _ ((h2 t).elim (hC.it ti t ht).of_iter IT.of_none) (PT.of_none (h1 t))
      (fun j b u _ _ hu => nomatch (h1 t).symm.trans hu)
  · rename_i ht; exact hC.closeNone ht

theorem CX.closeSet {s : State} {ti : Nat} (hC : CX s (some ti)) (t' : Thread) (h1 : dl t' = none)
    (h2 : t'.iter = none ∨ ∃ t, s.threads[ti]? = some t ∧ t'.iter = t.iter) : CX (s.setThread ti t') none :=
  hC.close t' (h2.elim IT.of_none (fun ⟨t, ht, e⟩ => (hC.it ti t ht).of_iter e)) (PT.of_none h1)
    (fun _ _ _ _ _ hu => nomatch h1.symm.trans hu)

theorem CX.release {s : State} {x : Option Nat} (hC : CX s x) : CX s.release x := by
  obtain ⟨o, c, h⟩ := release_fields s
  rw [h]; exact hC.frame rfl rfl rfl rfl

theorem CX.updEm {s : State} {x : Option Nat} (hC : CX s x) (e : Eid) (f : EmObj → EmObj) : CX (s.updEm e f) x :=
  hC.frame (updEm_hist s e f) (updEm_threads s e f) (updEm_queue s e f) (updEm_nextUid s e f)

theorem CX.foldUpdEm {s : State} {x : Option Nat} (hC : CX s x) (l : List Eid) (f : EmObj → EmObj) :
    CX (l.foldl (fun acc e => acc.updEm e f) s) x :=
  foldUpdEm_ind (P := (CX · x)) f (fun _ e h => h.updEm e f) hC l

theorem CX.putItem {s : State} {x : Option Nat} (hC : CX s x) (mk : Nat → QItem) (onEnq : Nat → Obs) (onDrop : Obs)
    (h1 : notDisp onDrop = true) (h2 : notDisp (onEnq s.nextUid) = true) (g1 : GoodAtC s.hist onDrop)
    (g2 : GoodAtC s.hist (onEnq s.nextUid))
    (hmk : mk s.nextUid = .stop ∨ ∃ w v, mk s.nextUid = .ev s.nextUid w v) :
    CX (s.putItem mk onEnq onDrop) x := by
  refine putItem_ind (P := fun s' => CX s' x) s mk onEnq onDrop (hC.log _ g1 h1) ?_
    (fun s' k h => h.updThread_same k notif (fun t => ⟨(notif_same t).1, (notif_same t).2.1⟩))
  unfold putBase
  constructor
  · exact hC.good.snoc g2
  · intro j t hj; exact (hC.it j t hj).mono _
  · intro j t hj hjt u hu
    obtain ⟨a1, a2, a3⟩ := hC.pt j t hj hjt u hu
    refine ⟨a1.snoc (notDisp_ne h2 u), fun hm => ?_, Nat.lt_succ_of_lt a3⟩
    rcases mem_quids_put hmk hm with hm | hm
    · exact a2 hm
    · rw [hm] at a3; exact Nat.lt_irrefl _ a3
  · exact hC.dist
  · intro u hu
    rcases mem_quids_put hmk hu with hu | hu
    · exact (hC.qfresh u hu).snoc (notDisp_ne h2 u)
    · rw [hu]; exact (hC.nfresh _ (Nat.le_refl _)).snoc (notDisp_ne h2 _)
  · intro u hu
    exact (hC.nfresh u (Nat.le_of_succ_le hu)).snoc (notDisp_ne h2 u)
  · exact quids_put_pairwise hmk hC.qs hC.qn
  · exact quids_put_lt hmk hC.qn

theorem CX.pop {s : State} {x : Option Nat} (hC : CX s x) {item : QItem} {rest : List QItem}
    (hq : s.queue = item :: rest) (l : Option QItem) : CX { s with queue := rest, last := l } x := by
  have hsub := quids_sub_of_cons hq
  constructor
  · exact hC.good
  · exact hC.it
  · intro j t hj hjt u hu
    obtain ⟨a1, a2, a3⟩ := hC.pt j t hj hjt u hu
    exact ⟨a1, fun hm => a2 (hsub u hm), a3⟩
  · exact hC.dist
  · intro u hu; exact hC.qfresh u (hsub u hu)
  · exact hC.nfresh
  · exact quids_tail_pairwise hq hC.qs
  · intro u hu; exact hC.qn u (hsub u hu)

theorem CX.popEv {s : State} {ti : Nat} (hC : CX s (some ti)) {u : Nat} {w : Wid} {v : Nat} {rest : List QItem}
    (hq : s.queue = .ev u w v :: rest) (l : Option QItem) (f : Thread → Thread)
    (hf : ∀ t, (f t).pc = .dLock u w v ∧ (f t).iter = t.iter) :
    CX (({ s with queue := rest, last := l } : State).updThread ti f) none := by
  have hu : u ∈ quids s.queue := quids_head_mem hq
  have hC1 := hC.pop hq l
  rw [updThread_eq]
  split
  · rename_i t ht
    have hdl : dl (f t) = some u := by unfold dl; rw [(hf t).1]
    apply hC1.close
    · exact (hC.it ti t ht).of_iter (hf t).2
    · intro u' hu'
      rw [hdl] at hu'; cases hu'
      exact ⟨hC.qfresh u hu, fun hm => Nat.lt_irrefl _ (quids_head_lt hq hC.qs u hm), hC.qn u hu⟩
    · intro j b u' hj hb hu' hb'
      rw [hdl] at hu'; cases hu'
      exact (hC.pt j b (by simp [hj]) hb u hb').2.1 hu
  · rename_i ht; exact hC1.closeNone ht

theorem IT.advance {hist : List Obs} {t t' : Thread} {u : Nat} {w : Wid} {v : Nat} {h : Hid} {rest : List Hid}
    {o : Obs} (hI : IT hist t) (hit : t.iter = some (u, w, v, h :: rest)) (hit' : t'.iter = some (u, w, v, rest))
    (ho : o = .call h w v u ∨ o = .skip h u) : IT (hist ++ [o]) t' := by
  intro u' w' v' rest' e
  rw [hit'] at e; cases e
  obtain ⟨p, hs, q, h1, h2⟩ := hI u w v (h :: rest) hit
  refine ⟨p, hs, q ++ [o], by rw [h1]; simp, ?_⟩
  intro y hy
  rcases h2 y hy with h3 | ⟨v', h3⟩ | h3
  · rcases List.mem_cons.mp h3 with e | e
    · subst e
      rcases ho with ho | ho
      · exact Or.inr (Or.inl ⟨v, by rw [ho]; simp⟩)
      · exact Or.inr (Or.inr (by rw [ho]; simp))
    · exact Or.inl e
  · exact Or.inr (Or.inl ⟨v', List.mem_append_left _ h3⟩)
  · exact Or.inr (Or.inr (List.mem_append_left _ h3))

theorem CX.dispatch {s : State} {ti : Nat} {t : Thread} (hC : CX s none) (ht : s.threads[ti]? = some t)
    {u : Nat} {w : Wid} {v : Nat} (hpc : t.pc = .dLock u w v) (hs : List Hid) (t' : Thread)
    (hit : t'.iter = some (u, w, v, hs)) :
    CX ((s.log (.dispatch u w hs)).setThread ti t') (some ti) := by
  have hdl : dl t = some u := by unfold dl; rw [hpc]
  obtain ⟨p1, p2, p3⟩ := hC.pt ti t (by simp) ht u hdl
  have hC1 : CX (s.log (.dispatch u w hs)) (some ti) := by
    constructor
    · exact hC.good.snoc p1
    · intro j tj hj; exact (hC.it j tj hj).mono _
    · intro j tj hj hjt u' hu'
      have hne : j ≠ ti := fun e => hj (by rw [e])
      obtain ⟨a1, a2, a3⟩ := hC.pt j tj (by simp) hjt u' hu'
      refine ⟨a1.snoc ?_, a2, a3⟩
      intro w' hs' e
      cases e
      exact hC.dist j ti tj t u (by simp) (by simp) hne hjt ht hu' hdl
    · intro i j a b u' _ _ hij; exact hC.dist i j a b u' (by simp) (by simp) hij
    · intro u' hu'
      refine (hC.qfresh u' hu').snoc ?_
      intro w' hs' e; cases e; exact p2 hu'
    · intro u' hu'
      refine (hC.nfresh u' hu').snoc ?_
      intro w' hs' e; cases e
      have : s.nextUid ≤ u := hu'
      omega
    · exact hC.qs
    · exact hC.qn
  apply hC1.setThreadMine
  intro u' w' v' rest e
  rw [hit] at e; cases e
  exact ⟨s.hist, hs, [], by simp, fun h hh => Or.inl hh⟩

theorem CX.logT {s : State} {x : Option Nat} (hC : CX s x) (o : Obs) (hg : ∀ p, GoodAtC p o)
    (ho : notDisp o = true) : CX (s.log o) x := hC.log o (hg _) ho

theorem CX.init (clients : List (List Op)) (cbs : List (Hid × List (List Op))) (emit : List (Wid × List Nat)) :
    CX (init clients cbs emit) none := by
  have hdl : ∀ (j : Nat) (t : Thread), (WD.Obs.init clients cbs emit).threads[j]? = some t → dl t = none :=
    fun j t hj => by unfold dl; rw [(init_thread hj).1]
  exact ⟨Good.nil _, fun j t hj => IT.of_none (init_thread hj).2.1, fun j t _ hj => PT.of_none (hdl j t hj),
    fun i j a b u _ _ _ ha _ hda => (nomatch (hdl i a ha).symm.trans hda), fun u hu => (nomatch hu),
    fun u _ w hs hm => (nomatch hm), List.Pairwise.nil, fun u hu => (nomatch hu)⟩

/-- in a history where every `dispatch u` is the first one, the dispatch of `u` is unique -/
theorem complete_of_good {hist : List Obs} (hg : Good GoodAtC hist) (p q r : List Obs) (u : Nat) (w : Wid)
    (hs : List Hid) (hh : hist = p ++ .dispatch u w hs :: q ++ .dispatchEnd u :: r) (h : Hid) (hm : h ∈ hs) :
    (∃ v, Obs.call h w v u ∈ q) ∨ Obs.skip h u ∈ q := by
  obtain ⟨p1, w1, hs1, q1, e1, hd⟩ := hg (p ++ .dispatch u w hs :: q) (.dispatchEnd u) r hh
  have hA : NoDisp u p := hg p (.dispatch u w hs) (q ++ .dispatchEnd u :: r) (by rw [hh]; simp)
  have hB : NoDisp u p1 := hg p1 (.dispatch u w1 hs1) (q1 ++ .dispatchEnd u :: r) (by rw [hh, e1]; simp)
  rcases append_cons_eq_append_cons e1 with ⟨e2, e3, e4⟩ | ⟨m, e2, _⟩ | ⟨m, e2, _⟩
  · cases e3
    subst e4
    simpa using hd h hm
  · exact absurd (by rw [e2]; simp) (hA w1 hs1)
  · exact absurd (by rw [e2]; simp) (hB w hs)

end WD.ProofsObs
