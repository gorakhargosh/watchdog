/- the unconditional invariant: holds in every state of every run (even after fuel exhaustion) -/
import WD.Proofs.Observer.Basic
namespace WD.ProofsObs
open WD WD.Obs

def GoodAt1 (p : List Obs) : Obs → Prop
  | .call h w v u => registered p h w = true ∧ Obs.enq w v u ∈ p
  | .skip h u => ∃ w hs, Obs.dispatch u w hs ∈ p ∧ registered p h w = false
  | .dispatch _ w hs => ∀ h, h ∈ hs ↔ registered p h w = true
  | .enq _ _ u => ∀ u' ∈ enqUids p, u' < u
  | _ => True

/-- per-thread facts that are monotone in the history -/
def TOK1 (hist : List Obs) (t : Thread) : Prop :=
  (∀ u w v, t.pc = .dLock u w v → Obs.enq w v u ∈ hist) ∧
  (∀ u w v rest, t.iter = some (u, w, v, rest) → Obs.enq w v u ∈ hist ∧ ∃ hs, Obs.dispatch u w hs ∈ hist)

theorem TOK1.mono {hist : List Obs} {t : Thread} (h : TOK1 hist t) (l : List Obs) : TOK1 (hist ++ l) t := by
  refine ⟨fun u w v e => List.mem_append_left _ (h.1 u w v e), fun u w v rest e => ?_⟩
  obtain ⟨h1, hs, h2⟩ := h.2 u w v rest e
  exact ⟨List.mem_append_left _ h1, hs, List.mem_append_left _ h2⟩

theorem TOK1.of_eq {hist : List Obs} {t t' : Thread} (h : TOK1 hist t) (hpc : t'.pc = t.pc) (hit : t'.iter = t.iter) :
    TOK1 hist t' := by
  unfold TOK1; rw [hpc, hit]; exact h

theorem TOK1.of_pc {hist : List Obs} {t t' : Thread} (h : TOK1 hist t) (hpc : ∀ u w v, t'.pc ≠ .dLock u w v)
    (hit : t'.iter = t.iter ∨ t'.iter = none) : TOK1 hist t' := by
  refine ⟨fun u w v e => absurd e (hpc u w v), fun u w v rest e => ?_⟩
  rcases hit with hit | hit
  · rw [hit] at e; exact h.2 u w v rest e
  · rw [hit] at e; cases e

theorem TOK1.iter_none {hist : List Obs} {t t' : Thread} (h : TOK1 hist t) (hpc : t'.pc = t.pc)
    (hit : t'.iter = none) : TOK1 hist t' := by
  refine ⟨fun u w v e => h.1 u w v (hpc ▸ e), fun u w v rest e => ?_⟩
  rw [hit] at e; cases e

theorem TOK1.iter_some {hist : List Obs} {t t' : Thread} (h : TOK1 hist t) (hpc : t'.pc = t.pc)
    {u : Nat} {w : Wid} {v : Nat} {l l' : List Hid} (h1 : t.iter = some (u, w, v, l))
    (h2 : t'.iter = some (u, w, v, l')) : TOK1 hist t' := by
  refine ⟨fun u w v e => h.1 u w v (hpc ▸ e), fun u' w' v' rest e => ?_⟩
  rw [h2] at e; cases e
  exact h.2 _ _ _ _ h1

theorem TOK1.fresh {hist : List Obs} {t : Thread} (hpc : t.pc = .begin) (hit : t.iter = none) : TOK1 hist t :=
  ⟨fun _ _ _ e => (nomatch hpc.symm.trans e), fun _ _ _ _ e => (nomatch hit.symm.trans e)⟩

structure Inv1 (s : State) : Prop where
  good : Good GoodAt1 s.hist
  reg : ∀ h w, h ∈ s.handlersOf w ↔ registered s.hist h w = true
  queue : ∀ u w v, QItem.ev u w v ∈ s.queue → Obs.enq w v u ∈ s.hist
  next : ∀ u ∈ enqUids s.hist, u < s.nextUid
  qsorted : (quids s.queue).Pairwise (· < ·)
  qnext : ∀ u ∈ quids s.queue, u < s.nextUid
  thr : ∀ (j : Nat) (t : Thread), s.threads[j]? = some t → TOK1 s.hist t

theorem Inv1.frame {s s' : State} (hI : Inv1 s) (hh : s'.hist = s.hist)
    (hH : ∀ w, s'.handlersOf w = s.handlersOf w) (hq : s'.queue = s.queue) (hn : s'.nextUid = s.nextUid)
    (ht : s'.threads = s.threads) : Inv1 s' := by
  constructor
  · rw [hh]; exact hI.good
  · intro h w; rw [hH, hh]; exact hI.reg h w
  · rw [hq, hh]; exact hI.queue
  · rw [hh, hn]; exact hI.next
  · rw [hq]; exact hI.qsorted
  · rw [hq, hn]; exact hI.qnext
  · rw [ht, hh]; exact hI.thr

theorem Inv1.hist_step {s s' : State} {o : Obs} (hI : Inv1 s) (hh : s'.hist = s.hist ++ [o]) (hg : GoodAt1 s.hist o)
    (hH : ∀ h w, h ∈ s'.handlersOf w ↔ regStep h w (registered s.hist h w) o = true)
    (hq : s'.queue = s.queue) (hn : s'.nextUid = s.nextUid) (he : enqUids [o] = [])
    (ht : s'.threads = s.threads) : Inv1 s' := by
  constructor
  · rw [hh]; exact hI.good.snoc hg
  · intro h w; rw [hh, registered_snoc]; exact hH h w
  · rw [hq, hh]; intro u w v hm; exact List.mem_append_left _ (hI.queue u w v hm)
  · rw [hh, hn, enqUids_append, he]; simpa using hI.next
  · rw [hq]; exact hI.qsorted
  · rw [hq, hn]; exact hI.qnext
  · rw [ht, hh]; intro j t hj; exact (hI.thr j t hj).mono _

theorem Inv1.logN {s : State} {o : Obs} (hI : Inv1 s) (hr : regGhost o = false) (he : enqUids [o] = [])
    (hg : GoodAt1 s.hist o) : Inv1 (s.log o) := by
  refine hI.hist_step (o := o) rfl hg ?_ rfl rfl he rfl
  intro h w
  rw [regStep_neutral hr]
  exact hI.reg h w

theorem Inv1.setThread {s : State} (hI : Inv1 s) (j : Nat) (t' : Thread) (ht : TOK1 s.hist t') :
    Inv1 (s.setThread j t') :=
  ⟨hI.good, hI.reg, hI.queue, hI.next, hI.qsorted, hI.qnext, threads_set hI.thr ht⟩

theorem Inv1.updThread {s : State} (hI : Inv1 s) (j : Nat) (f : Thread → Thread)
    (hf : ∀ t, s.threads[j]? = some t → TOK1 s.hist t → TOK1 s.hist (f t)) : Inv1 (s.updThread j f) := by
  rw [updThread_eq]
  split
  · rename_i t ht
    exact hI.setThread j _ (hf t ht (hI.thr j t ht))
  · exact hI

theorem Inv1.lockFields {s : State} (hI : Inv1 s) (o : Option Nat) (c : Nat) :
    Inv1 { s with lockOwner := o, lockCount := c } := hI.frame rfl (fun _ => rfl) rfl rfl rfl

theorem Inv1.release {s : State} (hI : Inv1 s) : Inv1 s.release := by
  obtain ⟨o, c, h⟩ := release_fields s
  rw [h]; exact hI.lockFields o c

theorem Inv1.updEm {s : State} (hI : Inv1 s) (e : Eid) (f : EmObj → EmObj) : Inv1 (s.updEm e f) :=
  hI.frame (updEm_hist s e f) (updEm_handlersOf s e f) (updEm_queue s e f) (updEm_nextUid s e f) (updEm_threads s e f)

theorem Inv1.spawn {s : State} (hI : Inv1 s) (b : String) (k : Kind) : Inv1 (s.spawn b k).1 :=
  ⟨hI.good, hI.reg, hI.queue, hI.next, hI.qsorted, hI.qnext, threads_spawn hI.thr (fun _ => TOK1.fresh rfl rfl)⟩

theorem Inv1.putItem {s : State} (hI : Inv1 s) (mk : Nat → QItem) (onEnq : Nat → Obs) (onDrop : Obs)
    (hd : regGhost onDrop = false) (hde : enqUids [onDrop] = []) (hdg : GoodAt1 s.hist onDrop)
    (hr : regGhost (onEnq s.nextUid) = false)
    (hcase : (mk s.nextUid = .stop ∧ enqUids [onEnq s.nextUid] = [] ∧ GoodAt1 s.hist (onEnq s.nextUid)) ∨
       (∃ w v, mk s.nextUid = .ev s.nextUid w v ∧ onEnq s.nextUid = .enq w v s.nextUid)) :
    Inv1 (s.putItem mk onEnq onDrop) := by
  have hmk : mk s.nextUid = .stop ∨ ∃ w v, mk s.nextUid = .ev s.nextUid w v :=
    hcase.imp (fun h => h.1) (fun ⟨w, v, h, _⟩ => ⟨w, v, h⟩)
  have henq : enqUids [onEnq s.nextUid] = [] ∨ enqUids [onEnq s.nextUid] = [s.nextUid] := by
    rcases hcase with ⟨_, h, _⟩ | ⟨w, v, _, h⟩
    · exact Or.inl h
    · rw [h]; exact Or.inr rfl
  refine putItem_ind s mk onEnq onDrop (hI.logN hd hde hdg) ?_ (fun s' d h => h.updThread d notif (fun t _ ht => ht.of_eq (notif_same t).1 (notif_same t).2.1))
  unfold putBase
  constructor
  · apply hI.good.snoc
    rcases hcase with ⟨_, _, h⟩ | ⟨w, v, _, h⟩
    · exact h
    · rw [h]; exact hI.next
  · intro h w
    rw [log_hist, registered_snoc, regStep_neutral hr]
    exact hI.reg h w
  · intro u w v hm
    rcases List.mem_append.mp hm with hm | hm
    · exact List.mem_append_left _ (hI.queue u w v hm)
    · rcases hcase with ⟨h, _, _⟩ | ⟨w', v', h1, h2⟩
      · rw [h] at hm; cases List.mem_singleton.mp hm
      · rw [h1] at hm; cases List.mem_singleton.mp hm
        rw [log_hist, h2]; exact List.mem_append_right _ List.mem_cons_self
  · intro u hu
    rw [log_hist, enqUids_append] at hu
    rcases List.mem_append.mp hu with hu | hu
    · exact Nat.lt_succ_of_lt (hI.next u hu)
    · rcases henq with h | h <;> rw [h] at hu
      · cases hu
      · rw [List.mem_singleton.mp hu]; exact Nat.lt_succ_self _
  · exact quids_put_pairwise hmk hI.qsorted hI.qnext
  · exact quids_put_lt hmk hI.qnext
  · intro j t hj
    exact (hI.thr j t hj).mono _

theorem Inv1.pop {s : State} (hI : Inv1 s) {item : QItem} {rest : List QItem} (hq : s.queue = item :: rest)
    (l : Option QItem) : Inv1 { s with queue := rest, last := l } :=
  ⟨hI.good, hI.reg, fun u w v hm => hI.queue u w v (by rw [hq]; exact List.mem_cons_of_mem _ hm), hI.next,
   quids_tail_pairwise hq hI.qsorted, fun u hu => hI.qnext u (quids_sub_of_cons hq u hu), hI.thr⟩

theorem Inv1.updPc {s : State} (hI : Inv1 s) (j : Nat) (f : Thread → Thread)
    (h1 : ∀ t u w v, (f t).pc ≠ .dLock u w v) (h2 : ∀ t, (f t).iter = t.iter) : Inv1 (s.updThread j f) :=
  hI.updThread j f (fun t _ ht => ht.of_pc (h1 t) (Or.inl (h2 t)))

theorem Inv1.setPc {s : State} (hI : Inv1 s) (j : Nat) {pc : Pc} (h : ∀ u w v, pc ≠ .dLock u w v) :
    Inv1 (s.updThread j (fun t => { t with pc := pc })) :=
  hI.updPc j _ (fun _ => h) (fun _ => rfl)

theorem Inv1.eLoop {s : State} (hI : Inv1 s) (ti : Nat) (e : Eid) : Inv1 (eLoop s ti e) := by
  unfold WD.Obs.eLoop
  split
  · exact hI
  · split
    · exact hI.setPc _ (fun _ _ _ h => nomatch h)
    · split <;> exact hI.setPc _ (fun _ _ _ h => nomatch h)

theorem inv1_dLoop_dGet (ti : Nat) : ∀ fuel,
    (∀ s, Inv1 s → Inv1 (dLoop fuel s ti)) ∧ (∀ s, Inv1 s → Inv1 (dGet fuel s ti)) := by
  intro fuel
  induction fuel with
  | zero => exact ⟨fun _ h => h, fun _ h => h⟩
  | succ n ih =>
    refine ⟨fun s hI => ?_, fun s hI => ?_⟩
    · rw [dLoop.eq_2]
      split
      · exact hI.setPc _ (fun _ _ _ h => nomatch h)
      · exact ih.2 s hI
    · rw [dGet.eq_2]
      split
      · exact hI.updPc _ _ (fun _ _ _ _ h => nomatch h) (fun _ => rfl)
      · rename_i item rest hq
        simp only []
        split
        · exact ih.1 _ (hI.pop hq _)
        · rename_i u w v
          apply (hI.pop hq _).updThread
          intro t _ ht
          refine ⟨?_, ht.2⟩
          intro u' w' v' e
          cases e
          exact hI.queue u w v (by rw [hq]; simp)

theorem Inv1.dLoop {s : State} (hI : Inv1 s) (fuel ti : Nat) : Inv1 (dLoop fuel s ti) :=
  (inv1_dLoop_dGet ti fuel).1 s hI
theorem Inv1.dGet {s : State} (hI : Inv1 s) (fuel ti : Nat) : Inv1 (dGet fuel s ti) :=
  (inv1_dLoop_dGet ti fuel).2 s hI

theorem Inv1.regH {s s' : State} (hI : Inv1 s) (h : Hid) (w : Wid) (hh : s'.hist = s.hist ++ [.reg h w])
    (hH : s'.handlers = ainsert w (insertSorted h (s.handlersOf w)) s.handlers)
    (hq : s'.queue = s.queue) (hn : s'.nextUid = s.nextUid) (ht : s'.threads = s.threads) : Inv1 s' := by
  refine hI.hist_step hh trivial ?_ hq hn rfl ht
  intro h' w'
  rw [handlersOf_eq, hH, hOf_ainsert]
  simp only [regStep]
  have := hI.reg h' w'
  rw [handlersOf_eq] at this
  by_cases hw : w' = w
  · subst hw
    by_cases hh' : h' = h
    · subst hh'; simp [mem_insertSorted]
    · have : ¬ h = h' := fun e => hh' e.symm
      simp [mem_insertSorted, handlersOf_eq, *]
  · have : ¬ w = w' := fun e => hw e.symm
    simp [*]

theorem Inv1.unregH {s s' : State} (hI : Inv1 s) (h : Hid) (w : Wid) (hh : s'.hist = s.hist ++ [.unreg h w])
    (hH : s'.handlers = ainsert w ((s.handlersOf w).filter (· != h)) s.handlers)
    (hq : s'.queue = s.queue) (hn : s'.nextUid = s.nextUid) (ht : s'.threads = s.threads) : Inv1 s' := by
  refine hI.hist_step hh trivial ?_ hq hn rfl ht
  intro h' w'
  rw [handlersOf_eq, hH, hOf_ainsert]
  simp only [regStep]
  have := hI.reg h' w'
  rw [handlersOf_eq] at this
  by_cases hw : w' = w
  · subst hw
    by_cases hh' : h' = h
    · subst hh'; simp
    · have : ¬ h = h' := fun e => hh' e.symm
      simp [handlersOf_eq, *]
  · have : ¬ w = w' := fun e => hw e.symm
    simp [*]

theorem Inv1.unregWH {s s' : State} (hI : Inv1 s) (w : Wid) (hh : s'.hist = s.hist ++ [.unregW w])
    (hH : s'.handlers = aerase w s.handlers)
    (hq : s'.queue = s.queue) (hn : s'.nextUid = s.nextUid) (ht : s'.threads = s.threads) : Inv1 s' := by
  refine hI.hist_step hh trivial ?_ hq hn rfl ht
  intro h' w'
  rw [handlersOf_eq, hH, hOf_aerase]
  simp only [regStep]
  have := hI.reg h' w'
  rw [handlersOf_eq] at this
  by_cases hw : w' = w
  · subst hw; simp
  · have : ¬ w = w' := fun e => hw e.symm
    simp [*]

theorem Inv1.unregAllH {s s' : State} (hI : Inv1 s) (hh : s'.hist = s.hist ++ [.unregAll])
    (hH : s'.handlers = [])
    (hq : s'.queue = s.queue) (hn : s'.nextUid = s.nextUid) (ht : s'.threads = s.threads) : Inv1 s' := by
  refine hI.hist_step hh trivial ?_ hq hn rfl ht
  intro h' w'
  rw [handlersOf_eq, hH]
  simp [regStep]

theorem Inv1.touch {s : State} (hI : Inv1 s) (w : Wid) :
    Inv1 (if (alookup w s.handlers).isNone then { s with handlers := ainsert w [] s.handlers } else s) := by
  split
  · rename_i h
    exact hI.frame rfl (fun w' => by simp only [handlersOf_eq]; exact hOf_touch _ _ _ h) rfl rfl rfl
  · exact hI

theorem Inv1.foldUpdEm {s : State} (hI : Inv1 s) (l : List Eid) (f : EmObj → EmObj) :
    Inv1 (l.foldl (fun acc e => acc.updEm e f) s) :=
  foldUpdEm_ind (P := Inv1) f (fun _ e h => h.updEm e f) hI l

structure AllInv1 (fuel : Nat) : Prop where
  fin : ∀ s ti res, Inv1 s → Inv1 (finishOp fuel s ti res)
  nxt : ∀ s ti, Inv1 s → Inv1 (nextOp fuel s ti)
  sta : ∀ s ti op, Inv1 s → Inv1 (startOp fuel s ti op)
  ent : ∀ s ti op, Inv1 s → Inv1 (enterLocked fuel s ti op)
  lck : ∀ s ti op, Inv1 s → Inv1 (locked fuel s ti op)
  sfin : ∀ s ti h w e, Inv1 s → Inv1 (schedFinish fuel s ti h w e)
  ufin : ∀ s ti w, Inv1 s → Inv1 (unschedFinish fuel s ti w)
  uab : ∀ s ti b, Inv1 s → Inv1 (uallBody fuel s ti b)
  uajn : ∀ s ti es b, Inv1 s → Inv1 (uallJoinNext fuel s ti es b)
  stem : ∀ s ti es, Inv1 s → Inv1 (startEmitters fuel s ti es)
  cit : ∀ s ti, Inv1 s → Inv1 (continueIter fuel s ti)

theorem allInv1 : ∀ fuel, AllInv1 fuel := by
  intro fuel
  induction fuel with
  | zero =>
    -- with no fuel left every function returns its state as it is
    exact ⟨fun _ _ _ h => h, fun _ _ h => h, fun _ _ _ h => h, fun _ _ _ h => h, fun _ _ _ h => h, fun _ _ _ _ _ h => h,
      fun _ _ _ h => h, fun _ _ _ h => h, fun _ _ _ _ h => h, fun _ _ _ h => h, fun _ _ h => h⟩
  | succ n ih =>
    constructor
    ·
      intro s ti res hI
      unfold finishOp
      split
      · exact hI
      · rename_i t ht
        apply ih.nxt
        split
        · rename_i op _
          apply Inv1.setThread
          · exact (hI.logN rfl rfl (by trivial)).logN rfl rfl (by trivial)
          · have := (hI.thr _ _ ht).mono ([.did op res] ++ [.ret t.label t.idx res])
            simp only [log_hist, List.append_assoc]
            exact this.of_eq rfl rfl
        · apply Inv1.setThread
          · exact hI.logN rfl rfl (by trivial)
          · have := (hI.thr _ _ ht).mono [.ret t.label t.idx res]
            exact this.of_eq rfl rfl
    ·
      intro s ti hI
      unfold nextOp
      split
      · exact hI
      · rename_i t ht
        split
        · apply ih.sta
          exact hI.setThread _ _ ((hI.thr _ _ ht).of_eq rfl rfl)
        · split
          · exact ih.cit _ _ hI
          · exact hI.setThread _ _ ((hI.thr _ _ ht).of_pc (by intro u w v h; cases h) (Or.inl rfl))
    ·
      intro s ti op hI
      unfold startOp
      split
      · split
        · exact ih.fin _ _ _ hI
        · exact ih.stem _ _ _ hI
      · split
        · exact ih.fin _ _ _ hI
        · split
          · exact ih.fin _ _ _ hI
          · exact hI.setPc _ (fun _ _ _ h => nomatch h)
      · exact ih.ent _ _ _ (hI.frame rfl (fun _ => rfl) rfl rfl rfl)
      · split
        · rename_i t ht
          apply Inv1.setThread
          · apply Inv1.logN _ rfl rfl (by trivial)
            split
            · exact hI.lockFields _ _
            · exact hI
          · have := (hI.thr _ _ ht).mono [.died t.name]
            have h2 : (if s.lockOwner = some ti then ({ s with lockOwner := none, lockCount := 0 } : State) else s).hist = s.hist := by
              split <;> rfl
            simp only [log_hist, h2]
            exact this.of_pc (by intro u w v h; cases h) (Or.inr rfl)
        · exact hI
      · exact ih.ent _ _ _ hI
    ·
      intro s ti op hI
      unfold enterLocked
      split
      · exact ih.lck _ _ _ (hI.frame rfl (fun _ => rfl) rfl rfl rfl)
      · exact hI.setPc _ (fun _ _ _ h => nomatch h)
    ·
      intro s ti op hI
      unfold locked
      split
      · -- schedule
        rename_i h w fault
        split
        · try simp only []
          apply ih.fin
          apply Inv1.release
          exact hI.regH h w rfl rfl rfl rfl rfl
        · split
          · exact ih.fin _ _ _ hI.release
          · try simp only []
            have hI1 : Inv1 ({ s with emObjs := s.emObjs ++ [({ wid := w, script := (alookup w s.emitScripts).getD [] } : EmObj)] } : State) :=
              hI.frame rfl (fun _ => rfl) rfl rfl rfl
            split
            · split
              · exact ih.fin _ _ _ hI1.release
              · exact ((hI1.spawn _ _).updEm _ _).setPc _ (fun _ _ _ h => nomatch h)
            · exact ih.sfin _ _ _ _ _ hI1
      · -- unschedule
        rename_i w
        split
        · exact ih.fin _ _ _ hI.release
        · split
          · exact ih.fin _ _ _ hI.release
          · try simp only []
            rename_i e he hnone
            have hI1 : Inv1 ((({ s with handlers := aerase w s.handlers, regEm := s.regEm.filter (· != e) } : State).log (.unregW w)).updEm e (fun o => { o with stopped := true })) :=
              Inv1.updEm (Inv1.unregWH (s' := (({ s with handlers := aerase w s.handlers, regEm := s.regEm.filter (· != e) } : State).log (.unregW w))) hI w rfl rfl rfl rfl rfl) _ _
            split
            · exact (hI1).setPc _ (fun _ _ _ h => nomatch h)
            · exact ih.ufin _ _ _ hI1
      · -- addHandler
        rename_i h w
        apply ih.fin
        apply Inv1.release
        exact hI.regH h w rfl rfl rfl rfl rfl
      · -- removeHandler
        rename_i h w
        split
        · apply ih.fin
          apply Inv1.release
          exact hI.unregH h w rfl rfl rfl rfl rfl
        · apply ih.fin
          apply Inv1.release
          exact hI.frame rfl (fun w' => by simp only [handlersOf_eq]; exact hOf_self _ _ _) rfl rfl rfl
      · exact ih.uab _ _ _ hI
      · exact ih.uab _ _ _ hI
      · exact hI
    ·
      intro s ti h w e hI
      unfold schedFinish
      apply ih.fin
      apply Inv1.release
      exact hI.regH h w rfl rfl rfl rfl rfl
    ·
      intro s ti w hI
      unfold unschedFinish
      split
      · apply ih.fin
        apply Inv1.release
        exact hI.frame rfl (fun _ => rfl) rfl rfl rfl
      · exact ih.fin _ _ _ hI.release
    ·
      intro s ti b hI
      unfold uallBody
      apply ih.uajn
      apply Inv1.foldUpdEm
      exact hI.unregAllH rfl rfl rfl rfl rfl
    ·
      intro s ti es b hI
      unfold uallJoinNext
      split
      · split
        · exact hI.setPc _ (fun _ _ _ h => nomatch h)
        · exact ih.uajn _ _ _ _ hI
      · try simp only []
        have hI1 : Inv1 ({ s with regEm := [], watches := [] } : State).release :=
          Inv1.release (hI.frame rfl (fun _ => rfl) rfl rfl rfl)
        split
        · apply ih.fin
          apply hI1.putItem _ _ _ rfl rfl (by trivial) rfl
          exact Or.inl ⟨rfl, rfl, by trivial⟩
        · exact ih.fin _ _ _ hI1
    ·
      intro s ti es hI
      unfold startEmitters
      simp only []
      split
      · split
        · try simp only []
          exact ((hI.spawn _ _).updEm _ _).setPc _ (fun _ _ _ h => nomatch h)
        · exact hI
      · try simp only []
        refine Inv1.setPc ?_ _ (fun _ _ _ h => nomatch h)
        exact (hI.spawn "D" .dispatcher).frame rfl (fun _ => rfl) rfl rfl rfl
    ·
      intro s ti hI
      unfold continueIter
      simp only []
      split
      · exact hI
      · rename_i t ht
        split
        · exact hI
        · rename_i u w v hit
          apply Inv1.dLoop
          apply Inv1.release
          apply Inv1.setThread
          · exact hI.logN rfl rfl (by trivial)
          · exact ((hI.thr _ _ ht).mono _).iter_none rfl rfl
        · rename_i u w v h rest hit
          have hT := hI.thr _ _ ht
          obtain ⟨henq, hs, hdisp⟩ := hT.2 _ _ _ _ hit
          have hI0 := hI.touch w
          generalize hs0 : (if (alookup w s.handlers).isNone then ({ s with handlers := ainsert w [] s.handlers } : State) else s) = s0 at hI0 ⊢
          have hh0 : s0.hist = s.hist := by subst hs0; split <;> rfl
          split
          · rename_i hc
            apply ih.nxt
            apply Inv1.setThread
            · have hI0' : Inv1 ({ s0 with invoc := ainsert h ((alookup h s0.invoc).getD 0 + 1) s0.invoc } : State) :=
                hI0.frame rfl (fun _ => rfl) rfl rfl rfl
              apply hI0'.logN rfl rfl
              refine ⟨?_, ?_⟩
              · exact (hI0.reg h w).mp (by simpa using hc)
              · show _ ∈ s0.hist
                rw [hh0]; exact henq
            · have := hT.mono [.call h w v u]
              simp only [log_hist]
              show TOK1 (s0.hist ++ _) _
              rw [hh0]
              exact this.iter_some rfl hit rfl
          · rename_i hc
            apply ih.cit
            apply Inv1.setThread
            · apply hI0.logN rfl rfl
              refine ⟨w, hs, ?_, ?_⟩
              · rw [hh0]; exact hdisp
              · have := (hI0.reg h w)
                cases hr : registered s0.hist h w
                · rfl
                · exact absurd (by simpa using this.mpr hr) hc
            · have := hT.mono [.skip h u]
              simp only [log_hist]
              rw [hh0]
              exact this.iter_some rfl hit rfl

theorem Inv1.step {s s' : State} {ti : Nat} (hI : Inv1 s) (h : step s ti = some s') : Inv1 s' := by
  have A := allInv1 FUEL
  unfold WD.Obs.step at h
  split at h
  · cases h
  · split at h
    · cases h
    · rename_i t ht
      split at h
      · split at h <;> cases h
        · exact A.nxt _ _ hI
        · exact hI.dLoop _ _
        · exact hI.eLoop _ _
      · cases h; exact A.lck _ _ _ (hI.lockFields _ _)
      · cases h; exact A.sfin _ _ _ _ _ hI
      · cases h; exact A.ufin _ _ _ hI
      · cases h; exact A.uajn _ _ _ _ hI
      · cases h; exact A.uajn _ _ _ _ hI
      · cases h; exact A.stem _ _ _ hI
      · cases h; exact A.fin _ _ _ hI
      · cases h; exact A.fin _ _ _ hI
      · cases h; apply Inv1.dGet; exact hI.updThread _ _ (fun t _ ht => ht.of_eq rfl rfl)
      · rename_i u w v hpc
        cases h
        apply A.cit
        have hI2 := (hI.lockFields (some ti) 1).touch w
        generalize hs2 : (if (alookup w s.handlers).isNone then ({ s with lockOwner := some ti, lockCount := 1, handlers := ainsert w [] s.handlers } : State) else { s with lockOwner := some ti, lockCount := 1 }) = s2 at hI2 ⊢
        have hh2 : s2.threads = s.threads := by subst hs2; split <;> rfl
        have hI3 : Inv1 (s2.log (.dispatch u w (s2.handlersOf w))) := hI2.logN rfl rfl (fun h => hI2.reg h w)
        apply hI3.updThread
        intro t' ht' hT'
        have : t' = t := by
          simp only [log_threads, hh2] at ht'
          have ht2 : s.threads[ti]? = some t := ht
          rw [ht2] at ht'; cases ht'; rfl
        subst this
        refine ⟨hT'.1, ?_⟩
        intro u' w' v' rest e
        cases e
        exact ⟨hT'.1 _ _ _ hpc, s2.handlersOf w, by simp⟩
      · split at h
        · split at h
          · split at h
            · cases h
              apply Inv1.eLoop
              apply (hI.updEm _ _).putItem _ _ _ rfl rfl (by trivial) rfl
              exact Or.inr ⟨_, _, rfl, rfl⟩
            · cases h; exact hI.eLoop _ _
          · cases h
        · cases h
      · split at h
        · cases h; exact hI.eLoop _ _
        · cases h
      · cases h

theorem Inv1.init (clients : List (List Op)) (cbs : List (Hid × List (List Op))) (emit : List (Wid × List Nat)) :
    Inv1 (init clients cbs emit) :=
  ⟨Good.nil _, fun h w => by simp [WD.Obs.init, State.handlersOf], fun u w v hm => (nomatch hm),
   fun u hu => (nomatch hu), List.Pairwise.nil, fun u hu => (nomatch hu),
   fun j t hj => TOK1.fresh (init_thread hj).1 (init_thread hj).2.1⟩

theorem Inv1.run {s : State} (hI : Inv1 s) (sched : List Nat) : Inv1 (run s sched) := by
  induction sched generalizing s with
  | nil => exact hI
  | cons ti sched ih =>
    simp only [WD.Obs.run, List.foldl_cons]
    apply ih
    cases hs : WD.Obs.step s ti with
    | none => exact hI
    | some s' => exact hI.step hs

theorem inv1_reach (clients : List (List Op)) (cbs : List (Hid × List (List Op))) (emit : List (Wid × List Nat))
    (sched : List Nat) : Inv1 (run (init clients cbs emit) sched) :=
  (Inv1.init clients cbs emit).run sched

theorem good1_enq_pairwise {hist : List Obs} (hg : Good GoodAt1 hist) : (enqUids hist).Pairwise (· < ·) := by
  refine hg.filterMap_pairwise (fun p o u hG e => ?_)
  cases o <;> cases e
  exact hG

end WD.ProofsObs
