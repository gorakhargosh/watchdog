/-
  An instrumented copy of the mutual block of WD.Model.Observer: identical code (all calls in the
  model are tail calls), but it returns `none` when the `fuel` runs out or when one of the model's
  "impossible" branches (missing thread, missing emitter object, an API call that never takes the
  lock reaching `locked`, a dispatcher without an iteration in `continueIter`) is taken, i.e.
  whenever the model would silently stop in the middle of a step and leave the thread's `pc` stale.
  `runOk` says that this never happens along a schedule.
-/
import WD.Model.Observer
namespace WD.ProofsObs
open WD WD.Obs

mutual
def finishOpX (fuel : Nat) (s : State) (ti : Nat) (res : String) : Option State :=
  match fuel with
  | 0 => none
  | fuel + 1 =>
    match s.thread? ti with
    | none => none
    | some t =>
      let s0 := match t.cur with | some op => s.log (.did op res) | none => s
      let s1 := (s0.log (.ret t.label t.idx res)).setThread ti { t with idx := t.idx + 1, cur := none }
      nextOpX fuel s1 ti

def nextOpX (fuel : Nat) (s : State) (ti : Nat) : Option State :=
  match fuel with
  | 0 => none
  | fuel + 1 =>
    match s.thread? ti with
    | none => none
    | some t =>
      match t.ops with
      | op :: rest => startOpX fuel (s.setThread ti { t with ops := rest, cur := some op }) ti op
      | [] =>
        match t.kind with
        | .dispatcher => continueIterX fuel s ti
        | _ => some (s.setThread ti { t with pc := .done })

def startOpX (fuel : Nat) (s : State) (ti : Nat) (op : Op) : Option State :=
  match fuel with
  | 0 => none
  | fuel + 1 =>
    match op with
    | .start => if s.dIdx.isSome then finishOpX fuel s ti "raised:RuntimeError" else startEmittersX fuel s ti s.regEm
    | .join =>
      match s.dIdx with
      | none => finishOpX fuel s ti "raised:RuntimeError"
      | some d => if d = ti then finishOpX fuel s ti "raised:RuntimeError"
                  else some (s.updThread ti (fun t => { t with pc := .joinD }))
    | .stop =>
      let s1 := { s with stoppedD := true }
      enterLockedX fuel s1 ti .stop
    | .raiseExc =>
      match s.thread? ti with
      | some t =>
        let s1 := if s.lockOwner = some ti then { s with lockOwner := none, lockCount := 0 } else s
        some ((s1.log (.died t.name)).setThread ti { t with pc := .done, ops := [], iter := none })
      | none => none
    | op => enterLockedX fuel s ti op

def enterLockedX (fuel : Nat) (s : State) (ti : Nat) (op : Op) : Option State :=
  match fuel with
  | 0 => none
  | fuel + 1 =>
    if s.lockOwner = some ti then lockedX fuel { s with lockCount := s.lockCount + 1 } ti op
    else some (s.updThread ti (fun t => { t with pc := .acq op }))

def lockedX (fuel : Nat) (s : State) (ti : Nat) (op : Op) : Option State :=
  match fuel with
  | 0 => none
  | fuel + 1 =>
    match op with
    | .schedule h w fault =>
      match s.emitterOf w with
      | some _ =>
        let s1 := ({ s with handlers := ainsert w (insertSorted h (s.handlersOf w)) s.handlers,
                            watches := insertSorted w s.watches } : State).log (.reg h w)
        finishOpX fuel s1.release ti "ok"
      | none =>
        if fault = 1 then finishOpX fuel s.release ti "raised:ctor"
        else
          let e := s.emObjs.length
          let script := (alookup w s.emitScripts).getD []
          let s1 : State := { s with emObjs := s.emObjs ++ [({ wid := w, script := script } : EmObj)] }
          if s1.observerAlive && !s1.stoppedD then
            if fault = 2 then finishOpX fuel s1.release ti "raised:start"
            else
              let (s2, ei) := s1.spawn ("E" ++ toString w) (.emitter e)
              let s3 := s2.updEm e (fun o => { o with started := true, tidx := some ei })
              some (s3.updThread ti (fun t => { t with pc := .schedStarted h w e }))
          else schedFinishX fuel s1 ti h w e
    | .unschedule w =>
      match s.emitterOf w with
      | none => finishOpX fuel s.release ti "raised:KeyError"
      | some e =>
        if (alookup w s.handlers).isNone then finishOpX fuel s.release ti "raised:KeyError"
        else
          let s1 := ({ s with handlers := aerase w s.handlers, regEm := s.regEm.filter (· != e) } : State).log (.unregW w)
          let s2 := s1.updEm e (fun o => { o with stopped := true })
          match (s2.em? e).bind (·.tidx) with
          | some _ => some (s2.updThread ti (fun t => { t with pc := .unschedJoin w e }))
          | none => unschedFinishX fuel s2 ti w
    | .addHandler h w =>
      finishOpX fuel (({ s with handlers := ainsert w (insertSorted h (s.handlersOf w)) s.handlers } : State).log (.reg h w)).release ti "ok"
    | .removeHandler h w =>
      if (s.handlersOf w).contains h then
        finishOpX fuel (({ s with handlers := ainsert w ((s.handlersOf w).filter (· != h)) s.handlers } : State).log (.unreg h w)).release ti "ok"
      else finishOpX fuel ({ s with handlers := ainsert w (s.handlersOf w) s.handlers } : State).release ti "raised:KeyError"
    | .unscheduleAll => uallBodyX fuel s ti false
    | .stop => uallBodyX fuel s ti true
    | _ => none

def schedFinishX (fuel : Nat) (s : State) (ti : Nat) (h : Hid) (w : Wid) (e : Eid) : Option State :=
  match fuel with
  | 0 => none
  | fuel + 1 =>
    let reg := (s.regEm ++ [e])
    let sorted := reg.mergeSort (fun a b =>
      ((s.em? a).map (·.wid)).getD 0 ≤ ((s.em? b).map (·.wid)).getD 0)
    let s1 := ({ s with regEm := sorted,
                        handlers := ainsert w (insertSorted h (s.handlersOf w)) s.handlers,
                        watches := insertSorted w s.watches } : State).log (.reg h w)
    finishOpX fuel s1.release ti "ok"

def unschedFinishX (fuel : Nat) (s : State) (ti : Nat) (w : Wid) : Option State :=
  match fuel with
  | 0 => none
  | fuel + 1 =>
    if s.watches.contains w then finishOpX fuel ({ s with watches := s.watches.filter (· != w) } : State).release ti "ok"
    else finishOpX fuel s.release ti "raised:KeyError"

def uallBodyX (fuel : Nat) (s : State) (ti : Nat) (forStop : Bool) : Option State :=
  match fuel with
  | 0 => none
  | fuel + 1 =>
    let s1 := ({ s with handlers := [] } : State).log .unregAll
    let s2 := s1.regEm.foldl (fun acc e => acc.updEm e (fun o => { o with stopped := true })) s1
    uallJoinNextX fuel s2 ti s2.regEm forStop

def uallJoinNextX (fuel : Nat) (s : State) (ti : Nat) (es : List Eid) (forStop : Bool) : Option State :=
  match fuel with
  | 0 => none
  | fuel + 1 =>
    match es with
    | e :: rest =>
      if ((s.em? e).bind (·.tidx)).isSome then some (s.updThread ti (fun t => { t with pc := .uallJoin (e :: rest) forStop }))
      else uallJoinNextX fuel s ti rest forStop
    | [] =>
      let s1 := ({ s with regEm := [], watches := [] } : State).release
      if forStop then
        finishOpX fuel (s1.putItem (fun _ => .stop) (fun _ => .enqStop) .dropStop) ti "ok"
      else finishOpX fuel s1 ti "ok"

def startEmittersX (fuel : Nat) (s : State) (ti : Nat) (es : List Eid) : Option State :=
  match fuel with
  | 0 => none
  | fuel + 1 =>
    match es with
    | e :: rest =>
      match s.em? e with
      | some o =>
        let (s1, ei) := s.spawn ("E" ++ toString o.wid) (.emitter e)
        let s2 := s1.updEm e (fun o => { o with started := true, tidx := some ei })
        some (s2.updThread ti (fun t => { t with pc := .startEm rest }))
      | none => none
    | [] =>
      let (s1, d) := s.spawn "D" .dispatcher
      let s2 := { s1 with dIdx := some d }
      some (s2.updThread ti (fun t => { t with pc := .startD }))

def dLoopX (fuel : Nat) (s : State) (ti : Nat) : Option State :=
  match fuel with
  | 0 => none
  | fuel + 1 =>
    if s.stoppedD then some (s.updThread ti (fun t => { t with pc := .done }))
    else dGetX fuel s ti

def dGetX (fuel : Nat) (s : State) (ti : Nat) : Option State :=
  match fuel with
  | 0 => none
  | fuel + 1 =>
      match s.queue with
      | [] => some (s.updThread ti (fun t => { t with pc := .dWait, notified := false }))
      | item :: rest =>
        let last' := match s.last with
          | some l => if item.same l then none else some l
          | none => none
        let s1 := { s with queue := rest, last := last' }
        match item with
        | .stop => dLoopX fuel s1 ti
        | .ev u w v => some (s1.updThread ti (fun t => { t with pc := .dLock u w v }))

def continueIterX (fuel : Nat) (s : State) (ti : Nat) : Option State :=
  match fuel with
  | 0 => none
  | fuel + 1 =>
    match s.thread? ti with
    | none => none
    | some t =>
      match t.iter with
      | none => none
      | some (u, _w, _v, []) =>
        let s1 := ((s.log (.dispatchEnd u)).setThread ti { t with iter := none }).release
        dLoopX fuel s1 ti
      | some (u, w, v, h :: rest) =>
        let s0 := if (alookup w s.handlers).isNone then { s with handlers := ainsert w [] s.handlers } else s
        if (s0.handlersOf w).contains h then
          let k := (alookup h s0.invoc).getD 0
          let script := (((alookup h s0.callbacks).getD []))[k]?.getD []
          let s1 := (({ s0 with invoc := ainsert h (k + 1) s0.invoc } : State).log (.call h w v u))
          let s2 := s1.setThread ti { t with iter := some (u, w, v, rest), ops := script, idx := 0,
                                             label := "cb" ++ toString h ++ "." ++ toString k }
          nextOpX fuel s2 ti
        else continueIterX fuel ((s0.log (.skip h u)).setThread ti { t with iter := some (u, w, v, rest) }) ti
end

/-- `step`, with the instrumented functions (`none`: not enabled, or the step does not complete) -/
def stepX (s : State) (ti : Nat) : Option State :=
  if !enabled s ti then none else
  match s.thread? ti with
  | none => none
  | some t =>
    match t.pc with
    | .begin =>
      match t.kind with
      | .client => nextOpX FUEL s ti
      | .dispatcher => dLoopX FUEL s ti
      | .emitter e => some (eLoop s ti e)
    | .acq op => lockedX FUEL { s with lockOwner := some ti, lockCount := 1 } ti op
    | .schedStarted h w e => schedFinishX FUEL s ti h w e
    | .unschedJoin w _ => unschedFinishX FUEL s ti w
    | .uallJoin (_ :: rest) forStop => uallJoinNextX FUEL s ti rest forStop
    | .uallJoin [] forStop => uallJoinNextX FUEL s ti [] forStop
    | .startEm es => startEmittersX FUEL s ti es
    | .startD => finishOpX FUEL s ti "ok"
    | .joinD => finishOpX FUEL s ti "ok"
    | .dWait => dGetX FUEL (s.updThread ti (fun t => { t with notified := false })) ti
    | .dLock u w v =>
      let s1 := { s with lockOwner := some ti, lockCount := 1 }
      let s2 := if (alookup w s1.handlers).isNone then { s1 with handlers := ainsert w [] s1.handlers } else s1
      let s3 := (s2.log (.dispatch u w (s2.handlersOf w))).updThread ti (fun t => { t with iter := some (u, w, v, s2.handlersOf w) })
      continueIterX FUEL s3 ti
    | .eEmit =>
      match t.kind with
      | .emitter e =>
        match s.em? e with
        | some o =>
          match o.script with
          | v :: rest =>
            let s1 := s.updEm e (fun o => { o with script := rest })
            let s2 := s1.putItem (fun u => .ev u o.wid v) (fun u => .enq o.wid v u) (.drop o.wid v)
            some (eLoop s2 ti e)
          | [] => some (eLoop s ti e)
        | none => none
      | _ => none
    | .eWait =>
      match t.kind with
      | .emitter e => some (eLoop s ti e)
      | _ => none
    | .done => none

/-- along `sched`, every step that is taken completes (no fuel exhaustion, no impossible branch) -/
def runOk (s : State) : List Nat → Bool
  | [] => true
  | ti :: rest =>
    match step s ti with
    | none => runOk s rest
    | some s' => (stepX s ti).isSome && runOk s' rest

end WD.ProofsObs
