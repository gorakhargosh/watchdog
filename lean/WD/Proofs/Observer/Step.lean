/- the invariants along runs whose steps all complete -/
import WD.Proofs.Observer.Pass
namespace WD.ProofsObs
open WD WD.Obs

theorem Between.eLoop {s : State} {ti : Nat} {t : Thread} (hL : LX s ti (idepth t)) (hK : Disp s (some ti)) (hG : GX s ti NoX)
    (ht : s.thread? ti = some t) (e : Eid) (hk : t.kind = .emitter e) (hi : t.iter = none) (hep : epc t.pc = true)
    (hobj : ∃ o, s.em? e = some o ∧ o.tidx.isSome = true) : Between (eLoop s ti e) := by
  have mk : ∀ pc, epc pc = true → TG s { t with pc := pc } := by
    intro pc hp
    exact {
      disp := by
        rintro (h | h)
        · simp [hi] at h
        · cases pc <;> simp [isDpc, epc] at h hp
      cb := fun h => by simp [hi] at h
      epcE := fun _ _ => hp
      epcO := fun _ => ⟨e, hk⟩
      dj := fun h _ => by simp [hk] at h
      joinU := fun w e' h => by cases pc <;> simp [epc] at h hp
      joinA := fun es fs h => by cases pc <;> simp [epc] at h hp
      sched := fun h0 w e' h => by cases pc <;> simp [epc] at h hp
      emObj := fun e' h => by
        have : e' = e := by
          have h' : t.kind = .emitter e' := h
          rw [hk] at h'; cases h'; rfl
        subst this; exact hobj
      startEs := fun es h => by cases pc <;> simp [epc] at h hp
      regS := fun es fs h => by cases pc <;> simp [epc] at h hp
      q1 := fun h _ => by cases pc <;> simp [epc] at h hp
      sq := fun h _ _ => by simp [hk] at h
      stopA := fun h => by cases pc <;> simp [epc] at h hp
      stopJ := fun es h => by cases pc <;> simp [epc] at h hp }
  have hpe : ∀ (pc : Pc) h0 w e', t.pc = .schedStarted h0 w e' → AliveOk s e' ∨ pc = .schedStarted h0 w e' := by
    intro pc h0 w e' hp; rw [hp] at hep; cases hep
  unfold WD.Obs.eLoop
  split
  · rename_i hn
    obtain ⟨o, ho, _⟩ := hobj
    rw [ho] at hn; cases hn
  · have hD : ∀ f : Thread → Thread, (∀ t, dpc (f t).pc = false) → (∀ t, (f t).iter = t.iter) → (∀ t, (f t).kind = t.kind) →
        Disp (s.updThread ti f) none := fun f h1 h2 h3 => hK.closeUpd f h1 (fun t => Or.inl (h2 t)) h3
    split
    · exact ⟨hL.closeUpd ht _ (depth_of_not_holds rfl) trivial, hD _ (fun _ => rfl) (fun _ => rfl) (fun _ => rfl),
        hG.closeUpd ht _ rfl (mk .done rfl) (hpe _) (fun _ hx => hx.elim)⟩
    · split
      · exact ⟨hL.closeUpd ht _ (depth_of_not_holds rfl) trivial, hD _ (fun _ => rfl) (fun _ => rfl) (fun _ => rfl),
          hG.closeUpd ht _ rfl (mk .eWait rfl) (hpe _) (fun _ hx => hx.elim)⟩
      · exact ⟨hL.closeUpd ht _ (depth_of_not_holds rfl) trivial, hD _ (fun _ => rfl) (fun _ => rfl) (fun _ => rfl),
          hG.closeUpd ht _ rfl (mk .eEmit rfl) (hpe _) (fun _ hx => hx.elim)⟩

/-- what a thread whose pc lies inside an API call takes into its step from the invariants between steps -/
theorem inCall {s : State} {ti : Nat} {t : Thread} (hQ : LQ s) (hQg : GQ s) (ht : s.thread? ti = some t) {pc : Pc}
    (hpc : t.pc = pc) (he : epc pc = false) (hd : djPc pc = false) (hn : pc ≠ .done)
    (hs : ∀ h0 w e, pc ≠ .schedStarted h0 w e) :
    LX s ti (idepth t + (holdsPc pc).toNat) ∧ CurOK s.hist pc t.cur ∧ TM t ∧ TS s t := by
  subst hpc
  refine ⟨?_, (hQ.thr ti t ht).cur, (hQg.thr ti t ht).tm he hd, (hQg.thr ti t ht).ts hn hs⟩
  have hO := hQ.open ht
  cases hp : holdsPc t.pc
  · rwa [depth_of_not_holds hp] at hO
  · rwa [depth_of_holds hp] at hO

theorem Between.stepX {s s' : State} {ti : Nat} (hB : Between s) (h : stepX s ti = some s') : Between s' := by
  obtain ⟨hQ, hD, hQg⟩ := hB
  have hW := hD.weaken ti
  have A := pass FUEL
  have D := pass_d ti FUEL
  unfold WD.ProofsObs.stepX at h
  generalize FUEL = F at A D h
  split at h
  · cases h
  · rename_i hen
    split at h
    · cases h
    · rename_i t ht
      have hT := hQ.thr ti t ht
      have hTg := hQg.thr ti t ht
      have hO := hQ.open ht
      have hG := hQg.open ti
      split at h
      · -- begin
        rename_i hpc
        have hp : holdsPc t.pc = false := by rw [hpc]; rfl
        rw [depth_of_not_holds hp] at hO
        split at h
        · rename_i hk
          exact A.nxt _ _ _ _ h ht hO hW ⟨fun e he => (by rw [hk] at he; cases he), fun hi => hTg.disp (Or.inl hi),
            fun hd => (by rw [hk] at hd; cases hd)⟩ (hTg.ts (by rw [hpc]; simp) (by rw [hpc]; simp)) hG
        · rename_i hk
          exact D.1 _ _ _ h ht hk (hTg.iter_none (by rw [hpc]; rfl) (by rw [hpc]; simp)) (fun h0 w e hp' => by rw [hpc] at hp'; cases hp')
            (Or.inr (fun hS => hTg.sq hk (by rw [hpc]; simp) hS)) hO hW hG
        · rename_i e hk
          cases h
          exact Between.eLoop hO hW hG ht e hk (hTg.iter_none (by rw [hpc]; rfl) (by rw [hpc]; simp)) (by rw [hpc]; rfl) (hTg.emObj e hk)
      · -- acq
        rename_i op hpc
        have hn : s.lockOwner = none := by
          simp [enabled, ht, hpc] at hen
          cases ho : s.lockOwner <;> simp_all
        have hc : t.cur = some op := by have := hT.cur; rw [hpc] at this; exact this
        have hi : idepth t = 0 := (depth_of_not_holds (by rw [hpc]; rfl)).symm.trans (hQ.depth_zero_of_free ht hn)
        refine A.lck _ _ _ _ _ h ht hc ?_ ?_ (hW.frame rfl rfl rfl rfl (fun _ => rfl)) (hTg.tm (by rw [hpc]; rfl) (by rw [hpc]; rfl)) ?_ (hG.frame rfl rfl rfl rfl rfl rfl rfl rfl)
        · rw [hi]; exact hQ.take ti hn
        · intro hop; subst hop; exact hTg.stopA hpc
        · exact (hTg.ts (by rw [hpc]; simp) (by rw [hpc]; simp)).frame rfl rfl rfl rfl rfl
      · -- schedStarted
        rename_i h0 w e hpc
        have hp : holdsPc t.pc = true := by rw [hpc]; rfl
        rw [depth_of_holds hp] at hO
        have hc := hT.cur; rw [hpc] at hc
        refine A.sfin _ _ _ _ _ _ _ h ht hc hO hW (hTg.tm (by rw [hpc]; rfl) (by rw [hpc]; rfl)) ?_ ?_ hG (hTg.sched h0 w e hpc)
        · intro hk hS; exact hTg.sq hk (by rw [hpc]; simp) hS
        · intro h1 w1 e1 hp1; rw [hpc] at hp1; cases hp1; exact Or.inl rfl
      · -- unschedJoin
        rename_i w e hpc
        obtain ⟨hO, hc, hM, hS⟩ := inCall hQ hQg ht hpc rfl rfl (by simp) (by simp)
        exact A.ufin _ _ _ _ _ h ht hc.1 hc.2 hO hW hM hS hG
      · -- uallJoin (e :: rest)
        rename_i e rest b hpc
        obtain ⟨hO, hc, hM, hS⟩ := inCall hQ hQg ht hpc rfl rfl (by simp) (by simp)
        exact A.uajn _ _ _ _ _ _ h ht hc.1 hc.2 hO (fun hb => by subst hb; exact hTg.stopJ _ hpc)
          hW hM hS hG
          (fun x hx => hTg.joinA _ _ hpc x (List.mem_cons_of_mem _ hx)) (hTg.regS _ _ hpc)
      · -- uallJoin []
        rename_i b hpc
        obtain ⟨hO, hc, hM, hS⟩ := inCall hQ hQg ht hpc rfl rfl (by simp) (by simp)
        exact A.uajn _ _ _ _ _ _ h ht hc.1 hc.2 hO (fun hb => by subst hb; exact hTg.stopJ _ hpc)
          hW hM hS hG
          (fun x hx => by cases hx) (hTg.regS _ _ hpc)
      · -- startEm
        rename_i es hpc
        obtain ⟨hO, hc, hM, hS⟩ := inCall hQ hQg ht hpc rfl rfl (by simp) (by simp)
        exact A.stem _ _ _ _ _ h ht hc hO hW hM hS hG (hTg.startEs es hpc)
      · -- startD
        rename_i hpc
        obtain ⟨hO, hc, hM, hS⟩ := inCall hQ hQg ht hpc rfl rfl (by simp) (by simp)
        have hc2 : t.cur = some Op.start := hc
        refine A.fin _ _ _ _ _ h ht hO ?_ ?_ hW hM hS hG
        · intro _ op' hc' h' w' hr
          rw [hc2] at hc'; cases hc'; simp [removes] at hr
        · intro _ hcs; rw [hc2] at hcs; cases hcs
      · -- joinD
        rename_i hpc
        obtain ⟨hO, hc, hM, hS⟩ := inCall hQ hQg ht hpc rfl rfl (by simp) (by simp)
        have hc2 : t.cur = some Op.join := hc
        refine A.fin _ _ _ _ _ h ht hO ?_ ?_ hW hM hS hG
        · intro _ op' hc' h' w' hr
          rw [hc2] at hc'; cases hc'; simp [removes] at hr
        · intro _ hcs; rw [hc2] at hcs; cases hcs
      · -- dWait
        rename_i hpc
        have hk : t.kind = .dispatcher := hTg.disp (Or.inr (by rw [hpc]; rfl))
        have ht2 := updThread_thread? (s := s) ti (fun t => { t with notified := false }) ht
        simp only [if_true] at ht2
        have hG2 : GX (s.updThread ti (fun t => { t with notified := false })) ti NoX := by
          rw [updThread_of_some _ ht]
          exact hG.setThreadMine ht _ rfl rfl
        have hp : holdsPc t.pc = false := by rw [hpc]; rfl
        rw [depth_of_not_holds hp] at hO
        refine D.2 _ _ _ h ht2 hk (hTg.iter_none (by rw [hpc]; rfl) (by rw [hpc]; simp)) ?_ ?_
          (hO.updThread_same ti _ (fun t => ⟨rfl, rfl, rfl⟩))
          (hW.updThread_same ti _ (fun t => ⟨rfl, rfl, rfl⟩)) hG2
        · intro h0 w e hp'
          have hp'' : t.pc = .schedStarted h0 w e := hp'
          rw [hpc] at hp''; cases hp''
        · intro hS
          rw [updThread_hist] at hS
          rw [updThread_queue]
          exact (hTg.sq hk (by rw [hpc]; simp) hS).imp id (fun x => x.mono (KP.updThread _ _ _ (fun _ => rfl)))
      · -- dLock
        rename_i u w v hpc
        try simp only [] at h
        have hk : t.kind = .dispatcher := hTg.disp (Or.inr (by rw [hpc]; rfl))
        have hn : s.lockOwner = none := by
          simp [enabled, ht, hpc] at hen
          cases ho : s.lockOwner <;> simp_all
        -- the lock is taken, then `handlers[w]` is read
        have hL2 := (hQ.take ti hn).touch w
        have hK2 := (hD.frame (s' := { s with lockOwner := some ti, lockCount := 1 }) rfl rfl rfl rfl (fun _ => rfl)).touch w
        have hG2 := (hG.frame (s' := { s with lockOwner := some ti, lockCount := 1 }) rfl rfl rfl rfl rfl rfl rfl rfl).touch w
        have hS2 := ((hTg.ts (by rw [hpc]; simp) (by rw [hpc]; simp)).frame (s' := { s with lockOwner := some ti, lockCount := 1 })
          rfl rfl rfl rfl rfl).touch w
        generalize hs2 : (if (alookup w s.handlers).isNone then ({ s with lockOwner := some ti, lockCount := 1, handlers := ainsert w [] s.handlers } : State) else { s with lockOwner := some ti, lockCount := 1 }) = s2 at h hL2 hK2 hG2 hS2
        have ht2 : s2.thread? ti = some t := by subst hs2; split <;> exact ht
        have ht3 : (s2.log (.dispatch u w (s2.handlersOf w))).thread? ti = some t := by rw [log_thread?]; exact ht2
        rw [updThread_of_some _ ht3] at h
        refine A.cit _ _ _ _ h (setThread_thread?_self _ ht3) ?_ (hK2.dispatch ht2 hpc _ rfl rfl) ?_ ?_ ?_
        · exact (hL2.log (.dispatch u w (s2.handlersOf w)) trivial (Or.inl rfl)).setThreadMine _
        · exact ⟨fun e he => by simp [hk] at he, fun _ => hk, fun _ => rfl⟩
        · exact (hS2.frameLog (s' := s2.log (.dispatch u w (s2.handlersOf w))) rfl rfl rfl rfl _ rfl rfl).rel
            (Rel.setThread (t := t) ht3 _ rfl) rfl rfl
        · exact (hG2.log _ rfl (by exact trivial)).setThreadMine (t := t) ht3 _ rfl rfl
      · -- eEmit
        rename_i hpc
        have hp : holdsPc t.pc = false := by rw [hpc]; rfl
        rw [depth_of_not_holds hp] at hO
        split at h
        · split at h
          · split at h
            · cases h
              rename_i _ e _ _ o _ _ v rest _
              have hk : t.kind = .emitter e := by assumption
              have ht1 : (s.updEm e (fun o => { o with script := rest })).thread? ti = some t := by rw [updEm_thread?]; exact ht
              obtain ⟨t', ht', e1, e2, e3, e4⟩ := putItem_thread? (fun u => QItem.ev u o.wid v) (fun u => Obs.enq o.wid v u) (Obs.drop o.wid v) ht1
              have hG1 := (hG.updEm e (fun o => { o with script := rest }) (fun o h => h) (fun o => rfl)).putItem
                (fun u => QItem.ev u o.wid v) (fun u => Obs.enq o.wid v u) (Obs.drop o.wid v)
                (fun p u => ⟨by simp [GoodAtS], by simp [GoodAtS]⟩) (Or.inl (fun u => ⟨by simp, rfl, rfl⟩))
              have hi : t.iter = none := hTg.iter_none (by rw [hpc]; rfl) (by rw [hpc]; simp)
              have hL1 := (hO.updEm e (fun o => { o with script := rest })).putItem (fun u => QItem.ev u o.wid v) (fun u => Obs.enq o.wid v u) (Obs.drop o.wid v) rfl rfl trivial trivial
              have hi' : idepth t' = idepth t := by simp [idepth, e2]
              have hK1 := (hW.updEm e (fun o => { o with script := rest })).putItem (fun u => QItem.ev u o.wid v)
                (fun u => Obs.enq o.wid v u) (Obs.drop o.wid v) rfl rfl rfl rfl trivial trivial (Or.inr ⟨_, _, rfl⟩)
              refine Between.eLoop (hi' ▸ hL1) hK1 hG1 ht' e (e4.trans hk)
                (e2.trans hi) (by rw [e1, hpc]; rfl) ?_
              obtain ⟨y, hy, hty⟩ := hTg.emObj e hk
              have hm1 := EmMono.updEm s e (fun o => { o with script := rest }) (fun o h => h) (fun o h => h)
              obtain ⟨y1, hy1, _, hty1⟩ := hm1 e y hy
              exact ⟨y1, by simpa [State.em?, putItem_emObjs] using hy1, hty1 hty⟩
            · cases h
              rename_i _ e hk _ _ _ _ _
              exact Between.eLoop hO hW hG ht e hk (hTg.iter_none (by rw [hpc]; rfl) (by rw [hpc]; simp)) (by rw [hpc]; rfl) (hTg.emObj e hk)
          · cases h
        · cases h
      · -- eWait
        rename_i hpc
        split at h
        · rename_i e hk
          cases h
          rw [depth_of_not_holds (by rw [hpc]; rfl)] at hO
          exact Between.eLoop hO hW hG ht e hk (hTg.iter_none (by rw [hpc]; rfl) (by rw [hpc]; simp)) (by rw [hpc]; rfl) (hTg.emObj e hk)
        · cases h
      · cases h

theorem Between.init (clients : List (List Op)) (cbs : List (Hid × List (List Op))) (emit : List (Wid × List Nat)) :
    Between (init clients cbs emit) :=
  ⟨LQ.init clients cbs emit, ⟨CX.init clients cbs emit, fun _ => OX.init clients cbs emit⟩, GQ.init clients cbs emit⟩

theorem between_reach (clients : List (List Op)) (cbs : List (Hid × List (List Op))) (emit : List (Wid × List Nat))
    (sched : List Nat) (hok : runOk (init clients cbs emit) sched = true) : Between (run (init clients cbs emit) sched) :=
  run_induction (fun _ _ _ hP h => hP.stepX h) sched _ (Between.init clients cbs emit) hok

end WD.ProofsObs
