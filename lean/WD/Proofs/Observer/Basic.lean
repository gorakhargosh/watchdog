/- general lemmas for the observer proofs: lists, the folds over the history, and what the elementary updates of the
   model (`log`, `setThread`, `updThread`, `updEm`, `release`, `spawn`, `putItem`) do to the thread table and the queue -/
import WD.Model.Observer
import WD.Spec.ObserverSpec
namespace WD.ProofsObs
open WD WD.Obs

theorem snoc_induction {α : Type} {P : List α → Prop} (nil : P [])
    (snoc : ∀ l a, P l → P (l ++ [a])) (l : List α) : P l := by
  have h : ∀ l : List α, P l.reverse := by
    intro l
    induction l with
    | nil => simpa using nil
    | cons a l ih => simpa using snoc _ a ih
  simpa using h l.reverse

/-- two decompositions of the same list around `a` and `b` -/
theorem append_cons_eq_append_cons {α : Type} {p q p' q' : List α} {a b : α}
    (h : p ++ a :: q = p' ++ b :: q') :
    (p = p' ∧ a = b ∧ q = q') ∨ (∃ m, p = p' ++ b :: m ∧ q' = m ++ a :: q) ∨
      (∃ m, p' = p ++ a :: m ∧ q = m ++ b :: q') := by
  rcases List.append_eq_append_iff.mp h with ⟨m, h1, h2⟩ | ⟨m, h1, h2⟩
  · -- p' = p ++ m, a :: q = m ++ b :: q'
    cases m with
    | nil => simp at h1 h2; exact Or.inl ⟨h1.symm, h2.1, h2.2⟩
    | cons c m =>
      simp at h2
      exact Or.inr (Or.inr ⟨m, by rw [h1, h2.1], h2.2⟩)
  · cases m with
    | nil => simp at h1 h2; exact Or.inl ⟨h1, h2.1.symm, h2.2.symm⟩
    | cons c m =>
      simp at h2
      exact Or.inr (Or.inl ⟨m, by rw [h1, h2.1], h2.2⟩)

/-! ### `registered` as a fold -/

def regStep (h : Hid) (w : Wid) (acc : Bool) (o : Obs) : Bool :=
  match o with
  | .reg h' w' => if h' = h ∧ w' = w then true else acc
  | .unreg h' w' => if h' = h ∧ w' = w then false else acc
  | .unregW w' => if w' = w then false else acc
  | .unregAll => false
  | _ => acc

theorem registered_eq_foldl (p : List Obs) (h : Hid) (w : Wid) :
    registered p h w = p.foldl (regStep h w) false := rfl

@[simp] theorem registered_nil (h : Hid) (w : Wid) : registered [] h w = false := rfl

theorem registered_snoc (p : List Obs) (o : Obs) (h : Hid) (w : Wid) :
    registered (p ++ [o]) h w = regStep h w (registered p h w) o := by
  simp [registered_eq_foldl, List.foldl_append]

theorem registered_append (p q : List Obs) (h : Hid) (w : Wid) :
    registered (p ++ q) h w = q.foldl (regStep h w) (registered p h w) := by
  simp [registered_eq_foldl, List.foldl_append]

def regGhost : Obs → Bool
  | .reg .. => true
  | .unreg .. => true
  | .unregW .. => true
  | .unregAll => true
  | _ => false

theorem regStep_neutral {o : Obs} (ho : regGhost o = false) (h : Hid) (w : Wid) (acc : Bool) :
    regStep h w acc o = acc := by
  cases o <;> first | rfl | cases ho

theorem regStep_false_true {o : Obs} {h : Hid} {w : Wid} (e : regStep h w false o = true) : o = .reg h w := by
  cases o <;> simp [regStep] at e
  rw [e.1, e.2]

theorem reg_mem_of_foldl {q : List Obs} {h : Hid} {w : Wid}
    (h1 : q.foldl (regStep h w) false = true) : Obs.reg h w ∈ q := by
  induction q with
  | nil => cases h1
  | cons o q ih =>
    rw [List.foldl_cons] at h1
    cases hr : regStep h w false o with
    | true => rw [regStep_false_true hr]; exact List.mem_cons_self
    | false => rw [hr] at h1; exact List.mem_cons_of_mem _ (ih h1)

theorem enqUids_append (p q : List Obs) : enqUids (p ++ q) = enqUids p ++ enqUids q := by
  simp [enqUids, List.filterMap_append]

theorem callUids_append (h : Hid) (p q : List Obs) : callUids h (p ++ q) = callUids h p ++ callUids h q := by
  simp [callUids, List.filterMap_append]

theorem callUids_singleton (h : Hid) (o : Obs) :
    callUids h [o] = match o with | .call h' _ _ u => if h' = h then [u] else [] | _ => [] := by
  cases o <;> try rfl
  rename_i h' w v u
  by_cases e : h' = h <;> simp [callUids, e]

theorem mem_enqUids {p : List Obs} {u : Nat} : u ∈ enqUids p ↔ ∃ w v, Obs.enq w v u ∈ p := by
  simp only [enqUids, List.mem_filterMap]
  constructor
  · rintro ⟨o, ho, h⟩
    cases o <;> simp at h
    subst h; exact ⟨_, _, ho⟩
  · rintro ⟨w, v, h⟩; exact ⟨_, h, rfl⟩

theorem mem_callUids {h : Hid} {p : List Obs} {u : Nat} :
    u ∈ callUids h p ↔ ∃ w v, Obs.call h w v u ∈ p := by
  simp only [callUids, List.mem_filterMap]
  constructor
  · rintro ⟨o, ho, hh⟩
    cases o <;> simp at hh
    obtain ⟨h1, h2⟩ := hh
    subst h1; subst h2; exact ⟨_, _, ho⟩
  · rintro ⟨w, v, hh⟩; exact ⟨_, hh, by simp⟩

theorem mem_insertSorted {x y : Nat} {l : List Nat} : x ∈ insertSorted y l ↔ x = y ∨ x ∈ l := by
  induction l with
  | nil => simp [insertSorted]
  | cons a l ih =>
    simp only [insertSorted]
    split
    · simp
    · split
      · rename_i h1 h2; subst h2; simp
      · simp [ih]; constructor
        · rintro (h | h | h) <;> simp [h]
        · rintro (h | h | h) <;> simp [h]

def hOf (hs : List (Wid × List Hid)) (w : Wid) : List Hid := (alookup w hs).getD []

theorem handlersOf_eq (s : State) (w : Wid) : s.handlersOf w = hOf s.handlers w := rfl

theorem hOf_ainsert (hs : List (Wid × List Hid)) (w w' : Wid) (l : List Hid) :
    hOf (ainsert w l hs) w' = if w' = w then l else hOf hs w' := by
  unfold hOf
  by_cases h : w' = w
  · subst h; simp [alookup_ainsert_self]
  · have : w ≠ w' := fun e => h e.symm
    simp [h, alookup_ainsert_ne _ _ this]

theorem hOf_aerase (hs : List (Wid × List Hid)) (w w' : Wid) :
    hOf (aerase w hs) w' = if w' = w then [] else hOf hs w' := by
  unfold hOf
  by_cases h : w' = w
  · subst h; simp [alookup_aerase_self]
  · have : w ≠ w' := fun e => h e.symm
    simp [h, alookup_aerase_ne _ this]

@[simp] theorem hOf_nil (w : Wid) : hOf [] w = [] := rfl

theorem hOf_touch (hs : List (Wid × List Hid)) (w w' : Wid) (h : (alookup w hs).isNone = true) :
    hOf (ainsert w [] hs) w' = hOf hs w' := by
  rw [hOf_ainsert]
  split
  · rename_i e; subst e
    unfold hOf
    cases hh : alookup w' hs <;> simp_all
  · rfl

theorem hOf_self (hs : List (Wid × List Hid)) (w w' : Wid) :
    hOf (ainsert w (hOf hs w) hs) w' = hOf hs w' := by
  rw [hOf_ainsert]; split
  · rename_i e; subst e; rfl
  · rfl

def Good (G : List Obs → Obs → Prop) (hist : List Obs) : Prop :=
  ∀ p o q, hist = p ++ o :: q → G p o

theorem Good.nil (G : List Obs → Obs → Prop) : Good G [] := by
  intro p o q h; simp at h

theorem Good.snoc {G : List Obs → Obs → Prop} {hist : List Obs} {o : Obs}
    (hg : Good G hist) (ho : G hist o) : Good G (hist ++ [o]) := by
  intro p x q h
  rcases snoc_split h with ⟨_, hp, hx⟩ | ⟨q', _, hl⟩
  · subst hp; subst hx; exact ho
  · exact hg p x q' hl

theorem Good.of_snoc {G : List Obs → Obs → Prop} {hist : List Obs} {o : Obs} (hg : Good G (hist ++ [o])) :
    Good G hist ∧ G hist o :=
  ⟨fun p x q e => hg p x (q ++ [o]) (by rw [e, List.append_assoc, List.cons_append]), hg hist o [] rfl⟩

theorem Good.filterMap_pairwise {G : List Obs → Obs → Prop} {g : Obs → Option Nat} {hist : List Obs}
    (hg : Good G hist) (h : ∀ p o u, G p o → g o = some u → ∀ x ∈ p.filterMap g, x < u) :
    (hist.filterMap g).Pairwise (· < ·) := by
  induction hist using snoc_induction with
  | nil => exact List.Pairwise.nil
  | snoc l a ih =>
    obtain ⟨hl, ha⟩ := hg.of_snoc
    rw [List.filterMap_append, List.pairwise_append]
    cases hga : g a with
    | none =>
      rw [List.filterMap_cons_none hga]
      exact ⟨ih hl, List.Pairwise.nil, fun _ _ _ hb => nomatch hb⟩
    | some u =>
      rw [List.filterMap_cons_some hga]
      exact ⟨ih hl, List.pairwise_singleton _ _, fun x hx y hy => by
        rw [List.mem_singleton.mp hy]; exact h l a u ha hga x hx⟩

theorem Good.mono {G G' : List Obs → Obs → Prop} {hist : List Obs}
    (hg : Good G hist) (h : ∀ p o, G p o → G' p o) : Good G' hist :=
  fun p o q e => h _ _ (hg p o q e)

@[simp] theorem log_hist (s : State) (o : Obs) : (s.log o).hist = s.hist ++ [o] := rfl
@[simp] theorem log_threads (s : State) (o : Obs) : (s.log o).threads = s.threads := rfl
@[simp] theorem log_handlers (s : State) (o : Obs) : (s.log o).handlers = s.handlers := rfl
@[simp] theorem log_queue (s : State) (o : Obs) : (s.log o).queue = s.queue := rfl
@[simp] theorem log_nextUid (s : State) (o : Obs) : (s.log o).nextUid = s.nextUid := rfl
@[simp] theorem log_lockOwner (s : State) (o : Obs) : (s.log o).lockOwner = s.lockOwner := rfl
@[simp] theorem log_lockCount (s : State) (o : Obs) : (s.log o).lockCount = s.lockCount := rfl
@[simp] theorem log_thread? (s : State) (o : Obs) (j : Nat) : (s.log o).thread? j = s.thread? j := rfl
@[simp] theorem log_handlersOf (s : State) (o : Obs) (w : Wid) : (s.log o).handlersOf w = s.handlersOf w := rfl

@[simp] theorem setThread_hist (s : State) (j : Nat) (t : Thread) : (s.setThread j t).hist = s.hist := rfl
@[simp] theorem setThread_threads (s : State) (j : Nat) (t : Thread) : (s.setThread j t).threads = s.threads.set j t := rfl
@[simp] theorem setThread_handlers (s : State) (j : Nat) (t : Thread) : (s.setThread j t).handlers = s.handlers := rfl
@[simp] theorem setThread_queue (s : State) (j : Nat) (t : Thread) : (s.setThread j t).queue = s.queue := rfl
@[simp] theorem setThread_nextUid (s : State) (j : Nat) (t : Thread) : (s.setThread j t).nextUid = s.nextUid := rfl
@[simp] theorem setThread_lockOwner (s : State) (j : Nat) (t : Thread) : (s.setThread j t).lockOwner = s.lockOwner := rfl
@[simp] theorem setThread_lockCount (s : State) (j : Nat) (t : Thread) : (s.setThread j t).lockCount = s.lockCount := rfl
@[simp] theorem setThread_handlersOf (s : State) (j : Nat) (t : Thread) (w : Wid) :
    (s.setThread j t).handlersOf w = s.handlersOf w := rfl

theorem updThread_eq (s : State) (j : Nat) (f : Thread → Thread) :
    s.updThread j f = match s.threads[j]? with | some t => s.setThread j (f t) | none => s := rfl

@[simp] theorem updThread_hist (s : State) (j : Nat) (f : Thread → Thread) : (s.updThread j f).hist = s.hist := by
  rw [updThread_eq]; split <;> rfl
@[simp] theorem updThread_handlers (s : State) (j : Nat) (f : Thread → Thread) : (s.updThread j f).handlers = s.handlers := by
  rw [updThread_eq]; split <;> rfl
@[simp] theorem updThread_queue (s : State) (j : Nat) (f : Thread → Thread) : (s.updThread j f).queue = s.queue := by
  rw [updThread_eq]; split <;> rfl
@[simp] theorem updThread_nextUid (s : State) (j : Nat) (f : Thread → Thread) : (s.updThread j f).nextUid = s.nextUid := by
  rw [updThread_eq]; split <;> rfl
@[simp] theorem updThread_lockOwner (s : State) (j : Nat) (f : Thread → Thread) : (s.updThread j f).lockOwner = s.lockOwner := by
  rw [updThread_eq]; split <;> rfl
@[simp] theorem updThread_lockCount (s : State) (j : Nat) (f : Thread → Thread) : (s.updThread j f).lockCount = s.lockCount := by
  rw [updThread_eq]; split <;> rfl
@[simp] theorem updThread_handlersOf (s : State) (j : Nat) (f : Thread → Thread) (w : Wid) :
    (s.updThread j f).handlersOf w = s.handlersOf w := by
  rw [updThread_eq]; split <;> rfl
theorem updThread_emObjs (s : State) (k : Nat) (f : Thread → Thread) : (s.updThread k f).emObjs = s.emObjs := by
  rw [updThread_eq]; split <;> rfl
theorem updThread_regEm (s : State) (k : Nat) (f : Thread → Thread) : (s.updThread k f).regEm = s.regEm := by
  rw [updThread_eq]; split <;> rfl
theorem updThread_stoppedD (s : State) (k : Nat) (f : Thread → Thread) : (s.updThread k f).stoppedD = s.stoppedD := by
  rw [updThread_eq]; split <;> rfl

theorem updEm_eq (s : State) (e : Eid) (f : EmObj → EmObj) :
    s.updEm e f = match s.emObjs[e]? with | some o => { s with emObjs := s.emObjs.set e (f o) } | none => s := rfl

@[simp] theorem updEm_hist (s : State) (e : Eid) (f : EmObj → EmObj) : (s.updEm e f).hist = s.hist := by
  rw [updEm_eq]; split <;> rfl
@[simp] theorem updEm_threads (s : State) (e : Eid) (f : EmObj → EmObj) : (s.updEm e f).threads = s.threads := by
  rw [updEm_eq]; split <;> rfl
@[simp] theorem updEm_handlers (s : State) (e : Eid) (f : EmObj → EmObj) : (s.updEm e f).handlers = s.handlers := by
  rw [updEm_eq]; split <;> rfl
@[simp] theorem updEm_queue (s : State) (e : Eid) (f : EmObj → EmObj) : (s.updEm e f).queue = s.queue := by
  rw [updEm_eq]; split <;> rfl
@[simp] theorem updEm_nextUid (s : State) (e : Eid) (f : EmObj → EmObj) : (s.updEm e f).nextUid = s.nextUid := by
  rw [updEm_eq]; split <;> rfl
@[simp] theorem updEm_lockOwner (s : State) (e : Eid) (f : EmObj → EmObj) : (s.updEm e f).lockOwner = s.lockOwner := by
  rw [updEm_eq]; split <;> rfl
@[simp] theorem updEm_lockCount (s : State) (e : Eid) (f : EmObj → EmObj) : (s.updEm e f).lockCount = s.lockCount := by
  rw [updEm_eq]; split <;> rfl
@[simp] theorem updEm_thread? (s : State) (e : Eid) (f : EmObj → EmObj) (j : Nat) : (s.updEm e f).thread? j = s.thread? j := by
  rw [updEm_eq]; split <;> rfl
@[simp] theorem updEm_handlersOf (s : State) (e : Eid) (f : EmObj → EmObj) (w : Wid) :
    (s.updEm e f).handlersOf w = s.handlersOf w := by
  rw [updEm_eq]; split <;> rfl
theorem updEm_regEm (s : State) (e : Eid) (f : EmObj → EmObj) : (s.updEm e f).regEm = s.regEm := by
  rw [updEm_eq]; split <;> rfl
theorem updEm_dIdx (s : State) (e : Eid) (f : EmObj → EmObj) : (s.updEm e f).dIdx = s.dIdx := by
  rw [updEm_eq]; split <;> rfl
theorem updEm_last (s : State) (e : Eid) (f : EmObj → EmObj) : (s.updEm e f).last = s.last := by
  rw [updEm_eq]; split <;> rfl
theorem updEm_stoppedD (s : State) (e : Eid) (f : EmObj → EmObj) : (s.updEm e f).stoppedD = s.stoppedD := by
  rw [updEm_eq]; split <;> rfl

theorem em?_updEm (s : State) (e e' : Eid) (f : EmObj → EmObj) :
    (s.updEm e f).em? e' = if e' = e then (s.em? e).map f else s.em? e' := by
  rw [updEm_eq]
  cases h : s.emObjs[e]? with
  | none =>
    simp only [State.em?]
    split
    · rename_i e1; subst e1; simp [h]
    · rfl
  | some o =>
    simp only [State.em?, List.getElem?_set]
    have hlt := (List.getElem?_eq_some_iff.mp h).1
    by_cases e1 : e' = e
    · subst e1
      have : s.emObjs[e'] = o := by
        have := List.getElem?_eq_getElem hlt; rw [h] at this; exact (Option.some.inj this).symm
      simp [hlt, this]
    · simp [e1, Ne.symm e1]

@[simp] theorem release_hist (s : State) : s.release.hist = s.hist := by unfold State.release; split <;> rfl
@[simp] theorem release_threads (s : State) : s.release.threads = s.threads := by unfold State.release; split <;> rfl
@[simp] theorem release_handlers (s : State) : s.release.handlers = s.handlers := by unfold State.release; split <;> rfl
@[simp] theorem release_queue (s : State) : s.release.queue = s.queue := by unfold State.release; split <;> rfl
@[simp] theorem release_nextUid (s : State) : s.release.nextUid = s.nextUid := by unfold State.release; split <;> rfl
@[simp] theorem release_thread? (s : State) (j : Nat) : s.release.thread? j = s.thread? j := by
  unfold State.release; split <;> rfl
@[simp] theorem release_handlersOf (s : State) (w : Wid) : s.release.handlersOf w = s.handlersOf w := by
  unfold State.release; split <;> rfl

theorem release_fields (s : State) : ∃ o c, s.release = { s with lockOwner := o, lockCount := c } := by
  unfold State.release; split
  · exact ⟨_, _, rfl⟩
  · exact ⟨s.lockOwner, _, rfl⟩

@[simp] theorem spawn_hist (s : State) (b : String) (k : Kind) : (s.spawn b k).1.hist = s.hist := rfl
@[simp] theorem spawn_handlers (s : State) (b : String) (k : Kind) : (s.spawn b k).1.handlers = s.handlers := rfl
@[simp] theorem spawn_queue (s : State) (b : String) (k : Kind) : (s.spawn b k).1.queue = s.queue := rfl
@[simp] theorem spawn_nextUid (s : State) (b : String) (k : Kind) : (s.spawn b k).1.nextUid = s.nextUid := rfl
@[simp] theorem spawn_lockOwner (s : State) (b : String) (k : Kind) : (s.spawn b k).1.lockOwner = s.lockOwner := rfl
@[simp] theorem spawn_lockCount (s : State) (b : String) (k : Kind) : (s.spawn b k).1.lockCount = s.lockCount := rfl
@[simp] theorem spawn_handlersOf (s : State) (b : String) (k : Kind) (w : Wid) :
    (s.spawn b k).1.handlersOf w = s.handlersOf w := rfl
theorem spawn_threads (s : State) (b : String) (k : Kind) :
    ∃ nm, (s.spawn b k).1.threads = s.threads ++ [{ name := nm, kind := k, pc := .begin }] := ⟨_, rfl⟩
@[simp] theorem spawn_snd (s : State) (b : String) (k : Kind) : (s.spawn b k).2 = s.threads.length := rfl
theorem spawn_em? (s : State) (b : String) (k : Kind) (e : Eid) : (s.spawn b k).1.em? e = s.em? e := rfl

theorem foldUpdEm_ind {P : State → Prop} (f : EmObj → EmObj) (h : ∀ s e, P s → P (s.updEm e f)) {s : State} (hs : P s)
    (l : List Eid) : P (l.foldl (fun acc e => acc.updEm e f) s) := by
  induction l generalizing s with
  | nil => exact hs
  | cons e l ih => exact ih (h s e hs)

theorem foldUpdEm_proj {α : Type} (g : State → α) (f : EmObj → EmObj) (hg : ∀ s e, g (s.updEm e f) = g s)
    (s : State) (l : List Eid) : g (l.foldl (fun acc e => acc.updEm e f) s) = g s :=
  foldUpdEm_ind (P := fun s' => g s' = g s) f (fun s' e h => (hg s' e).trans h) rfl l

theorem foldUpdEm_thread? (s : State) (l : List Eid) (f : EmObj → EmObj) (ti : Nat) :
    (l.foldl (fun acc e => acc.updEm e f) s).thread? ti = s.thread? ti :=
  foldUpdEm_proj (·.thread? ti) f (fun s e => updEm_thread? s e f ti) s l

theorem foldUpdEm_hist (s : State) (l : List Eid) (f : EmObj → EmObj) :
    (l.foldl (fun acc e => acc.updEm e f) s).hist = s.hist :=
  foldUpdEm_proj (·.hist) f (fun s e => updEm_hist s e f) s l

theorem foldUpdEm_regEm (s : State) (l : List Eid) (f : EmObj → EmObj) :
    (l.foldl (fun acc e => acc.updEm e f) s).regEm = s.regEm :=
  foldUpdEm_proj (·.regEm) f (fun s e => updEm_regEm s e f) s l

theorem foldUpdEm_queue (s : State) (l : List Eid) (f : EmObj → EmObj) :
    (l.foldl (fun acc e => acc.updEm e f) s).queue = s.queue :=
  foldUpdEm_proj (·.queue) f (fun s e => updEm_queue s e f) s l

theorem foldUpdEm_threads (s : State) (l : List Eid) (f : EmObj → EmObj) :
    (l.foldl (fun acc e => acc.updEm e f) s).threads = s.threads :=
  foldUpdEm_proj (·.threads) f (fun s e => updEm_threads s e f) s l

theorem foldUpdEm_stoppedD (s : State) (l : List Eid) (f : EmObj → EmObj) :
    (l.foldl (fun acc e => acc.updEm e f) s).stoppedD = s.stoppedD :=
  foldUpdEm_proj (·.stoppedD) f (fun s e => updEm_stoppedD s e f) s l

theorem getElem?_set_ne' {α : Type} (l : List α) (i j : Nat) (a : α) (h : j ≠ i) : (l.set i a)[j]? = l[j]? := by
  rw [List.getElem?_set]; simp [Ne.symm h]

theorem getElem?_set_self' {α : Type} {l : List α} {i : Nat} {b : α} (a : α) (h : l[i]? = some b) :
    (l.set i a)[i]? = some a :=
  List.getElem?_set_self (List.getElem?_eq_some_iff.mp h).1

/-- `P` takes the index of the thread, so that facts about "every thread other than `ti`" are instances -/
theorem threads_set {s : State} {ti : Nat} {t' : Thread} {P : Nat → Thread → Prop}
    (h : ∀ j t, s.threads[j]? = some t → P j t) (h' : P ti t') :
    ∀ j t, (s.setThread ti t').threads[j]? = some t → P j t := by
  intro j t hj
  rcases getElem?_set_cases hj with ⟨e1, e2⟩ | ⟨_, h2⟩
  · rw [e1, e2]; exact h'
  · exact h j t h2

theorem threads_set_of {s : State} {ti : Nat} {t' : Thread} {Q : Nat → Prop} {P : Nat → Thread → Prop}
    (h : ∀ j t, Q j → s.threads[j]? = some t → P j t) (h' : Q ti → P ti t') :
    ∀ j t, Q j → (s.setThread ti t').threads[j]? = some t → P j t :=
  fun j t hq hj => threads_set (P := fun j t => Q j → P j t) (fun j t hj hq => h j t hq hj) h' j t hj hq

theorem threads_set_ne {s : State} {ti : Nat} {t' : Thread} {P : Nat → Thread → Prop}
    (h : ∀ j t, j ≠ ti → s.threads[j]? = some t → P j t) :
    ∀ j t, j ≠ ti → (s.setThread ti t').threads[j]? = some t → P j t :=
  fun j t hne hj => h j t hne ((getElem?_set_ne' s.threads ti j t' hne).symm.trans hj)

theorem setThread_thread?_self {s : State} {ti : Nat} {t : Thread} (t' : Thread) (ht : s.thread? ti = some t) :
    (s.setThread ti t').thread? ti = some t' :=
  getElem?_set_self' t' ht

theorem updThread_of_some {s : State} {ti : Nat} {t : Thread} (f : Thread → Thread) (ht : s.thread? ti = some t) :
    s.updThread ti f = s.setThread ti (f t) := by
  have ht' : s.threads[ti]? = some t := ht
  rw [updThread_eq, ht']

theorem updThread_thread? {s : State} {ti : Nat} {t : Thread} (k : Nat) (f : Thread → Thread)
    (ht : s.thread? ti = some t) : (s.updThread k f).thread? ti = some (if k = ti then f t else t) := by
  have ht' : s.threads[ti]? = some t := ht
  rw [updThread_eq]
  split
  · rename_i tk htk
    show (s.threads.set k (f tk))[ti]? = _
    split
    · rename_i e; subst e
      rw [ht'] at htk; cases htk
      exact getElem?_set_self' _ ht'
    · rename_i e
      rw [getElem?_set_ne' _ _ _ _ (Ne.symm e)]; exact ht'
  · rename_i htk
    split
    · rename_i e; subst e; rw [ht'] at htk; cases htk
    · exact ht

theorem getElem?_snoc_cases {α : Type} {l : List α} {a b : α} {i : Nat} (h : (l ++ [a])[i]? = some b) :
    l[i]? = some b ∨ (i = l.length ∧ b = a) := by
  rw [List.getElem?_append] at h
  split at h
  · exact Or.inl h
  · rw [List.getElem?_singleton] at h
    split at h
    · exact Or.inr ⟨by omega, (Option.some.inj h).symm⟩
    · cases h

theorem spawn_cases {s : State} {b : String} {k : Kind} {j : Nat} {t : Thread}
    (h : (s.spawn b k).1.threads[j]? = some t) :
    s.threads[j]? = some t ∨ (j = s.threads.length ∧ ∃ nm, t = { name := nm, kind := k, pc := .begin }) := by
  obtain ⟨nm, hnm⟩ := spawn_threads s b k
  rw [hnm] at h
  exact (getElem?_snoc_cases h).imp id (fun e => ⟨e.1, nm, e.2⟩)

theorem threads_spawn {s : State} {b : String} {k : Kind} {P : Nat → Thread → Prop}
    (h : ∀ j t, s.threads[j]? = some t → P j t)
    (h' : ∀ nm, P s.threads.length { name := nm, kind := k, pc := .begin }) :
    ∀ j t, (s.spawn b k).1.threads[j]? = some t → P j t := by
  intro j t hj
  rcases spawn_cases hj with h0 | ⟨e, nm, e'⟩
  · exact h j t h0
  · rw [e, e']; exact h' nm

theorem threads_spawn_of {s : State} {b : String} {k : Kind} {Q : Nat → Prop} {P : Nat → Thread → Prop}
    (h : ∀ j t, Q j → s.threads[j]? = some t → P j t)
    (h' : ∀ nm, P s.threads.length { name := nm, kind := k, pc := .begin }) :
    ∀ j t, Q j → (s.spawn b k).1.threads[j]? = some t → P j t :=
  fun j t hq hj => threads_spawn (P := fun j t => Q j → P j t) (fun j t hj hq => h j t hq hj) (fun nm _ => h' nm) j t hj hq

theorem spawn_thread? {s : State} {ti : Nat} {t : Thread} (b : String) (k : Kind) (ht : s.thread? ti = some t) :
    (s.spawn b k).1.thread? ti = some t := by
  obtain ⟨nm, hnm⟩ := spawn_threads s b k
  show (s.spawn b k).1.threads[ti]? = some t
  have ht' : s.threads[ti]? = some t := ht
  rw [hnm, List.getElem?_append_left (List.getElem?_eq_some_iff.mp ht').1]; exact ht'

theorem init_thread {clients : List (List Op)} {cbs : List (Hid × List (List Op))} {emit : List (Wid × List Nat)}
    {j : Nat} {t : Thread} (h : (init clients cbs emit).threads[j]? = some t) :
    t.pc = .begin ∧ t.iter = none ∧ t.kind = .client ∧ t.cur = none ∧ clients[j]? = some t.ops := by
  simp only [WD.Obs.init, List.getElem?_map] at h
  cases hz : (clients.zipIdx)[j]? with
  | none => simp [hz] at h
  | some x =>
    simp [hz] at h; subst h
    refine ⟨rfl, rfl, rfl, rfl, ?_⟩
    rw [List.getElem?_zipIdx] at hz
    cases hq : clients[j]? with
    | none => simp [hq] at hz
    | some o => simp [hq] at hz; rw [← hz]

def notif (t : Thread) : Thread := if t.pc == .dWait then { t with notified := true } else t

def putBase (s : State) (item : QItem) (o : Obs) : State :=
  ({ s with queue := s.queue ++ [item], last := some item, nextUid := s.nextUid + 1 } : State).log o

theorem putItem_cases' (s : State) (mk : Nat → QItem) (onEnq : Nat → Obs) (onDrop : Obs) :
    (∃ l, s.last = some l ∧ (mk s.nextUid).valEq l = true ∧ s.putItem mk onEnq onDrop = s.log onDrop) ∨
    (s.dIdx = none ∧ s.putItem mk onEnq onDrop = putBase s (mk s.nextUid) (onEnq s.nextUid)) ∨
    ∃ d, s.dIdx = some d ∧ s.putItem mk onEnq onDrop = (putBase s (mk s.nextUid) (onEnq s.nextUid)).updThread d notif := by
  -- the notification, which both branches of `put` end with
  have hb : ∀ b : State, b = putBase s (mk s.nextUid) (onEnq s.nextUid) →
      (s.dIdx = none ∧ (match b.dIdx with | some d => b.updThread d notif | none => b) = b) ∨
      ∃ d, s.dIdx = some d ∧ (match b.dIdx with | some d => b.updThread d notif | none => b) = b.updThread d notif := by
    intro b hb
    have hd : b.dIdx = s.dIdx := by rw [hb]; rfl
    rw [hd]
    cases s.dIdx with
    | none => exact Or.inl ⟨rfl, rfl⟩
    | some d => exact Or.inr ⟨d, rfl, rfl⟩
  unfold State.putItem
  cases hl : s.last with
  | none => exact Or.inr ((hb _ rfl).imp id id)
  | some l =>
    by_cases hv : (mk s.nextUid).valEq l = true
    · exact Or.inl ⟨l, rfl, hv, if_pos hv⟩
    · exact Or.inr ((hb _ rfl).imp (fun h => ⟨h.1, (if_neg hv).trans h.2⟩)
        (fun ⟨d, h1, h2⟩ => ⟨d, h1, (if_neg hv).trans h2⟩))

theorem putItem_cases (s : State) (mk : Nat → QItem) (onEnq : Nat → Obs) (onDrop : Obs) :
    s.putItem mk onEnq onDrop = s.log onDrop ∨
    s.putItem mk onEnq onDrop = putBase s (mk s.nextUid) (onEnq s.nextUid) ∨
    ∃ d, s.putItem mk onEnq onDrop = (putBase s (mk s.nextUid) (onEnq s.nextUid)).updThread d notif := by
  rcases putItem_cases' s mk onEnq onDrop with ⟨_, _, _, h⟩ | ⟨_, h⟩ | ⟨d, _, h⟩
  · exact Or.inl h
  · exact Or.inr (Or.inl h)
  · exact Or.inr (Or.inr ⟨d, h⟩)

theorem putItem_ind {P : State → Prop} (s : State) (mk : Nat → QItem) (onEnq : Nat → Obs) (onDrop : Obs)
    (hd : P (s.log onDrop)) (hb : P (putBase s (mk s.nextUid) (onEnq s.nextUid)))
    (hn : ∀ s' d, P s' → P (s'.updThread d notif)) : P (s.putItem mk onEnq onDrop) := by
  rcases putItem_cases s mk onEnq onDrop with e | e | ⟨d, e⟩
  · rw [e]; exact hd
  · rw [e]; exact hb
  · rw [e]; exact hn _ d hb

theorem notif_same (t : Thread) : (notif t).pc = t.pc ∧ (notif t).iter = t.iter ∧ (notif t).cur = t.cur := by
  unfold notif; split <;> exact ⟨rfl, rfl, rfl⟩

theorem notif_kind (t : Thread) : (notif t).kind = t.kind := by
  unfold notif; split <;> rfl

theorem notif_ops (t : Thread) : (notif t).ops = t.ops := by
  unfold notif; split <;> rfl

theorem notif_notified (t : Thread) : (notif t).notified = t.notified ∨ (notif t).notified = true := by
  unfold notif; split
  · exact Or.inr rfl
  · exact Or.inl rfl

theorem putBase_updThread_comm (s : State) (item : QItem) (o : Obs) (d : Nat) (f : Thread → Thread) :
    (putBase s item o).updThread d f = putBase (s.updThread d f) item o := by
  rw [updThread_eq, updThread_eq]
  show (match s.threads[d]? with
    | some t => (putBase s item o).setThread d (f t)
    | none => putBase s item o) = _
  cases s.threads[d]? <;> rfl

theorem putItem_thread? {s : State} {ti : Nat} {t : Thread} (mk : Nat → QItem) (onEnq : Nat → Obs) (onDrop : Obs)
    (ht : s.thread? ti = some t) : ∃ t', (s.putItem mk onEnq onDrop).thread? ti = some t' ∧
      t'.pc = t.pc ∧ t'.iter = t.iter ∧ t'.cur = t.cur ∧ t'.kind = t.kind := by
  rcases putItem_cases s mk onEnq onDrop with h | h | ⟨d, h⟩
  · rw [h]; exact ⟨t, ht, rfl, rfl, rfl, rfl⟩
  · rw [h]; exact ⟨t, ht, rfl, rfl, rfl, rfl⟩
  · rw [h]
    have hb : (putBase s (mk s.nextUid) (onEnq s.nextUid)).thread? ti = some t := ht
    refine ⟨_, updThread_thread? d notif hb, ?_⟩
    split
    · exact ⟨(notif_same t).1, (notif_same t).2.1, (notif_same t).2.2, notif_kind t⟩
    · exact ⟨rfl, rfl, rfl, rfl⟩

theorem putItem_emObjs (s : State) (mk : Nat → QItem) (onEnq : Nat → Obs) (onDrop : Obs) :
    (s.putItem mk onEnq onDrop).emObjs = s.emObjs :=
  putItem_ind (P := fun s' => s'.emObjs = s.emObjs) s mk onEnq onDrop rfl rfl
    (fun s' d h => (updThread_emObjs s' d notif).trans h)

theorem putItem_regEm (s : State) (mk : Nat → QItem) (onEnq : Nat → Obs) (onDrop : Obs) :
    (s.putItem mk onEnq onDrop).regEm = s.regEm :=
  putItem_ind (P := fun s' => s'.regEm = s.regEm) s mk onEnq onDrop rfl rfl
    (fun s' d h => (updThread_regEm s' d notif).trans h)

theorem putItem_registered (s : State) (mk : Nat → QItem) (onEnq : Nat → Obs) (onDrop : Obs)
    (h1 : regGhost onDrop = false) (h2 : regGhost (onEnq s.nextUid) = false) (h : Hid) (w : Wid) :
    registered (s.putItem mk onEnq onDrop).hist h w = registered s.hist h w := by
  refine putItem_ind (P := fun s' => registered s'.hist h w = registered s.hist h w) s mk onEnq onDrop ?_ ?_
    (fun s' d e => by rw [updThread_hist]; exact e)
  · rw [log_hist, registered_snoc, regStep_neutral h1]
  · unfold putBase; rw [log_hist, registered_snoc, regStep_neutral h2]

def quids (q : List QItem) : List Nat := q.filterMap (fun i => match i with | .ev u _ _ => some u | .stop => none)

theorem mem_quids {q : List QItem} {u : Nat} : u ∈ quids q ↔ ∃ w v, QItem.ev u w v ∈ q := by
  simp only [quids, List.mem_filterMap]
  constructor
  · rintro ⟨i, hi, h⟩
    cases i <;> simp at h
    subst h; exact ⟨_, _, hi⟩
  · rintro ⟨w, v, h⟩; exact ⟨_, h, rfl⟩

theorem quids_append (a b : List QItem) : quids (a ++ b) = quids a ++ quids b :=
  List.filterMap_append ..

theorem quids_sub_of_cons {q rest : List QItem} {item : QItem} (hq : q = item :: rest) :
    ∀ u, u ∈ quids rest → u ∈ quids q := by
  intro u hu
  obtain ⟨w, v, hm⟩ := mem_quids.mp hu
  exact mem_quids.mpr ⟨w, v, by rw [hq]; exact List.mem_cons_of_mem _ hm⟩

theorem quids_tail_pairwise {q rest : List QItem} {item : QItem} (hq : q = item :: rest)
    (h : (quids q).Pairwise (· < ·)) : (quids rest).Pairwise (· < ·) := by
  rw [hq] at h
  cases item with
  | stop => exact h
  | ev u w v => exact (List.pairwise_cons.mp h).2

theorem quids_head_lt {q rest : List QItem} {u : Nat} {w : Wid} {v : Nat} (hq : q = .ev u w v :: rest)
    (h : (quids q).Pairwise (· < ·)) : ∀ u' ∈ quids rest, u < u' := by
  rw [hq] at h; exact (List.pairwise_cons.mp h).1

theorem quids_head_mem {q rest : List QItem} {u : Nat} {w : Wid} {v : Nat} (hq : q = .ev u w v :: rest) :
    u ∈ quids q := by
  rw [hq]; exact List.mem_cons_self

theorem quids_put {item : QItem} {n : Nat} (hmk : item = .stop ∨ ∃ w v, item = .ev n w v) (q : List QItem) :
    quids (q ++ [item]) = quids q ∨ quids (q ++ [item]) = quids q ++ [n] := by
  rw [quids_append]
  rcases hmk with e | ⟨w, v, e⟩
  · rw [e]; exact Or.inl (List.append_nil _)
  · rw [e]; exact Or.inr rfl

theorem mem_quids_put {item : QItem} {n : Nat} (hmk : item = .stop ∨ ∃ w v, item = .ev n w v) {q : List QItem}
    {u : Nat} (h : u ∈ quids (q ++ [item])) : u ∈ quids q ∨ u = n := by
  rcases quids_put hmk q with e | e
  · rw [e] at h; exact Or.inl h
  · rw [e, List.mem_append, List.mem_singleton] at h; exact h

theorem quids_put_pairwise {item : QItem} {n : Nat} (hmk : item = .stop ∨ ∃ w v, item = .ev n w v) {q : List QItem}
    (hs : (quids q).Pairwise (· < ·)) (hn : ∀ u ∈ quids q, u < n) : (quids (q ++ [item])).Pairwise (· < ·) := by
  rcases quids_put hmk q with e | e
  · rw [e]; exact hs
  · rw [e, List.pairwise_append]
    exact ⟨hs, List.pairwise_singleton _ _, fun a ha b hb => by rw [List.mem_singleton.mp hb]; exact hn a ha⟩

theorem quids_put_lt {item : QItem} {n : Nat} (hmk : item = .stop ∨ ∃ w v, item = .ev n w v) {q : List QItem}
    (hn : ∀ u ∈ quids q, u < n) : ∀ u ∈ quids (q ++ [item]), u < n + 1 := by
  intro u hu
  rcases mem_quids_put hmk hu with h | h
  · exact Nat.lt_succ_of_lt (hn u h)
  · rw [h]; exact Nat.lt_succ_self n

end WD.ProofsObs
