/- when `start()` occurs in the script of at most one client thread, at most one dispatcher thread is ever started:
   a second `start()` of that client (or one made from a callback) finds the observer started and raises -/
import WD.Proofs.Observer.OInv
import WD.Proofs.Observer.ModelX
namespace WD.ProofsObs
open WD WD.Obs

/-- the thread is inside `observer.start()`, between two `emitter.start()` calls -/
def sem : Pc → Bool
  | .startEm _ => true
  | _ => false

/-- `c` is the only client whose script contains `start`; `x`: the thread that is in the middle of a step -/
structure SI (c : Nat) (s : State) (x : Option Nat) : Prop where
  a : ∀ (j : Nat) (t : Thread), s.threads[j]? = some t → t.kind ≠ .dispatcher → Op.start ∈ t.ops → j = c
  b : ∀ (j : Nat) (t : Thread), s.threads[j]? = some t → sem t.pc = true → j = c ∧ s.dIdx = none
  c : s.dIdx = none → ∀ (j : Nat) (t : Thread), s.threads[j]? = some t → t.kind ≠ .dispatcher
  d : oneD s
  e : ∀ (j : Nat) (t : Thread), x = some j → s.threads[j]? = some t → sem t.pc = false
  kd : ∀ (j : Nat) (t : Thread), s.threads[j]? = some t → KD t

theorem SI.frame {c : Nat} {s s' : State} {x : Option Nat} (hS : SI c s x) (ht : s'.threads = s.threads)
    (hd : s'.dIdx = s.dIdx) : SI c s' x := by
  constructor
  · intro j t hj; rw [ht] at hj; exact hS.a j t hj
  · intro j t hj hp; rw [ht] at hj; rw [hd]; exact hS.b j t hj hp
  · intro h0 j t hj; rw [ht] at hj; rw [hd] at h0; exact hS.c h0 j t hj
  · exact oneD_of_KP (KP.of_eq ht.symm) hS.d
  · intro j t hx hj; rw [ht] at hj; exact hS.e j t hx hj
  · intro j t hj; rw [ht] at hj; exact hS.kd j t hj

theorem SI.toNone {c : Nat} {s : State} {x : Option Nat} (hS : SI c s x) : SI c s none :=
  { hS with e := fun j t hx => by cases hx }

theorem SI.weaken {c : Nat} {s : State} (hS : SI c s none) (ti : Nat)
    (h : ∀ t, s.threads[ti]? = some t → sem t.pc = false) : SI c s (some ti) :=
  { hS with e := fun j t hx hj => by cases hx; exact h t hj }

theorem SI.setThread {c : Nat} {s : State} {ti : Nat} {t : Thread} {x : Option Nat} (hS : SI c s x)
    (ht : s.threads[ti]? = some t) (t' : Thread) (hk : t'.kind = t.kind)
    (hsem : sem t'.pc = true → sem t.pc = true)
    (hops : t.kind ≠ .dispatcher → Op.start ∈ t'.ops → Op.start ∈ t.ops)
    (hkd : KD t') : SI c (s.setThread ti t') x :=
  ⟨threads_set hS.a (fun hkj hm => hS.a ti t ht (hk ▸ hkj) (hops (hk ▸ hkj) hm)),
   threads_set hS.b (fun hp => hS.b ti t ht (hsem hp)),
   fun h0 => threads_set (hS.c h0) (hk ▸ hS.c h0 ti t ht),
   oneD_setThread ht t' hk hS.d,
   threads_set_of hS.e (fun hx => Bool.eq_false_iff.mpr
     (fun hq => Bool.false_ne_true ((hS.e ti t hx ht).symm.trans (hsem hq)))),
   threads_set hS.kd hkd⟩

theorem SI.setThreadSame {c : Nat} {s : State} {ti : Nat} {t : Thread} {x : Option Nat} (hS : SI c s x)
    (ht : s.threads[ti]? = some t) (t' : Thread) (e1 : t'.iter = t.iter) (e2 : t'.pc = t.pc) (e3 : t'.kind = t.kind)
    (e4 : ∀ o ∈ t'.ops, o ∈ t.ops) : SI c (s.setThread ti t') x :=
  hS.setThread ht t' e3 (by rw [e2]; exact id) (fun _ hm => e4 _ hm) ((hS.kd ti t ht).of_same e2 e1 e3)

theorem SI.closeThread {c : Nat} {s : State} {ti : Nat} {t : Thread} {x : Option Nat} (hS : SI c s x)
    (ht : s.threads[ti]? = some t) (t' : Thread) (h1 : sem t'.pc = false) (h2 : dpc t'.pc = false)
    (h3 : t'.kind = t.kind) (h4 : t'.iter = t.iter ∨ t'.iter = none) (h5 : ∀ o ∈ t'.ops, o ∈ t.ops) :
    SI c (s.setThread ti t') none := by
  refine (hS.setThread ht t' h3 (by rw [h1]; intro h; cases h) (fun _ hm => h5 _ hm) ?_).toNone
  have := hS.kd ti t ht
  unfold KD at this ⊢
  rw [h2, h3]
  intro h
  rcases h with h | h
  · rcases h4 with e | e
    · exact this (Or.inl (by rw [← e]; exact h))
    · rw [e] at h; cases h
  · cases h

theorem SI.closeUpd {c : Nat} {s : State} {ti : Nat} {x : Option Nat} (hS : SI c s x) (f : Thread → Thread)
    (h1 : ∀ t, sem (f t).pc = false) (h2 : ∀ t, dpc (f t).pc = false) (h3 : ∀ t, (f t).kind = t.kind)
    (h4 : ∀ t, (f t).iter = t.iter ∨ (f t).iter = none) (h5 : ∀ t, ∀ o ∈ (f t).ops, o ∈ t.ops) :
    SI c (s.updThread ti f) none := by
  rw [updThread_eq]
  split
  · rename_i t ht
    exact hS.closeThread ht (f t) (h1 t) (h2 t) (h3 t) (h4 t) (h5 t)
  · exact hS.toNone

theorem SI.setPc {c : Nat} {s : State} {ti : Nat} {x : Option Nat} (hS : SI c s x) {pc : Pc} (h1 : sem pc = false)
    (h2 : dpc pc = false) : SI c (s.updThread ti (fun t => { t with pc := pc })) none :=
  hS.closeUpd _ (fun _ => h1) (fun _ => h2) (fun _ => rfl) (fun _ => Or.inl rfl) (fun _ _ h => h)

theorem SI.setThreadD {c : Nat} {s : State} {ti : Nat} {t : Thread} {x : Option Nat} (hS : SI c s x)
    (ht : s.threads[ti]? = some t) (hkt : t.kind = .dispatcher) (t' : Thread) (hk : t'.kind = t.kind)
    (hsem : sem t'.pc = true → sem t.pc = true) : SI c (s.setThread ti t') x :=
  hS.setThread ht t' hk hsem (fun h => absurd hkt h) (fun _ => by rw [hk]; exact hkt)

theorem SI.updThreadD {c : Nat} {s : State} {ti : Nat} {x : Option Nat} (hS : SI c s x)
    (hkt : ∀ t, s.threads[ti]? = some t → t.kind = .dispatcher) (f : Thread → Thread)
    (h1 : ∀ t, sem (f t).pc = false) (h3 : ∀ t, (f t).kind = t.kind) : SI c (s.updThread ti f) x := by
  rw [updThread_eq]
  split
  · rename_i t ht
    exact hS.setThreadD ht (hkt t ht) (f t) (h3 t) (by rw [h1 t]; intro h; cases h)
  · exact hS

theorem SI.log {c : Nat} {s : State} {x : Option Nat} (hS : SI c s x) (o : Obs) : SI c (s.log o) x :=
  hS.frame rfl rfl
theorem SI.release {c : Nat} {s : State} {x : Option Nat} (hS : SI c s x) : SI c s.release x := by
  obtain ⟨o, n, h⟩ := release_fields s
  rw [h]; exact hS.frame rfl rfl
theorem SI.updEm {c : Nat} {s : State} {x : Option Nat} (hS : SI c s x) (e : Eid) (f : EmObj → EmObj) :
    SI c (s.updEm e f) x :=
  hS.frame (updEm_threads s e f) (updEm_dIdx s e f)
theorem SI.foldUpdEm {c : Nat} {s : State} {x : Option Nat} (hS : SI c s x) (l : List Eid) (f : EmObj → EmObj) :
    SI c (l.foldl (fun acc e => acc.updEm e f) s) x :=
  foldUpdEm_ind (P := (SI c · x)) f (fun _ e h => h.updEm e f) hS l

theorem SI.putItem {c : Nat} {s : State} {x : Option Nat} (hS : SI c s x) (mk : Nat → QItem) (onEnq : Nat → Obs)
    (onDrop : Obs) : SI c (s.putItem mk onEnq onDrop) x := by
  refine putItem_ind (P := fun s' => SI c s' x) s mk onEnq onDrop (hS.log _) (hS.frame rfl rfl) (fun s' d h => ?_)
  rw [updThread_eq]
  split
  · rename_i t ht
    exact h.setThreadSame ht _ (notif_same t).2.1 (notif_same t).1 (notif_kind t) (by rw [notif_ops]; exact fun _ h => h)
  · exact h

theorem SI.spawnE {c : Nat} {s : State} {x : Option Nat} (hS : SI c s x) (b : String) (e : Eid) :
    SI c (s.spawn b (.emitter e)).1 x :=
  ⟨threads_spawn hS.a (fun _ _ hm => (nomatch hm)), threads_spawn hS.b (fun _ hp => (nomatch hp)),
   fun h0 => threads_spawn (hS.c h0) (fun _ h => (nomatch h)), oneD_spawn hS.d (fun h => (nomatch h)),
   threads_spawn_of hS.e (fun _ => rfl), threads_spawn hS.kd (fun _ => KD.fresh rfl rfl)⟩

theorem SI.enterStart {c : Nat} {s2 : State} {ti : Nat} (rest : List Eid) (h1 : SI c s2 none) (hti : ti = c)
    (hd1 : s2.dIdx = none) : SI c (s2.updThread ti (fun t => { t with pc := .startEm rest })) none := by
  rw [updThread_eq]
  split
  · rename_i t ht
    exact ⟨threads_set h1.a (fun _ _ => hti), threads_set h1.b (fun _ => ⟨hti, hd1⟩),
      fun _ => threads_set (h1.c hd1) (h1.c hd1 ti t ht),
      oneD_setThread ht _ rfl h1.d, fun j u hx => (nomatch hx),
      threads_set h1.kd (fun h' => h'.elim (fun h' => h1.kd ti t ht (Or.inl h')) (fun h' => nomatch h'))⟩
  · exact h1

theorem SI.spawnD {c : Nat} {s : State} {ti : Nat} (hS : SI c s none) (hti : ti = c) (hd : s.dIdx = none) :
    SI c (({ (s.spawn "D" .dispatcher).1 with dIdx := some (s.spawn "D" .dispatcher).2 } : State).updThread ti
      (fun t => { t with pc := .startD })) none := by
  have hone : oneD (s.spawn "D" .dispatcher).1 :=
    oneD_spawn hS.d (fun _ i hi => by obtain ⟨u, hu, hk⟩ := kinds_get_some hi; exact hS.c hd i u hu hk)
  have ha := threads_spawn (b := "D") (k := .dispatcher) hS.a (fun _ _ hm => nomatch hm)
  have hb := threads_spawn (b := "D") (k := .dispatcher) (P := fun j t => sem t.pc = true → j = c)
    (fun j t hj hp => (hS.b j t hj hp).1) (fun _ hp => nomatch hp)
  have hkd := threads_spawn (b := "D") (k := .dispatcher) hS.kd (fun _ _ => rfl)
  rw [updThread_eq]
  split
  · rename_i t ht
    -- the only thread inside `start()` was `ti`, which leaves it now
    exact ⟨threads_set ha (fun _ _ => hti),
      fun j u hj hp => (getElem?_set_cases hj).elim (fun e => by rw [e.2] at hp; cases hp)
        (fun e => absurd ((hb j u e.2 hp).trans hti.symm) e.1),
      fun h0 => (nomatch h0),
      oneD_setThread ht _ rfl hone, fun j u hx => (nomatch hx),
      threads_set hkd (fun h' => h'.elim (fun h' => hkd ti t ht (Or.inl h')) (fun h' => nomatch h'))⟩
  · rename_i hnone
    exact ⟨ha, fun j u hj hp => by rw [hb j u hj hp, ← hti] at hj; exact (nomatch hnone.symm.trans hj),
      fun h0 => (nomatch h0), hone, fun j u hx => (nomatch hx), hkd⟩

theorem SI.stem {c : Nat} {s s' : State} {ti : Nat} {es : List Eid} {fuel : Nat} (hS : SI c s none) (hti : ti = c)
    (hd : s.dIdx = none) (h : startEmittersX fuel s ti es = some s') : SI c s' none := by
  unfold startEmittersX at h
  split at h
  · cases h
  · try simp only [] at h
    split at h
    · split at h
      · cases h
        exact SI.enterStart _ ((hS.spawnE _ _).updEm _ _) hti ((updEm_dIdx _ _ _).trans hd)
      · cases h
    · cases h
      exact hS.spawnD hti hd

end WD.ProofsObs
