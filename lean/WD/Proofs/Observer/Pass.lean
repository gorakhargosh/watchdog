/- Every completed step preserves the invariants.  One induction on the fuel walks the model's mutual block once and
   carries all of them: the lock discipline `LX` (who may be where while the lock is held), the two dispatch invariants
   `CX` and `OC` (bundled as `Disp`), and the waits-for invariant `GX`, which leans on `LX`.  A clause per helper
   function says what that function needs of the state it is entered in; `t` is the record of the stepping thread,
   which the traversal keeps track of. -/
import WD.Proofs.Observer.GInv
import WD.Proofs.Observer.ModelXEq
namespace WD.ProofsObs
open WD WD.Obs

/-- `CX` (every entry is dispatched once, and completely) and `OC` (in queue order) read the same parts of the state and
    are closed under the same updates, so the traversal carries them as one. -/
structure Disp (s : State) (x : Option Nat) : Prop where
  c : CX s x
  o : OC s x

theorem dl_of_dpc {t : Thread} (h : dpc t.pc = false) : dl t = none := by
  unfold dl
  cases hp : t.pc <;> simp_all [dpc]

namespace Disp
variable {s s' : State} {x : Option Nat} {ti : Nat} {t : Thread}

theorem frame (hK : Disp s x) (hh : s'.hist = s.hist) (ht : s'.threads = s.threads) (hq : s'.queue = s.queue)
    (hn : s'.nextUid = s.nextUid) (hH : ∀ w, s'.handlersOf w = s.handlersOf w) : Disp s' x :=
  ⟨hK.c.frame hh ht hq hn, hK.o.frame hh ht hq hn hH⟩

theorem hist_step {o : Obs} (hK : Disp s x) (hh : s'.hist = s.hist ++ [o]) (ht : s'.threads = s.threads)
    (hq : s'.queue = s.queue) (hn : s'.nextUid = s.nextUid) (hg : GoodAtC s.hist o) (hd : notDisp o = true)
    (hH : HSorted s.handlers → HSorted s'.handlers) (hc : notCall o = true) : Disp s' x :=
  ⟨hK.c.hist_step hh ht hq hn hg hd, hK.o.hist_step hh ht hq hn hH hc⟩

theorem log (hK : Disp s x) (o : Obs) (hg : GoodAtC s.hist o) (hd : notDisp o = true) (hc : notCall o = true) :
    Disp (s.log o) x :=
  ⟨hK.c.log o hg hd, hK.o.log o hc⟩

theorem release (hK : Disp s x) : Disp s.release x := ⟨hK.c.release, hK.o.release⟩

theorem updEm (hK : Disp s x) (e : Eid) (f : EmObj → EmObj) : Disp (s.updEm e f) x :=
  ⟨hK.c.updEm e f, hK.o.updEm e f⟩

theorem foldUpdEm (hK : Disp s x) (l : List Eid) (f : EmObj → EmObj) : Disp (l.foldl (fun acc e => acc.updEm e f) s) x :=
  ⟨hK.c.foldUpdEm l f, hK.o.foldUpdEm l f⟩

theorem spawn (hK : Disp s x) (b : String) (k : Kind) : Disp (s.spawn b k).1 x := ⟨hK.c.spawn b k, hK.o.spawn b k⟩

theorem weaken (hK : Disp s none) (ti : Nat) : Disp s (some ti) := ⟨hK.c.weaken ti, hK.o.weaken ti⟩

theorem putItem (hK : Disp s x) (mk : Nat → QItem) (onEnq : Nat → Obs) (onDrop : Obs)
    (d1 : notDisp onDrop = true) (d2 : notDisp (onEnq s.nextUid) = true) (c1 : notCall onDrop = true)
    (c2 : notCall (onEnq s.nextUid) = true) (g1 : GoodAtC s.hist onDrop) (g2 : GoodAtC s.hist (onEnq s.nextUid))
    (hmk : mk s.nextUid = .stop ∨ ∃ w v, mk s.nextUid = .ev s.nextUid w v) : Disp (s.putItem mk onEnq onDrop) x :=
  ⟨hK.c.putItem mk onEnq onDrop d1 d2 g1 g2 hmk, hK.o.putItem mk onEnq onDrop c1 c2 hmk⟩

theorem pop (hK : Disp s x) {item : QItem} {rest : List QItem} (hq : s.queue = item :: rest) (l : Option QItem) :
    Disp { s with queue := rest, last := l } x :=
  ⟨hK.c.pop hq l, hK.o.map (KP.of_eq rfl) (fun _ hO => hO.pop hq l)⟩

theorem updThread_same (hK : Disp s x) (k : Nat) (f : Thread → Thread)
    (hf : ∀ t, (f t).pc = t.pc ∧ (f t).iter = t.iter ∧ (f t).kind = t.kind) : Disp (s.updThread k f) x :=
  ⟨hK.c.updThread_same k f (fun t => ⟨(hf t).1, (hf t).2.1⟩),
   hK.o.map (KP.updThread s k f (fun t => (hf t).2.2)) (fun _ hO => hO.updThread_same k f hf)⟩

/-- the handler table gets the (empty) entry that `self._handlers[watch]` creates -/
theorem touch (hK : Disp s x) (w : Wid) :
    Disp (if (alookup w s.handlers).isNone then { s with handlers := ainsert w [] s.handlers } else s) x := by
  split
  · rename_i hn
    exact hK.frame rfl rfl rfl rfl (fun w' => by simp only [handlersOf_eq]; exact hOf_touch _ _ _ hn)
  · exact hK

theorem setThreadSame (hK : Disp s (some ti)) (ht : s.threads[ti]? = some t) (t' : Thread) (e1 : t'.iter = t.iter)
    (e2 : t'.pc = t.pc) (e3 : t'.kind = t.kind) : Disp (s.setThread ti t') (some ti) :=
  ⟨hK.c.setThreadMine t' ((hK.c.it ti t ht).of_iter e1), hK.o.setThreadSame ht t' e1 e2 e3⟩

theorem closeThread (hK : Disp s (some ti)) (ht : s.threads[ti]? = some t) (t' : Thread) (h1 : dpc t'.pc = false)
    (h2 : t'.iter = t.iter ∨ t'.iter = none) (h3 : t'.kind = t.kind) : Disp (s.setThread ti t') none :=
  ⟨hK.c.closeSet t' (dl_of_dpc h1) (h2.symm.imp id (fun e => ⟨t, ht, e⟩)), hK.o.closeThread ht t' h1 h2 h3⟩

theorem closeUpd (hK : Disp s (some ti)) (f : Thread → Thread) (h1 : ∀ t, dpc (f t).pc = false)
    (h2 : ∀ t, (f t).iter = t.iter ∨ (f t).iter = none) (h3 : ∀ t, (f t).kind = t.kind) :
    Disp (s.updThread ti f) none :=
  ⟨hK.c.closeUpd f (fun t => dl_of_dpc (h1 t)) h2, hK.o.closeUpd f h1 h2 h3⟩

theorem closeWait (hK : Disp s (some ti)) (hkd : ∀ t, s.thread? ti = some t → t.kind = .dispatcher) (f : Thread → Thread)
    (h1 : ∀ t, (f t).pc = .dWait) (h2 : ∀ t, (f t).iter = t.iter) (h3 : ∀ t, (f t).kind = t.kind) :
    Disp (s.updThread ti f) none :=
  ⟨hK.c.closeUpd f (fun t => by unfold dl; rw [h1]) (fun t => Or.inl (h2 t)),
   hK.o.map (KP.updThread s ti f h3) (fun _ hO => hO.closeWait hkd f h1 h2 h3)⟩

theorem popEv (hK : Disp s (some ti)) (hkd : ∀ t, s.thread? ti = some t → t.kind = .dispatcher) {u : Nat} {w : Wid}
    {v : Nat} {rest : List QItem} (hq : s.queue = .ev u w v :: rest) (l : Option QItem) (f : Thread → Thread)
    (h1 : ∀ t, (f t).pc = .dLock u w v) (h2 : ∀ t, (f t).iter = t.iter) (h3 : ∀ t, (f t).kind = t.kind) :
    Disp (({ s with queue := rest, last := l } : State).updThread ti f) none :=
  ⟨hK.c.popEv hq l f (fun t => ⟨h1 t, h2 t⟩),
   hK.o.map (KP.trans (KP.of_eq (s' := { s with queue := rest, last := l }) rfl) (KP.updThread _ ti f h3))
     (fun _ hO => hO.popEv hkd hq l f h1 h2 h3)⟩

theorem iterEnd (hK : Disp s (some ti)) (ht : s.threads[ti]? = some t) {u : Nat} {w : Wid} {v : Nat}
    (hit : t.iter = some (u, w, v, [])) (t' : Thread) (hk : t'.kind = t.kind) (hi : t'.iter = none) :
    Disp ((s.log (.dispatchEnd u)).setThread ti t') (some ti) := by
  obtain ⟨p, hs, q, h1, h2⟩ := hK.c.it ti t ht u w v [] hit
  refine ⟨(hK.c.log (.dispatchEnd u) ⟨p, w, hs, q, h1, h2⟩ rfl).setThreadMine t' (IT.of_none hi), ?_⟩
  refine hK.o.map (KP.setThread (s := s.log (.dispatchEnd u)) ht t' hk) (fun _ hO => ?_)
  refine (hO.log _ rfl).setThreadMine t' (fun _ => ?_) (fun u' w' v' r e => by rw [hi] at e; cases e)
  rw [hk]; exact hO.kd ti t ht (Or.inl (by rw [hit]; rfl))

theorem call (hK : Disp s (some ti)) (ht : s.threads[ti]? = some t) {u : Nat} {w : Wid} {v : Nat} {h : Hid}
    {rest : List Hid} (hit : t.iter = some (u, w, v, h :: rest)) (t' : Thread) (hk : t'.kind = t.kind)
    (hit' : t'.iter = some (u, w, v, rest)) : Disp ((s.log (.call h w v u)).setThread ti t') (some ti) :=
  ⟨(hK.c.log (.call h w v u) trivial rfl).setThreadMine t' ((hK.c.it ti t ht).advance hit hit' (Or.inl rfl)),
   hK.o.map (KP.setThread (s := s.log (.call h w v u)) ht t' hk) (fun hd hO => hO.call hd ht hit t' hk hit')⟩

theorem skip (hK : Disp s (some ti)) (ht : s.threads[ti]? = some t) {u : Nat} {w : Wid} {v : Nat} {h : Hid}
    {rest : List Hid} (hit : t.iter = some (u, w, v, h :: rest)) (t' : Thread) (hk : t'.kind = t.kind)
    (hit' : t'.iter = some (u, w, v, rest)) : Disp ((s.log (.skip h u)).setThread ti t') (some ti) := by
  refine ⟨(hK.c.log (.skip h u) trivial rfl).setThreadMine t' ((hK.c.it ti t ht).advance hit hit' (Or.inr rfl)), ?_⟩
  refine hK.o.map (KP.setThread (s := s.log (.skip h u)) ht t' hk) (fun _ hO => ?_)
  have hO1 := hO.log (.skip h u) rfl
  refine hO1.setThreadMine t' (fun _ => ?_) (fun u' w' v' r e => ?_)
  · rw [hk]; exact hO.kd ti t ht (Or.inl (by rw [hit]; rfl))
  · rw [hit'] at e; cases e
    obtain ⟨a1, a2, a3, a4, a5⟩ := hO1.oi ti t ht u w v (h :: rest) hit
    exact ⟨(List.pairwise_cons.mp a1).2, fun h' hm => a2 h' (List.mem_cons_of_mem _ hm), a3, a4, a5⟩

theorem dispatch (hK : Disp s none) (ht : s.threads[ti]? = some t) {u : Nat} {w : Wid} {v : Nat}
    (hpc : t.pc = .dLock u w v) (t' : Thread) (hk : t'.kind = t.kind) (hit : t'.iter = some (u, w, v, s.handlersOf w)) :
    Disp ((s.log (.dispatch u w (s.handlersOf w))).setThread ti t') (some ti) :=
  ⟨hK.c.dispatch ht hpc _ t' hit,
   hK.o.map (KP.setThread (s := s.log (.dispatch u w (s.handlersOf w))) ht t' hk) (fun _ hO => hO.dispatch ht hpc t' hk hit)⟩

end Disp

structure Between (s : State) : Prop where
  l : LQ s
  d : Disp s none
  g : GQ s

theorem pass_d (ti : Nat) : ∀ fuel,
    (∀ s s' t, dLoopX fuel s ti = some s' → s.thread? ti = some t → t.kind = .dispatcher → t.iter = none →
        (∀ h w e, t.pc = .schedStarted h w e → AliveOk s e) →
        (s.stoppedD = true ∨ (Sent s.hist → QItem.stop ∈ s.queue ∨ TwoD s)) → LX s ti (idepth t) → Disp s (some ti) →
        GX s ti NoX → Between s') ∧
    (∀ s s' t, dGetX fuel s ti = some s' → s.thread? ti = some t → t.kind = .dispatcher → t.iter = none →
        (∀ h w e, t.pc = .schedStarted h w e → AliveOk s e) →
        (Sent s.hist → QItem.stop ∈ s.queue ∨ TwoD s) → LX s ti (idepth t) → Disp s (some ti) → GX s ti NoX →
        Between s') := by
  intro fuel
  induction fuel with
  | zero =>
    refine ⟨?_, ?_⟩
    · intro s s' t h; exact nomatch h
    · intro s s' t h; exact nomatch h
  | succ n ih =>
    refine ⟨?_, ?_⟩
    · intro s s' t h ht hk hi hpe hsq hL hK hG
      have hkd : ∀ t', s.thread? ti = some t' → t'.kind = .dispatcher := fun t' ht' => by rw [ht] at ht'; cases ht'; exact hk
      unfold dLoopX at h
      split at h
      · cases h
        refine ⟨hL.closeUpd ht _ (depth_of_not_holds rfl) trivial, hK.closeUpd _ (fun _ => rfl) (fun _ => Or.inl rfl) (fun _ => rfl),
          hG.closeUpd ht _ rfl ?_ (fun h0 w e hp => Or.inl (hpe h0 w e hp)) (fun _ hx => hx.elim)⟩
        have := TG.atD (s := s) hk hi .done t.notified rfl (by simp) (by simp)
        simpa using this
      · rename_i hns
        refine ih.2 _ _ _ h ht hk hi hpe ?_ hL hK hG
        rcases hsq with h1 | h1
        · exact absurd h1 hns
        · exact h1
    · intro s s' t h ht hk hi hpe hsq hL hK hG
      have hkd : ∀ t', s.thread? ti = some t' → t'.kind = .dispatcher := fun t' ht' => by rw [ht] at ht'; cases ht'; exact hk
      unfold dGetX at h
      try simp only [] at h
      split at h
      · rename_i hq
        cases h
        refine ⟨hL.closeUpd ht _ (depth_of_not_holds rfl) trivial,
          hK.closeWait hkd _ (fun _ => rfl) (fun _ => rfl) (fun _ => rfl),
          hG.closeUpd ht _ rfl ?_ (fun h0 w e hp => Or.inl (hpe h0 w e hp)) (fun _ hx => hx.elim)⟩
        exact TG.atD hk hi .dWait false rfl (fun _ _ => Or.inl hq) (fun _ hS => hsq hS)
      · rename_i item rest hq
        have hKe : ∀ u w v, item = .ev u w v → ∀ f : Thread → Thread, (∀ t, (f t).pc = .dLock u w v) → (∀ t, (f t).iter = t.iter) →
            (∀ t, (f t).kind = t.kind) → Disp (({ s with queue := rest, last := (match s.last with
              | some l => if item.same l then none else some l
              | none => none) } : State).updThread ti f) none :=
          fun u w v e f h1 h2 h3 => hK.popEv hkd (by rw [← e]; exact hq) _ f h1 h2 h3
        generalize e1 : ({ s with queue := rest, last := (match s.last with
              | some l => if item.same l then none else some l
              | none => none) } : State) = s1 at h hKe
        have hGp : GX s1 ti NoX := by rw [← e1]; exact hG.pop ht hk item rest hq
        have hLp : LX s1 ti (idepth t) := by rw [← e1]; exact hL.frame rfl rfl rfl rfl
        have hKp : Disp s1 (some ti) := by rw [← e1]; exact hK.pop hq _
        have hh1 : s1.hist = s.hist := by rw [← e1]
        have hq1 : s1.queue = rest := by rw [← e1]
        have ht1 : s1.thread? ti = some t := by rw [← e1]; exact ht
        have hpe1 : ∀ h w e, t.pc = .schedStarted h w e → AliveOk s1 e := by rw [← e1]; exact hpe
        have hst1 : s.stoppedD = true → s1.stoppedD = true := by rw [← e1]; exact id
        have htw : TwoD s → TwoD s1 := by rw [← e1]; exact id
        clear e1
        split at h
        · -- the sentinel: back to the loop head, which leaves
          refine ih.1 _ _ _ h ht1 hk hi hpe1 (Or.inl ?_) hLp hKp hGp
          exact hst1 (hG.sg.l2 (by rw [hq]; simp))
        · cases h
          rename_i u w v
          refine ⟨hLp.closeUpd ht1 _ (depth_of_not_holds rfl) trivial,
            hKe u w v rfl _ (fun _ => rfl) (fun _ => rfl) (fun _ => rfl), GX.closeUpd (t := t) hGp ht1 _ rfl ?_
            (fun h0 w e hp => Or.inl (hpe1 h0 w e hp)) (fun _ hx => hx.elim)⟩
          have := TG.atD (s := s1) hk hi (.dLock u w v) t.notified rfl (by simp) (fun _ hS => by
              rw [hh1] at hS
              rcases hsq hS with h1 | h1
              · left
                rw [hq] at h1
                rw [hq1]
                rcases List.mem_cons.mp h1 with h2 | h2
                · cases h2
                · exact h2
              · exact Or.inr (htw h1))
          simpa using this

theorem AliveOk.linkEm {s : State} {x : Eid} (h : AliveOk s x) (b : String) (e : Eid) :
    AliveOk ((s.spawn b (.emitter e)).1.updEm e (fun o => { o with started := true, tidx := some (s.spawn b (.emitter e)).2 })) x := by
  obtain ⟨y, hy, hal⟩ := h
  obtain ⟨y', hy', hs', _⟩ := EmMono.updEm (s.spawn b (.emitter e)).1 e
    (fun o => { o with started := true, tidx := some (s.spawn b (.emitter e)).2 }) (fun _ hh => hh) (fun _ _ => rfl) x y hy
  exact ⟨y', hy', hal.imp hs' (fun z => by rw [updEm_regEm]; exact z)⟩

theorem TS.linkEm {s : State} {t : Thread} (hS : TS s t) (b : String) (e : Eid) :
    TS ((s.spawn b (.emitter e)).1.updEm e (fun o => { o with started := true, tidx := some (s.spawn b (.emitter e)).2 })) t := by
  refine ⟨fun hk hSent => ?_, fun h1 w1 x hpc => (hS.pe h1 w1 x hpc).linkEm b e⟩
  rw [updEm_queue, updEm_hist] at *
  exact (hS.sq hk hSent).imp id (fun x => x.mono (KP.trans (KP.spawn _ _ _) (KP.of_eq (updEm_threads _ _ _))))

theorem TS.foldStop {s : State} {t : Thread} (hS : TS s t) (l : List Eid) :
    TS (l.foldl (fun acc e => acc.updEm e (fun o => { o with stopped := true })) s) t := by
  refine ⟨fun hk hSent => ?_, fun h1 w1 e1 hpc => ?_⟩
  · rw [foldUpdEm_queue, foldUpdEm_hist] at *
    exact (hS.sq hk hSent).imp id (fun x => x.mono (KP.of_eq (foldUpdEm_threads _ _ _)))
  · obtain ⟨y, hy, hal⟩ := hS.pe h1 w1 e1 hpc
    obtain ⟨y', hy', hs', _⟩ := foldStop_mono s l e1 y hy
    exact ⟨y', hy', hal.imp hs' (fun z => by rw [foldUpdEm_regEm]; exact z)⟩

theorem release_thr {s : State} {ti : Nat} {t : Thread} (ht : s.thread? ti = some t) : s.release.thread? ti = some t :=
  (release_thread? s ti).trans ht

structure Pass (fuel : Nat) : Prop where
  fin : ∀ s ti res s' t, finishOpX fuel s ti res = some s' → s.thread? ti = some t → LX s ti (idepth t) →
      (res = "ok" → ∀ op, t.cur = some op → ∀ h w, removes op h w = true → registered s.hist h w = false) →
      (res = "ok" → t.cur = some .stop → Sent s.hist) →
      Disp s (some ti) → TM t → TS s t → GX s ti NoX → Between s'
  nxt : ∀ s ti s' t, nextOpX fuel s ti = some s' → s.thread? ti = some t → LX s ti (idepth t) →
      Disp s (some ti) → TM t → TS s t → GX s ti NoX → Between s'
  sta : ∀ s ti op s' t, startOpX fuel s ti op = some s' → s.thread? ti = some t → t.cur = some op →
      LX s ti (idepth t) → Disp s (some ti) → TM t → TS s t → GX s ti NoX → Between s'
  ent : ∀ s ti op s' t, enterLockedX fuel s ti op = some s' → s.thread? ti = some t → t.cur = some op →
      LX s ti (idepth t) → (op = .stop → s.stoppedD = true) → Disp s (some ti) → TM t → TS s t → GX s ti NoX → Between s'
  lck : ∀ s ti op s' t, lockedX fuel s ti op = some s' → s.thread? ti = some t → t.cur = some op →
      LX s ti (idepth t + 1) → (op = .stop → s.stoppedD = true) → Disp s (some ti) → TM t → TS s t → GX s ti NoX → Between s'
  sfin : ∀ s ti h w e s' t, schedFinishX fuel s ti h w e = some s' → s.thread? ti = some t →
      (∃ f, t.cur = some (.schedule h w f)) → LX s ti (idepth t + 1) → Disp s (some ti) → TM t →
      (t.kind = .dispatcher → Sent s.hist → QItem.stop ∈ s.queue ∨ TwoD s) →
      (∀ h' w' e', t.pc = .schedStarted h' w' e' → e' = e ∨ AliveOk s e') →
      GX s ti NoX → (∃ o, s.em? e = some o) → Between s'
  ufin : ∀ s ti w s' t, unschedFinishX fuel s ti w = some s' → s.thread? ti = some t →
      t.cur = some (.unschedule w) → (∀ h, registered s.hist h w = false) → LX s ti (idepth t + 1) →
      Disp s (some ti) → TM t → TS s t → GX s ti NoX → Between s'
  uab : ∀ s ti b s' t, uallBodyX fuel s ti b = some s' → s.thread? ti = some t →
      t.cur = some (if b then .stop else .unscheduleAll) → LX s ti (idepth t + 1) → (b = true → s.stoppedD = true) →
      Disp s (some ti) → TM t → TS s t → GX s ti NoX → Between s'
  uajn : ∀ s ti es b s' t, uallJoinNextX fuel s ti es b = some s' → s.thread? ti = some t →
      t.cur = some (if b then .stop else .unscheduleAll) → (∀ h w, registered s.hist h w = false) →
      LX s ti (idepth t + 1) → (b = true → s.stoppedD = true) → Disp s (some ti) → TM t → TS s t → GX s ti NoX →
      (∀ e ∈ es, Stopped s e) → (∀ e ∈ s.regEm, Stopped s e) → Between s'
  stem : ∀ s ti es s' t, startEmittersX fuel s ti es = some s' → s.thread? ti = some t → t.cur = some .start →
      LX s ti (idepth t) → Disp s (some ti) → TM t → TS s t → GX s ti NoX → (∀ e ∈ es, AliveOk s e) → Between s'
  cit : ∀ s ti s' t, continueIterX fuel s ti = some s' → s.thread? ti = some t → LX s ti (idepth t) →
      Disp s (some ti) → TM t → TS s t → GX s ti NoX → Between s'

theorem pass : ∀ fuel, Pass fuel := by
  intro fuel
  induction fuel with
  | zero =>
    constructor
    · intro s ti res s' t h; exact nomatch h
    · intro s ti s' t h; exact nomatch h
    · intro s ti op s' t h; exact nomatch h
    · intro s ti op s' t h; exact nomatch h
    · intro s ti op s' t h; exact nomatch h
    · intro s ti h0 w e s' t h; exact nomatch h
    · intro s ti w s' t h; exact nomatch h
    · intro s ti b s' t h; exact nomatch h
    · intro s ti es b s' t h; exact nomatch h
    · intro s ti es s' t h; exact nomatch h
    · intro s ti s' t h; exact nomatch h
  | succ n ih =>
    constructor
    ·
      intro s ti res s' t h ht hL hok hsent hK hM hS hG
      unfold finishOpX at h
      simp only [ht] at h
      cases hc : t.cur with
      | none =>
        simp only [hc] at h
        refine ih.nxt _ _ _ _ h (setThread_thread?_self _ ht) ?_
          ((hK.log (.ret t.label t.idx res) trivial rfl rfl).setThreadSame ht _ rfl rfl rfl) (hM.same rfl rfl) ?_ ?_
        · exact (hL.log (.ret t.label t.idx res) trivial (Or.inl rfl)).setThreadMine _
        · exact hS.rel ((Rel.log s _ rfl).trans (Rel.setThread (t := t) (by exact ht) _ rfl)) rfl rfl
        · exact (hG.log _ rfl (by exact trivial)).setThreadMine (t := t) ht _ rfl rfl
      | some op =>
        simp only [hc] at h
        refine ih.nxt _ _ _ _ h (setThread_thread?_self _ ht) ?_
          (((hK.log (.did op res) trivial rfl rfl).log (.ret t.label t.idx res) trivial rfl rfl).setThreadSame ht _ rfl rfl rfl)
          (hM.same rfl rfl) ?_ ?_
        · exact ((hL.log (.did op res) (fun e h w hr => hok e op hc h w hr) (Or.inl rfl)).log
            (.ret t.label t.idx res) trivial (Or.inl rfl)).setThreadMine _
        · exact hS.rel (((Rel.log s _ rfl).trans (Rel.log _ _ rfl)).trans (Rel.setThread (t := t) (by exact ht) _ rfl)) rfl rfl
        · refine ((hG.log (.did op res) rfl ?_).log _ rfl (by exact trivial)).setThreadMine (t := t) ht _ rfl rfl
          cases op <;> simp [GoodAtS]
          exact fun hr => hsent hr hc
    ·
      intro s ti s' t h ht hL hK hM hS hG
      unfold nextOpX at h
      simp only [ht] at h
      split at h
      · rename_i op rest hops
        exact ih.sta _ _ _ _ _ h (setThread_thread?_self _ ht) rfl (hL.setThreadMine _)
          (hK.setThreadSame ht _ rfl rfl rfl) (hM.same rfl rfl)
          (hS.rel (Rel.setThread ht _ rfl) rfl rfl) (hG.setThreadMine ht _ rfl rfl)
      · split at h
        · exact ih.cit _ _ _ _ h ht hL hK hM hS hG
        · cases h
          rename_i hnd
          have hi : t.iter = none := by
            cases hit : t.iter with
            | none => rfl
            | some x => exact absurd (hM.it (by simp [hit])) (by intro hk; exact hnd hk)
          exact ⟨hL.close ht _ (depth_of_not_holds rfl) trivial, hK.closeThread ht _ rfl (Or.inl rfl) rfl,
            hG.close ht _ rfl (TG.atPlain hM hi .done rfl (by simp) (by simp) (by simp) (by simp) (by simp) (by simp))
              (fun h0 w e hp => Or.inl (hS.pe h0 w e hp)) (fun _ hx => hx.elim)⟩
    ·
      intro s ti op s' t h ht hc hL hK hM hS hG
      unfold startOpX at h
      split at h
      · split at h
        · exact ih.fin _ _ _ _ _ h ht hL (notok (by decide)) (notok (by decide)) hK hM hS hG
        · refine ih.stem _ _ _ _ _ h ht hc hL hK hM hS hG ?_
          intro e he
          obtain ⟨o, ho⟩ := hG.sg.reg e he
          exact ⟨o, ho, Or.inr he⟩
      · have hns : "raised:RuntimeError" = "ok" → t.cur = some Op.stop → Sent s.hist := notok (by decide)
        split at h
        · exact ih.fin _ _ _ _ _ h ht hL (notok (by decide)) hns hK hM hS hG
        · split at h
          · exact ih.fin _ _ _ _ _ h ht hL (notok (by decide)) hns hK hM hS hG
          · cases h
            rename_i d hdx hne
            -- a dispatcher (inside a callback) that joins "the" dispatcher joins another one: two exist
            refine ⟨hL.closeUpd ht _ (depth_of_not_holds rfl) hc, hK.closeUpd _ (fun _ => rfl) (fun _ => Or.inl rfl) (fun _ => rfl),
              hG.closeUpd ht _ rfl ?_ (fun h0 w e hp => Or.inl (hS.pe h0 w e hp)) (fun _ hx => hx.elim)⟩
            have htwo : t.iter.isSome = true → TwoD s := by
              intro hi
              have hk := hM.it hi
              obtain ⟨td, htd, hkd⟩ := hG.sg.didx d hdx
              have ht' : s.threads[ti]? = some t := ht
              exact ⟨d, ti, hne, by rw [mem_kinds_of_thread htd, hkd], by rw [mem_kinds_of_thread ht', hk]⟩
            exact {
              disp := by
                rintro (hi | hi)
                · exact hM.it hi
                · simp [isDpc] at hi
              cb := fun hi => Or.inr ⟨rfl, htwo hi⟩
              epcE := fun e he => absurd he (hM.ne e)
              epcO := by rintro (h1 | h1) <;> cases h1
              dj := fun hk hi => by
                have h1 := hM.di hk
                have hi' : t.iter = none := hi
                rw [hi'] at h1; cases h1
              joinU := fun w e h1 => by cases h1
              joinA := fun es fs h1 => by cases h1
              sched := fun h0 w e h1 => by cases h1
              emObj := fun e he => absurd he (hM.ne e)
              startEs := fun es h1 => by cases h1
              regS := fun es fs h1 => by cases h1
              q1 := fun h1 _ => by cases h1
              sq := fun hk _ hSent => hS.sq hk hSent
              stopA := fun h1 => by cases h1
              stopJ := fun es h1 => by cases h1 }
      · refine ih.ent _ _ _ _ _ h ht hc (hL.frame rfl rfl rfl rfl) (fun _ => rfl)
          (hK.frame rfl rfl rfl rfl (fun _ => rfl)) hM ?_ hG.setStopped
        exact hS.frame rfl rfl rfl rfl rfl
      · simp only [ht] at h
        cases h
        have hLq := hL.raise ht (.died t.name) rfl trivial { t with pc := .done, ops := [], iter := none } rfl trivial
        generalize hs1 : (if s.lockOwner = some ti then { s with lockOwner := none, lockCount := 0 } else s) = s1 at hLq
        have hG1 : GX s1 ti NoX := by
          subst hs1; split
          · exact hG.frame rfl rfl rfl rfl rfl rfl rfl rfl
          · exact hG
        have hK1 : Disp s1 (some ti) := by
          subst hs1; split
          · exact hK.frame rfl rfl rfl rfl (fun _ => rfl)
          · exact hK
        have ht1 : s1.thread? ti = some t := by subst hs1; split <;> exact ht
        have hpe1 : ∀ h0 w e, t.pc = .schedStarted h0 w e → AliveOk s1 e := by
          intro h0 w e hp
          have := hS.pe h0 w e hp
          subst hs1; split <;> exact this
        refine ⟨hLq, (hK1.log (.died t.name) trivial rfl rfl).closeThread ht1 _ rfl (Or.inr rfl) rfl, GX.close (t := t) (hG1.log (.died t.name) rfl trivial) (by rw [log_thread?]; exact ht1) _ rfl ?_
          (fun h0 w e hp => Or.inl ((Rel.log s1 _ rfl).am e (hpe1 h0 w e hp))) (fun _ hx => hx.elim)⟩
        exact {
          disp := by rintro (hi | hi) <;> simp [isDpc] at hi
          cb := fun hi => by simp at hi
          epcE := fun e he => absurd he (hM.ne e)
          epcO := by rintro (h1 | h1) <;> cases h1
          dj := fun _ _ => rfl
          joinU := fun w e h1 => by cases h1
          joinA := fun es fs h1 => by cases h1
          sched := fun h0 w e h1 => by cases h1
          emObj := fun e he => absurd he (hM.ne e)
          startEs := fun es h1 => by cases h1
          regS := fun es fs h1 => by cases h1
          q1 := fun h1 _ => by cases h1
          sq := fun _ hp _ => absurd rfl hp
          stopA := fun h1 => by cases h1
          stopJ := fun es h1 => by cases h1 }
      · rename_i hns1 hns2 hns3 hns4
        exact ih.ent _ _ _ _ _ h ht hc hL (fun hop => absurd hop (by intro e; subst e; exact hns3 rfl)) hK hM hS hG
    ·
      intro s ti op s' t h ht hc hL hst hK hM hS hG
      unfold enterLockedX at h
      split at h
      · rename_i ho
        exact ih.lck _ _ _ _ _ h ht hc (hL.acquire ho) hst (hK.frame rfl rfl rfl rfl (fun _ => rfl)) hM (hS.frame rfl rfl rfl rfl rfl)
          (hG.frame rfl rfl rfl rfl rfl rfl rfl rfl)
      · cases h
        rename_i ho
        have hi : t.iter = none := by
          cases hit : t.iter with
          | none => rfl
          | some x =>
            have : 0 < idepth t := by simp [idepth, hit]
            exact absurd (hL.mine.2 this).1 ho
        exact ⟨hL.closeUpd ht _ (depth_of_not_holds rfl) hc, hK.closeUpd _ (fun _ => rfl) (fun _ => Or.inl rfl) (fun _ => rfl),
          hG.closeUpd ht _ rfl (TG.atPlain hM hi (.acq op) rfl (by simp) (by simp) (by simp) (by simp) (by simp) (fun hp => hst (by cases hp; rfl)))
            (fun h0 w e hp => Or.inl (hS.pe h0 w e hp)) (fun _ hx => hx.elim)⟩
    ·
      intro s ti op s' t h ht hc hL hst hK hM hS hG
      unfold lockedX at h
      try simp only [] at h
      split at h
      · -- schedule
        rename_i h0 w fault
        have hnr : ∀ op', t.cur = some op' → ∀ h' w', removes op' h' w' = true → False := by
          intro op' hc' h' w' hr; rw [hc] at hc'; cases hc'; simp [removes] at hr
        have hns : ∀ (r : String) (s0 : State), (r = "ok" → t.cur = some Op.stop → Sent s0.hist) := by
          intro r s0 _ hcs; rw [hc] at hcs; cases hcs
        split at h
        · refine ih.fin _ _ _ _ _ h (release_thr ht) ?_ (fun _ op' hc' h' w' hr => (hnr op' hc' h' w' hr).elim) (hns _ _)
            (Disp.release (hK.hist_step (o := .reg h0 w) rfl rfl rfl rfl trivial rfl (fun hs => hs.reg h0 w) rfl)) hM ?_ ?_
          · exact LX.release (hL.hist_step (o := .reg h0 w) rfl rfl rfl rfl trivial (Or.inr (Nat.succ_pos _)))
          · exact TS.release (hS.frameLog rfl rfl rfl rfl (.reg h0 w) rfl rfl)
          · exact GX.release (hG.frameLog rfl rfl rfl rfl rfl rfl rfl (.reg h0 w) rfl rfl trivial)
        · split at h
          · exact ih.fin _ _ _ _ _ h (release_thr ht) hL.release (notok (by decide)) (hns _ _) hK.release hM hS.release hG.release
          · have hK1 : Disp ({ s with emObjs := s.emObjs ++ [({ wid := w, script := (alookup w s.emitScripts).getD [] } : EmObj)] } : State) (some ti) :=
              hK.frame rfl rfl rfl rfl (fun _ => rfl)
            have hG1 := hG.appendEm ({ wid := w, script := (alookup w s.emitScripts).getD [] } : EmObj) rfl
            have hR1 : Rel s ({ s with emObjs := s.emObjs ++ [({ wid := w, script := (alookup w s.emitScripts).getD [] } : EmObj)] } : State) := by
              have hm : EmMono s ({ s with emObjs := s.emObjs ++ [({ wid := w, script := (alookup w s.emitScripts).getD [] } : EmObj)] } : State) := by
                intro e x hx
                refine ⟨x, ?_, id, id⟩
                have hx' : s.emObjs[e]? = some x := hx
                have := (List.getElem?_eq_some_iff.mp hx').1
                show (s.emObjs ++ [_])[e]? = some x
                rw [List.getElem?_append_left this]; exact hx'
              refine ⟨hm, KP.of_eq rfl, ?_, ?_, rfl, id, id⟩
              · rintro x ⟨y, hy, hh⟩
                obtain ⟨y', hy', hs', _⟩ := hm x y hy
                exact ⟨y', hy', hh.imp hs' id⟩
              · intro hh x hx; exact (hh x hx).mono hm
            have hnew : ({ s with emObjs := s.emObjs ++ [({ wid := w, script := (alookup w s.emitScripts).getD [] } : EmObj)] } : State).em? s.emObjs.length =
                some ({ wid := w, script := (alookup w s.emitScripts).getD [] } : EmObj) := by simp [State.em?]
            split at h
            · split at h
              · exact ih.fin _ _ _ _ _ h (release_thr ht) (LX.release (hL.frame rfl rfl rfl rfl)) (notok (by decide)) (hns _ _) hK1.release hM
                  (TS.release (hS.rel hR1 rfl rfl)) (GX.release hG1)
              · cases h
                have hG2 := (hG1.exempt (fun x => x = s.emObjs.length)).linkEm ("E" ++ toString w) s.emObjs.length
                  ⟨_, hnew, Or.inr (Or.inr rfl)⟩
                have hS2 := (hS.rel hR1 rfl rfl).linkEm ("E" ++ toString w) s.emObjs.length
                have ht2 := spawn_thread? (s := { s with emObjs := s.emObjs ++ [({ wid := w, script := (alookup w s.emitScripts).getD [] } : EmObj)] })
                  ("E" ++ toString w) (.emitter s.emObjs.length) ht
                refine ⟨?_, Disp.closeUpd (Disp.updEm (hK1.spawn _ _) _ _) _ (fun _ => rfl) (fun _ => Or.inl rfl) (fun _ => rfl),
                  GX.closeUpd (t := t) hG2 (by rw [updEm_thread?]; exact ht2) _ rfl ?_ (fun h1 w1 e1 hpc => Or.inl (hS2.pe h1 w1 e1 hpc)) ?_⟩
                · have hL1 : LX ({ s with emObjs := s.emObjs ++ [({ wid := w, script := (alookup w s.emitScripts).getD [] } : EmObj)] } : State) ti (idepth t + 1) :=
                    hL.frame rfl rfl rfl rfl
                  exact LX.closeUpd (t := t) (LX.updEm (hL1.spawn _ _) _ _) (by rw [updEm_thread?]; exact ht2) _ (depth_of_holds rfl) ⟨fault, hc⟩
                · refine TG.atCb hM hS2 _ rfl (by simp) (by simp) ?_ (by simp) (by simp) (by simp)
                  intro h1 w1 e1 hpc
                  cases hpc
                  refine ⟨({ wid := w, script := (alookup w s.emitScripts).getD [], started := true, tidx := some s.threads.length } : EmObj), ?_⟩
                  rw [em?_updEm]; simp [spawn_em?, hnew]
                · intro e1 hx
                  subst hx
                  exact ⟨h0, w, rfl⟩
            · refine ih.sfin _ _ _ _ _ _ _ h ht ⟨fault, hc⟩ (hL.frame rfl rfl rfl rfl) hK1 hM ?_ ?_ hG1 ⟨_, hnew⟩
              · intro hk hSent; exact hS.sq hk hSent
              · intro h1 w1 e1 hpc; exact Or.inr (hR1.am e1 (hS.pe h1 w1 e1 hpc))
      · -- unschedule
        rename_i w
        have hns : ∀ (r : String) (s0 : State), (r = "ok" → t.cur = some Op.stop → Sent s0.hist) := by
          intro r s0 _ hcs; rw [hc] at hcs; cases hcs
        split at h
        · exact ih.fin _ _ _ _ _ h (release_thr ht) hL.release (notok (by decide)) (hns _ _) hK.release hM hS.release hG.release
        · split at h
          · exact ih.fin _ _ _ _ _ h (release_thr ht) hL.release (notok (by decide)) (hns _ _) hK.release hM hS.release hG.release
          · rename_i e he hnone
            have hL2 : LX ((({ s with handlers := aerase w s.handlers, regEm := s.regEm.filter (· != e) } : State).log (.unregW w)).updEm e (fun o => { o with stopped := true })) ti (idepth t + 1) :=
              LX.frame (hL.hist_step (o := .unregW w) (s' := (({ s with handlers := aerase w s.handlers, regEm := s.regEm.filter (· != e) } : State).log (.unregW w))) rfl rfl rfl rfl trivial (Or.inl rfl))
                (by simp) (by simp) (by simp) (by simp)
            have hK2 : Disp ((({ s with handlers := aerase w s.handlers, regEm := s.regEm.filter (· != e) } : State).log (.unregW w)).updEm e (fun o => { o with stopped := true })) (some ti) :=
              Disp.updEm (hK.hist_step (o := .unregW w) (s' := (({ s with handlers := aerase w s.handlers, regEm := s.regEm.filter (· != e) } : State).log (.unregW w))) rfl rfl rfl rfl trivial rfl (fun hs => hs.unregW w) rfl) _ _
            have hreg : ∀ h', registered ((({ s with handlers := aerase w s.handlers, regEm := s.regEm.filter (· != e) } : State).log (.unregW w)).updEm e (fun o => { o with stopped := true })).hist h' w = false := by
              intro h'; simp [registered_snoc, regStep]
            have hG2 := hG.unregStop e (({ s with handlers := aerase w s.handlers, regEm := s.regEm.filter (· != e) } : State).log (.unregW w))
              rfl rfl rfl rfl rfl rfl rfl (.unregW w) rfl rfl trivial
            obtain ⟨o0, ho0⟩ := emitterOf_exists he
            have hst2 : Stopped ((({ s with handlers := aerase w s.handlers, regEm := s.regEm.filter (· != e) } : State).log (.unregW w)).updEm e (fun o => { o with stopped := true })) e :=
              ⟨{ o0 with stopped := true }, by
                rw [em?_updEm]
                have : (({ s with handlers := aerase w s.handlers, regEm := s.regEm.filter (· != e) } : State).log (.unregW w)).em? e = some o0 := ho0
                simp [this], rfl⟩
            have hS2 : TS ((({ s with handlers := aerase w s.handlers, regEm := s.regEm.filter (· != e) } : State).log (.unregW w)).updEm e (fun o => { o with stopped := true })) t := by
              have hm : EmMono s ((({ s with handlers := aerase w s.handlers, regEm := s.regEm.filter (· != e) } : State).log (.unregW w)).updEm e (fun o => { o with stopped := true })) :=
                EmMono.updEm (({ s with handlers := aerase w s.handlers, regEm := s.regEm.filter (· != e) } : State).log (.unregW w)) e
                  (fun o => { o with stopped := true }) (fun _ _ => rfl) (fun _ hh => hh)
              refine ⟨fun hk hSent => ?_, fun h1 w1 e1 hpc => ?_⟩
              · rw [updEm_queue, updEm_hist] at *
                have hSent' : Sent s.hist := by
                  rcases (Sent_snoc _ _).mp hSent with hh | hh
                  · exact hh
                  · cases hh
                exact (hS.sq hk hSent').imp id (fun x => x.mono (KP.of_eq (by rw [updEm_threads]; rfl)))
              · obtain ⟨y, hy, hal⟩ := hS.pe h1 w1 e1 hpc
                by_cases hx : e1 = e
                · subst hx
                  obtain ⟨y', hy', hs'⟩ := hst2
                  exact ⟨y', hy', Or.inl hs'⟩
                · obtain ⟨y', hy', hs', _⟩ := hm e1 y hy
                  refine ⟨y', hy', hal.imp hs' (fun z => ?_)⟩
                  rw [updEm_regEm]
                  show e1 ∈ s.regEm.filter (· != e)
                  simp [List.mem_filter, z, hx]
            split at h
            · cases h
              refine ⟨hL2.closeUpd (by rw [updEm_thread?]; exact ht) _ (depth_of_holds rfl) ⟨hc, hreg⟩, hK2.closeUpd _ (fun _ => rfl) (fun _ => Or.inl rfl) (fun _ => rfl),
                hG2.closeUpd (by rw [updEm_thread?]; exact ht) _ rfl (TG.atCb hM hS2 _ rfl ?_ (by simp) (by simp) (by simp) (by simp) (by simp))
                  (fun h1 w1 e1 hp => Or.inl (hS2.pe h1 w1 e1 hp)) (fun _ hx => hx.elim)⟩
              intro w' e' hpc; cases hpc; exact hst2
            · exact ih.ufin _ _ _ _ _ h (by rw [updEm_thread?]; exact ht) hc hreg hL2 hK2 hM hS2 hG2
      · -- addHandler
        rename_i h0 w
        refine ih.fin _ _ _ _ _ h (release_thr ht) ?_ ?_ ?_
          (Disp.release (hK.hist_step (o := .reg h0 w) rfl rfl rfl rfl trivial rfl (fun hs => hs.reg h0 w) rfl)) hM ?_ ?_
        · exact LX.release (hL.hist_step (o := .reg h0 w) rfl rfl rfl rfl trivial (Or.inr (Nat.succ_pos _)))
        · intro _ op' hc' h' w' hr; rw [hc] at hc'; cases hc'; simp [removes] at hr
        · intro _ hcs; rw [hc] at hcs; cases hcs
        · exact TS.release (hS.frameLog rfl rfl rfl rfl (.reg h0 w) rfl rfl)
        · exact GX.release (hG.frameLog rfl rfl rfl rfl rfl rfl rfl (.reg h0 w) rfl rfl trivial)
      · -- removeHandler
        rename_i h0 w
        have hns : ∀ (r : String) (s0 : State), (r = "ok" → t.cur = some Op.stop → Sent s0.hist) := by
          intro r s0 _ hcs; rw [hc] at hcs; cases hcs
        split at h
        · refine ih.fin _ _ _ _ _ h (release_thr ht) ?_ ?_ (hns _ _)
            (Disp.release (hK.hist_step (o := .unreg h0 w) rfl rfl rfl rfl trivial rfl (fun hs => hs.unreg h0 w) rfl)) hM ?_ ?_
          · exact LX.release (hL.hist_step (o := .unreg h0 w) rfl rfl rfl rfl trivial (Or.inl rfl))
          · intro _ op' hc' h' w' hr; rw [hc] at hc'; cases hc'
            simp [removes] at hr
            obtain ⟨e1, e2⟩ := hr; subst e1; subst e2
            simp [registered_snoc, regStep]
          · exact TS.release (hS.frameLog rfl rfl rfl rfl (.unreg h0 w) rfl rfl)
          · exact GX.release (hG.frameLog rfl rfl rfl rfl rfl rfl rfl (.unreg h0 w) rfl rfl trivial)
        · exact ih.fin _ _ _ _ _ h (release_thr ht) (LX.release (hL.frame rfl rfl rfl rfl)) (notok (by decide)) (hns _ _)
            (Disp.release (hK.frame rfl rfl rfl rfl (fun w' => by simp only [handlersOf_eq]; exact hOf_self _ _ _))) hM
            (TS.release (hS.frame rfl rfl rfl rfl rfl))
            (GX.release (hG.frame rfl rfl rfl rfl rfl rfl rfl rfl))
      · exact ih.uab _ _ _ _ _ h ht (by simpa using hc) hL (fun hb => by cases hb) hK hM hS hG
      · exact ih.uab _ _ _ _ _ h ht (by simpa using hc) hL (fun _ => hst rfl) hK hM hS hG
      · cases h
    ·
      intro s ti h0 w e s' t h ht hc hL hK hM hsq hpe hG hex
      unfold schedFinishX at h
      have hmem : ∀ x, x ∈ ((s.regEm ++ [e]).mergeSort (fun a b =>
          ((s.em? a).map (·.wid)).getD 0 ≤ ((s.em? b).map (·.wid)).getD 0)) ↔ (x ∈ s.regEm ∨ x = e) := by
        intro x; rw [List.mem_mergeSort]; simp
      have hno : ∀ (j : Nat) (tj : Thread), j ≠ ti → s.threads[j]? = some tj → ∀ es fs, tj.pc ≠ .uallJoin es fs := by
        intro j tj hj hjt es fs hp
        have hz := hL.others_idle (Nat.succ_pos _) hj hjt
        have := depth_zero_holds hz
        rw [hp] at this; cases this
      have hG1 := hG.addReg e hex
        (({ s with regEm := (s.regEm ++ [e]).mergeSort (fun a b => ((s.em? a).map (·.wid)).getD 0 ≤ ((s.em? b).map (·.wid)).getD 0),
                   handlers := ainsert w (insertSorted h0 (s.handlersOf w)) s.handlers,
                   watches := insertSorted w s.watches } : State).log (.reg h0 w))
        rfl rfl rfl hmem rfl rfl rfl (.reg h0 w) rfl rfl trivial hno
      refine ih.fin _ _ _ _ _ h (release_thr ht) ?_ ?_ ?_
        (Disp.release (hK.hist_step (o := .reg h0 w) rfl rfl rfl rfl trivial rfl (fun hs => hs.reg h0 w) rfl)) hM ?_ (GX.release hG1)
      · exact LX.release (hL.hist_step (o := .reg h0 w) rfl rfl rfl rfl trivial (Or.inr (Nat.succ_pos _)))
      · obtain ⟨f, hc⟩ := hc
        intro _ op' hc' h' w' hr; rw [hc] at hc'; cases hc'; simp [removes] at hr
      · obtain ⟨f, hc⟩ := hc
        intro _ hcs; rw [hc] at hcs; cases hcs
      · apply TS.release
        refine ⟨fun hk hSent => ?_, fun h1 w1 e1 hpc => ?_⟩
        · have hSent' : Sent s.hist := by
            have hS' : Sent (s.hist ++ [.reg h0 w]) := hSent
            rcases (Sent_snoc _ _).mp hS' with hh | hh
            · exact hh
            · cases hh
          exact hsq hk hSent'
        · rcases hpe h1 w1 e1 hpc with hx | hx
          · subst hx
            obtain ⟨y, hy⟩ := hex
            exact ⟨y, hy, Or.inr ((hmem e1).mpr (Or.inr rfl))⟩
          · obtain ⟨y, hy, hal⟩ := hx
            exact ⟨y, hy, hal.imp id (fun z => (hmem e1).mpr (Or.inl z))⟩
    ·
      intro s ti w s' t h ht hc hreg hL hK hM hS hG
      unfold unschedFinishX at h
      have hns : ∀ (r : String) (s0 : State), (r = "ok" → t.cur = some Op.stop → Sent s0.hist) := by
        intro r s0 _ hcs; rw [hc] at hcs; cases hcs
      split at h
      · refine ih.fin _ _ _ _ _ h (release_thr ht) (LX.release (hL.frame rfl rfl rfl rfl)) ?_ (hns _ _)
          (Disp.release (hK.frame rfl rfl rfl rfl (fun _ => rfl))) hM
          (TS.release (hS.frame rfl rfl rfl rfl rfl)) (GX.release (hG.frame rfl rfl rfl rfl rfl rfl rfl rfl))
        intro _ op' hc' h' w' hr; rw [hc] at hc'; cases hc'
        simp [removes] at hr; subst hr
        simpa using hreg h'
      · exact ih.fin _ _ _ _ _ h (release_thr ht) hL.release (notok (by decide)) (hns _ _) hK.release hM hS.release hG.release
    ·
      intro s ti b s' t h ht hc hL hst hK hM hS hG
      unfold uallBodyX at h
      have hG1 : GX (({ s with handlers := [] } : State).log .unregAll) ti NoX :=
        hG.frameLog rfl rfl rfl rfl rfl rfl rfl .unregAll rfl rfl trivial
      have hS1 : TS (({ s with handlers := [] } : State).log .unregAll) t := hS.frameLog rfl rfl rfl rfl .unregAll rfl rfl
      have hall : ∀ e ∈ ((({ s with handlers := [] } : State).log .unregAll).regEm.foldl (fun acc e => acc.updEm e (fun o => { o with stopped := true })) (({ s with handlers := [] } : State).log .unregAll)).regEm,
          Stopped ((({ s with handlers := [] } : State).log .unregAll).regEm.foldl (fun acc e => acc.updEm e (fun o => { o with stopped := true })) (({ s with handlers := [] } : State).log .unregAll)) e := by
        intro e he
        rw [foldUpdEm_regEm] at he
        exact foldStop_stopped _ _ e he (hG1.sg.reg e he)
      refine ih.uajn _ _ _ _ _ _ h ?_ hc ?_ ?_ ?_
        (Disp.foldUpdEm (hK.hist_step (o := .unregAll) (s' := ({ s with handlers := [] } : State).log .unregAll) rfl rfl rfl rfl trivial rfl (fun _ => HSorted.nil) rfl) _ _) hM ?_ ?_ hall hall
      · rw [foldUpdEm_thread?]; exact ht
      · intro h' w'; rw [foldUpdEm_hist]; simp [registered_snoc, regStep]
      · apply LX.foldUpdEm
        exact hL.hist_step (o := .unregAll) rfl rfl rfl rfl trivial (Or.inl rfl)
      · intro hb; rw [foldUpdEm_stoppedD]; exact hst hb
      · exact hS1.foldStop _
      · exact GX.foldUpdEm hG1 _ _ (fun o _ => rfl) (fun o => rfl)
    ·
      intro s ti es b s' t h ht hc hreg hL hst hK hM hS hG hes hall
      unfold uallJoinNextX at h
      split at h
      · split at h
        · cases h
          refine ⟨hL.closeUpd ht _ (depth_of_holds rfl) ⟨hc, hreg⟩, hK.closeUpd _ (fun _ => rfl) (fun _ => Or.inl rfl) (fun _ => rfl),
            hG.closeUpd ht _ rfl (TG.atCb hM hS _ rfl (by simp) ?_ (by simp) (by simp) ?_ ?_)
              (fun h1 w1 e1 hp => Or.inl (hS.pe h1 w1 e1 hp)) (fun _ hx => hx.elim)⟩
          · intro es' fs' hpc e he; cases hpc; exact hes e he
          · intro es' fs' _; exact hall
          · intro es' hpc; cases hpc; exact hst rfl
        · rename_i e rest _
          exact ih.uajn _ _ _ _ _ _ h ht hc hreg hL hst hK hM hS hG (fun x hx => hes x (List.mem_cons_of_mem _ hx)) hall
      · have hL1 : LX ({ s with regEm := [], watches := [] } : State).release ti (idepth t) :=
          LX.release (hL.frame rfl rfl rfl rfl)
        have hG1 : GX ({ s with regEm := [], watches := [] } : State).release ti NoX := GX.release (hG.clearReg hall)
        have hK1 : Disp ({ s with regEm := [], watches := [] } : State).release (some ti) :=
          Disp.release (hK.frame rfl rfl rfl rfl (fun _ => rfl))
        have ht1 : ({ s with regEm := [], watches := [] } : State).release.thread? ti = some t := (release_thr ht)
        have hreg1 : ∀ h' w', registered ({ s with regEm := [], watches := [] } : State).release.hist h' w' = false := by
          intro h' w'; simpa using hreg h' w'
        have hS1 : TS ({ s with regEm := [], watches := [] } : State).release t := by
          apply TS.release
          refine ⟨fun hk hSent => hS.sq hk hSent, fun h1 w1 e1 hpc => ?_⟩
          obtain ⟨y, hy, hal⟩ := hS.pe h1 w1 e1 hpc
          rcases hal with hal | hal
          · exact ⟨y, hy, Or.inl hal⟩
          · obtain ⟨y', hy', hs'⟩ := hall e1 hal
            exact ⟨y', hy', Or.inl hs'⟩
        have hst1 : b = true → ({ s with regEm := [], watches := [] } : State).release.stoppedD = true := by
          intro hb; have := hst hb
          unfold State.release; split <;> exact this
        generalize ({ s with regEm := [], watches := [] } : State).release = s1 at h hL1 hK1 ht1 hreg1 hG1 hS1 hst1
        split at h
        · rename_i hb
          obtain ⟨t', ht', e1, e2, e3, e4⟩ := putItem_thread? (fun _ => QItem.stop) (fun _ => Obs.enqStop) Obs.dropStop ht1
          have hi : idepth t' = idepth t := by simp [idepth, e2]
          have hG2 := hG1.putItem (fun _ => QItem.stop) (fun _ => Obs.enqStop) Obs.dropStop (fun p u => ⟨by simp [GoodAtS], by simp [GoodAtS]⟩)
            (Or.inr ⟨fun _ => rfl, hst1 hb⟩)
          refine ih.fin _ _ _ _ _ h ht' ?_ ?_ (fun _ _ => putStop_sent s1)
            (hK1.putItem _ _ _ rfl rfl rfl rfl trivial trivial (Or.inl rfl)) (hM.same e4 e2) ?_ hG2
          · rw [hi]; exact hL1.putItem _ _ _ rfl rfl trivial trivial
          · intro _ op' hc' h' w' hr
            rw [putItem_registered _ _ _ _ rfl rfl]; exact hreg1 h' w'
          · obtain ⟨hm, hkp, ham⟩ := Rel.putItem s1 (fun _ => QItem.stop) (fun _ => Obs.enqStop) Obs.dropStop
            refine ⟨fun _ _ => Or.inl (putStop_mem hG1.sg.l1), fun h1 w1 x hpc => ?_⟩
            rw [e1] at hpc
            exact ham x (hS1.pe h1 w1 x hpc)
        · refine ih.fin _ _ _ _ _ h ht1 hL1 ?_ ?_ hK1 hM hS1 hG1
          · intro _ op' hc' h' w' hr; exact hreg1 h' w'
          · rename_i hb
            intro _ hcs
            rw [hc] at hcs
            cases b <;> simp at hcs hb
    ·
      intro s ti es s' t h ht hc hL hK hM hS hG hes
      unfold startEmittersX at h
      try simp only [] at h
      split at h
      · split at h
        · cases h
          rename_i _ e rest _ o ho
          have ha := hes e (List.mem_cons_self ..)
          have hG2 := hG.linkEm ("E" ++ toString o.wid) e (by
            obtain ⟨y, hy, hal⟩ := ha
            exact ⟨y, hy, hal.imp id Or.inl⟩)
          have hS2 := hS.linkEm ("E" ++ toString o.wid) e
          have ht2 : ((s.spawn ("E" ++ toString o.wid) (.emitter e)).1.updEm e (fun o' => { o' with started := true, tidx := some (s.spawn ("E" ++ toString o.wid) (.emitter e)).2 })).thread? ti = some t := by
            rw [updEm_thread?]; exact spawn_thread? _ _ ht
          refine ⟨LX.closeUpd (t := t) (LX.updEm (hL.spawn _ _) _ _) ht2 _ (depth_of_not_holds rfl) hc,
            Disp.closeUpd (Disp.updEm (hK.spawn _ _) _ _) _ (fun _ => rfl) (fun _ => Or.inl rfl) (fun _ => rfl),
            GX.closeUpd (t := t) hG2 ht2 _ rfl ?_ (fun h1 w1 x hp => Or.inl (hS2.pe h1 w1 x hp)) (fun _ hx => hx.elim)⟩
          · refine TG.atCb hM hS2 _ rfl (by simp) (by simp) (by simp) ?_ (by simp) (by simp)
            intro es' hpc x hx
            cases hpc
            exact (hes x (List.mem_cons_of_mem _ hx)).linkEm _ e
        · cases h
      · cases h
        have hS2 : TS ({ (s.spawn "D" .dispatcher).1 with dIdx := some (s.spawn "D" .dispatcher).2 } : State) t :=
          ⟨fun hk hSent => (hS.sq hk hSent).imp id (fun x => x.mono (KP.trans (KP.spawn s "D" .dispatcher) (KP.of_eq rfl))),
           fun h1 w1 x hpc => hS.pe h1 w1 x hpc⟩
        refine ⟨LX.closeUpd (t := t) (s := { (s.spawn "D" .dispatcher).1 with dIdx := some (s.spawn "D" .dispatcher).2 })
            (LX.frame (hL.spawn "D" .dispatcher) rfl rfl rfl rfl) (spawn_thread? "D" .dispatcher ht) _
            (depth_of_not_holds rfl) hc,
          Disp.closeUpd (s := { (s.spawn "D" .dispatcher).1 with dIdx := some (s.spawn "D" .dispatcher).2 })
            ((hK.spawn "D" .dispatcher).frame rfl rfl rfl rfl (fun _ => rfl)) _ (fun _ => rfl) (fun _ => Or.inl rfl) (fun _ => rfl),
          GX.closeUpd (t := t) hG.spawnD (spawn_thread? "D" .dispatcher ht) _ rfl ?_
            (fun h1 w1 x hp => Or.inl (hS2.pe h1 w1 x hp)) (fun _ hx => hx.elim)⟩
        exact TG.atCb hM hS2 _ rfl (by simp) (by simp) (by simp) (by simp) (by simp) (by simp)
    ·
      intro s ti s' t h ht hL hK hM hS hG
      unfold continueIterX at h
      simp only [ht] at h
      split at h
      · cases h
      · rename_i u w v hit
        have hi : idepth t = 1 := by simp [idepth, hit]
        have hk : t.kind = .dispatcher := hM.it (by simp [hit])
        rw [hi] at hL
        refine (pass_d ti n).1 _ _ { t with iter := none } h ?_ hk rfl ?_ (Or.inr ?_)
          ((hL.log (.dispatchEnd u) trivial (Or.inl rfl)).setThreadMine _).release (hK.iterEnd ht hit { t with iter := none } rfl rfl).release ?_
        · rw [release_thread?]; exact setThread_thread?_self _ ht
        · intro h1 w1 x hpc
          have := hS.pe h1 w1 x hpc
          exact (Rel.release _).am x ((Rel.setThread (t := t) (by exact ht) _ rfl).am x ((Rel.log s _ rfl).am x this))
        · intro hSent
          have hS3 := (hS.frameLog (s' := s.log (.dispatchEnd u)) rfl rfl rfl rfl (.dispatchEnd u) rfl rfl)
          have hS4 : TS ((s.log (.dispatchEnd u)).setThread ti { t with iter := none }) t :=
            hS3.rel (Rel.setThread (t := t) (by exact ht) _ rfl) rfl rfl
          exact hS4.release.sq hk hSent
        · exact GX.release ((hG.log _ rfl (by exact trivial)).setThreadMine (t := t) ht _ rfl rfl)
      · rename_i u w v h0 rest hit
        have hi : idepth t = 1 := by simp [idepth, hit]
        rw [hi] at hL
        have hL0 := hL.touch w
        have hK0 := hK.touch w
        have hG0 := hG.touch w
        have hS0 := hS.touch w
        generalize hs0 : (if (alookup w s.handlers).isNone then ({ s with handlers := ainsert w [] s.handlers } : State) else s) = s0 at h hL0 hK0 hG0 hS0
        have ht0 : s0.thread? ti = some t := by subst hs0; split <;> exact ht
        have hM' : ∀ (t' : Thread), t'.kind = t.kind → t'.iter = some (u, w, v, rest) → TM t' := by
          intro t' hk' hi'
          exact ⟨fun e => by rw [hk']; exact hM.ne e, fun _ => by rw [hk']; exact hM.it (by simp [hit]),
                 fun _ => by simp [hi']⟩
        split at h
        · refine ih.nxt _ _ _ _ h (setThread_thread?_self (t := t) _ (by rw [log_thread?]; exact ht0)) ?_
            ((hK0.frame (s' := { s0 with invoc := ainsert h0 ((alookup h0 s0.invoc).getD 0 + 1) s0.invoc }) rfl rfl rfl rfl (fun _ => rfl)).call ht0 hit _ rfl rfl)
            (hM' _ rfl rfl) ?_ ?_
          · exact (LX.log (s := { s0 with invoc := ainsert h0 ((alookup h0 s0.invoc).getD 0 + 1) s0.invoc }) (hL0.frame rfl rfl rfl rfl) (.call h0 w v u) trivial (Or.inl rfl)).setThreadMine _
          · exact (hS0.frameLog (s' := ({ s0 with invoc := ainsert h0 ((alookup h0 s0.invoc).getD 0 + 1) s0.invoc } : State).log (.call h0 w v u)) rfl rfl rfl rfl (.call h0 w v u) rfl rfl).rel
              (Rel.setThread (t := t) (by rw [log_thread?]; exact ht0) _ rfl) rfl rfl
          · exact (hG0.frameLog (s' := ({ s0 with invoc := ainsert h0 ((alookup h0 s0.invoc).getD 0 + 1) s0.invoc } : State).log (.call h0 w v u))
              rfl rfl rfl rfl rfl rfl rfl (.call h0 w v u) rfl rfl trivial).setThreadMine (t := t) (by rw [log_thread?]; exact ht0) _ rfl rfl
        · refine ih.cit _ _ _ _ h (setThread_thread?_self _ (by simpa using ht0)) ?_ (hK0.skip ht0 hit _ rfl rfl) (hM' _ rfl rfl) ?_ ?_
          · exact (hL0.log (.skip h0 u) trivial (Or.inl rfl)).setThreadMine _
          · exact (hS0.frameLog (s' := s0.log (.skip h0 u)) rfl rfl rfl rfl (.skip h0 u) rfl rfl).rel
              (Rel.setThread (t := t) (by simpa using ht0) _ rfl) rfl rfl
          · exact (hG0.log _ rfl (by exact trivial)).setThreadMine (t := t) (by simpa using ht0) _ rfl rfl

end WD.ProofsObs
