/- with a single dispatcher thread, every handler receives the entries in queue order, none twice -/
import WD.Proofs.Observer.CInv
namespace WD.ProofsObs
open WD WD.Obs

def kinds (s : State) : List Kind := s.threads.map (·.kind)

/-- at most one thread of kind `dispatcher` (i.e. `observer.start()` took effect at most once) -/
def oneD (s : State) : Prop :=
  ∀ i j : Nat, (kinds s)[i]? = some Kind.dispatcher → (kinds s)[j]? = some Kind.dispatcher → i = j

def KP (s s' : State) : Prop := kinds s <+: kinds s'

theorem KP.refl (s : State) : KP s s := List.prefix_refl _
theorem KP.of_eq {s s' : State} (h : s'.threads = s.threads) : KP s s' := by
  unfold KP kinds; rw [h]; exact List.prefix_refl _
theorem KP.trans {a b c : State} (h1 : KP a b) (h2 : KP b c) : KP a c := List.IsPrefix.trans h1 h2

theorem kinds_prefix_get {s s' : State} (hk : KP s s') {i : Nat} {k : Kind} (h : (kinds s)[i]? = some k) :
    (kinds s')[i]? = some k := by
  obtain ⟨r, hr⟩ := hk
  rw [← hr]
  have := (List.getElem?_eq_some_iff.mp h).1
  rw [List.getElem?_append_left this]; exact h

theorem oneD_of_KP {s s' : State} (h : KP s s') (hd : oneD s') : oneD s :=
  fun i j hi hj => hd i j (kinds_prefix_get h hi) (kinds_prefix_get h hj)

theorem kinds_setThread {s : State} {ti : Nat} {t : Thread} (ht : s.threads[ti]? = some t) (t' : Thread)
    (hk : t'.kind = t.kind) : kinds (s.setThread ti t') = kinds s := by
  unfold kinds
  simp only [setThread_threads]
  apply List.ext_getElem?
  intro i
  simp only [List.getElem?_map, List.getElem?_set]
  split
  · rename_i e; subst e
    obtain ⟨hlt, hget⟩ := List.getElem?_eq_some_iff.mp ht
    simp [hlt, hk, hget]
  · rfl

theorem oneD_setThread {s : State} {ti : Nat} {t : Thread} (ht : s.threads[ti]? = some t) (t' : Thread)
    (hk : t'.kind = t.kind) (hd : oneD s) : oneD (s.setThread ti t') := by
  unfold oneD; rw [kinds_setThread ht t' hk]; exact hd

theorem KP.setThread {s : State} {ti : Nat} {t : Thread} (ht : s.threads[ti]? = some t) (t' : Thread)
    (hk : t'.kind = t.kind) : KP s (s.setThread ti t') := by
  unfold KP; rw [kinds_setThread ht t' hk]; exact List.prefix_refl _

theorem KP.updThread (s : State) (k : Nat) (f : Thread → Thread) (hf : ∀ t, (f t).kind = t.kind) :
    KP s (s.updThread k f) := by
  rw [updThread_eq]
  split
  · rename_i t ht; exact KP.setThread ht _ (hf t)
  · exact KP.refl s

theorem kinds_spawn (s : State) (b : String) (k : Kind) : kinds (s.spawn b k).1 = kinds s ++ [k] := by
  obtain ⟨nm, hnm⟩ := spawn_threads s b k
  unfold kinds; rw [hnm, List.map_append]; rfl

theorem kinds_get_some {s : State} {i : Nat} {k : Kind} (h : (kinds s)[i]? = some k) :
    ∃ t, s.threads[i]? = some t ∧ t.kind = k := by
  rw [kinds, List.getElem?_map] at h
  cases hz : s.threads[i]? with
  | none => rw [hz] at h; cases h
  | some t => rw [hz] at h; exact ⟨t, rfl, Option.some.inj h⟩

theorem mem_kinds_of_thread {s : State} {j : Nat} {t : Thread} (h : s.threads[j]? = some t) : (kinds s)[j]? = some t.kind := by
  simp [kinds, h]

theorem oneD_spawn {s : State} {b : String} {k : Kind} (hd : oneD s)
    (h : k = .dispatcher → ∀ i : Nat, (kinds s)[i]? ≠ some Kind.dispatcher) : oneD (s.spawn b k).1 := by
  intro i j hi hj
  rw [kinds_spawn] at hi hj
  rcases getElem?_snoc_cases hi with hi | ⟨ei, ki⟩ <;> rcases getElem?_snoc_cases hj with hj | ⟨ej, kj⟩
  · exact hd i j hi hj
  · exact absurd hi (h kj.symm i)
  · exact absurd hj (h ki.symm j)
  · rw [ei, ej]

theorem KP.spawn (s : State) (b : String) (k : Kind) : KP s (s.spawn b k).1 := by
  unfold KP; rw [kinds_spawn]; exact List.prefix_append _ _

theorem KP.putItem (s : State) (mk : Nat → QItem) (onEnq : Nat → Obs) (onDrop : Obs) :
    KP s (s.putItem mk onEnq onDrop) := by
  rcases putItem_cases s mk onEnq onDrop with e | e | ⟨d, e⟩
  · rw [e]; exact KP.of_eq rfl
  · rw [e]; exact KP.of_eq rfl
  · rw [e]; exact KP.trans (KP.of_eq (s' := putBase s (mk s.nextUid) (onEnq s.nextUid)) rfl) (KP.updThread _ d notif notif_kind)

theorem oneD_same {s : State} (hd : oneD s) {i j : Nat} {a b : Thread} (ha : s.threads[i]? = some a)
    (hb : s.threads[j]? = some b) (ka : a.kind = .dispatcher) (kb : b.kind = .dispatcher) : i = j := by
  apply hd i j
  · simp [kinds, List.getElem?_map, ha, ka]
  · simp [kinds, List.getElem?_map, hb, kb]

def notCall (o : Obs) : Bool := match o with | .call .. => false | _ => true

theorem mem_snoc_call {hist : List Obs} {o : Obs} (ho : notCall o = true) {h : Hid} {w : Wid} {v u : Nat}
    (hm : Obs.call h w v u ∈ hist ++ [o]) : Obs.call h w v u ∈ hist := by
  rcases List.mem_append.mp hm with hm | hm
  · exact hm
  · rw [← List.mem_singleton.mp hm] at ho; cases ho

theorem callUids_snoc {hist : List Obs} {o : Obs} (ho : notCall o = true) (h : Hid) :
    callUids h (hist ++ [o]) = callUids h hist := by
  rw [callUids_append, callUids_singleton]
  cases o <;> first | exact List.append_nil _ | cases ho

def dpc : Pc → Bool
  | .dWait => true
  | .dLock .. => true
  | _ => false

def KD (t : Thread) : Prop := (t.iter.isSome = true ∨ dpc t.pc = true) → t.kind = .dispatcher

def CallsLe (hist : List Obs) (u : Nat) : Prop := ∀ h w v u', Obs.call h w v u' ∈ hist → u' ≤ u
def CallsLt (hist : List Obs) (u : Nat) : Prop := ∀ h w v u', Obs.call h w v u' ∈ hist → u' < u

def OI (s : State) (t : Thread) : Prop :=
  ∀ u w v rest, t.iter = some (u, w, v, rest) →
    rest.Pairwise (· < ·) ∧ (∀ h ∈ rest, ∀ u' ∈ callUids h s.hist, u' < u) ∧ CallsLe s.hist u ∧
      (∀ u' ∈ quids s.queue, u < u') ∧ u < s.nextUid

def OP (s : State) (t : Thread) : Prop :=
  ∀ u w v, t.pc = .dLock u w v → CallsLt s.hist u ∧ (∀ u' ∈ quids s.queue, u < u') ∧ u < s.nextUid

def GoodAtO (p : List Obs) : Obs → Prop
  | .call h _ _ u => ∀ u' ∈ callUids h p, u' < u
  | _ => True

theorem GoodAtO.of_notCall {p : List Obs} {o : Obs} (ho : notCall o = true) : GoodAtO p o := by
  cases o <;> first | trivial | cases ho

theorem KD.of_same {t t' : Thread} (h : KD t) (hpc : t'.pc = t.pc) (hit : t'.iter = t.iter) (hk : t'.kind = t.kind) :
    KD t' := by
  unfold KD; rw [hpc, hit, hk]; exact h

theorem KD.fresh {t : Thread} (hpc : t.pc = .begin) (hit : t.iter = none) : KD t := by
  intro h; rw [hpc, hit] at h; rcases h with h | h <;> cases h

theorem OI.of_iter {s : State} {t t' : Thread} (h : OI s t) (hit : t'.iter = t.iter) : OI s t' := by
  unfold OI; rw [hit]; exact h

theorem OI.of_none {s : State} {t : Thread} (hit : t.iter = none) : OI s t :=
  fun _ _ _ _ e => nomatch hit.symm.trans e

theorem OP.of_pc {s : State} {t t' : Thread} (h : OP s t) (hpc : t'.pc = t.pc) : OP s t' := by
  unfold OP; rw [hpc]; exact h

theorem below_put {s : State} {item : QItem} {u : Nat}
    (hmk : item = .stop ∨ ∃ w v, item = .ev s.nextUid w v)
    (h : (∀ u' ∈ quids s.queue, u < u') ∧ u < s.nextUid) :
    (∀ u' ∈ quids (s.queue ++ [item]), u < u') ∧ u < s.nextUid + 1 :=
  ⟨fun u' hu' => (mem_quids_put hmk hu').elim (h.1 u') (fun e => e ▸ h.2), Nat.lt_succ_of_lt h.2⟩

structure OX (s : State) (x : Option Nat) : Prop where
  good : Good GoodAtO s.hist
  kd : ∀ (j : Nat) (t : Thread), s.threads[j]? = some t → KD t
  oi : ∀ (j : Nat) (t : Thread), s.threads[j]? = some t → OI s t
  op : ∀ (j : Nat) (t : Thread), some j ≠ x → s.threads[j]? = some t → OP s t
  g : ∀ h w v u, Obs.call h w v u ∈ s.hist → (∀ u' ∈ quids s.queue, u < u') ∧ u < s.nextUid
  hsorted : ∀ w, (s.handlersOf w).Pairwise (· < ·)
  qs : (quids s.queue).Pairwise (· < ·)
  qn : ∀ u ∈ quids s.queue, u < s.nextUid

/-- the invariant, under the assumption that there is at most one dispatcher thread -/
def OC (s : State) (x : Option Nat) : Prop := oneD s → OX s x

theorem OC.map {s s' : State} {x x' : Option Nat} (hC : OC s x) (hk : KP s s')
    (f : oneD s → OX s x → OX s' x') : OC s' x' :=
  fun hd => f (oneD_of_KP hk hd) (hC (oneD_of_KP hk hd))

theorem OX.frame {s s' : State} {x : Option Nat} (hO : OX s x) (hh : s'.hist = s.hist) (ht : s'.threads = s.threads)
    (hq : s'.queue = s.queue) (hn : s'.nextUid = s.nextUid) (hH : ∀ w, s'.handlersOf w = s.handlersOf w) :
    OX s' x := by
  constructor
  · rw [hh]; exact hO.good
  · rw [ht]; exact hO.kd
  · intro j t hj; rw [ht] at hj
    have := hO.oi j t hj
    unfold OI; rw [hh, hq, hn]; exact this
  · intro j t hj hjt; rw [ht] at hjt
    have := hO.op j t hj hjt
    unfold OP; rw [hh, hq, hn]; exact this
  · rw [hh, hq, hn]; exact hO.g
  · intro w; rw [hH]; exact hO.hsorted w
  · rw [hq]; exact hO.qs
  · rw [hq, hn]; exact hO.qn

theorem OX.hist_step {s s' : State} {x : Option Nat} {o : Obs} (hO : OX s x) (hh : s'.hist = s.hist ++ [o])
    (ht : s'.threads = s.threads) (hq : s'.queue = s.queue) (hn : s'.nextUid = s.nextUid)
    (hH : ∀ w, (s'.handlersOf w).Pairwise (· < ·)) (ho : notCall o = true) : OX s' x := by
  constructor
  · rw [hh]; exact hO.good.snoc (GoodAtO.of_notCall ho)
  · rw [ht]; exact hO.kd
  · intro j t hj; rw [ht] at hj
    intro u w v rest e
    obtain ⟨a1, a2, a3, a4, a5⟩ := hO.oi j t hj u w v rest e
    rw [hh, hq, hn]
    refine ⟨a1, ?_, ?_, a4, a5⟩
    · intro h hm u' hu'; rw [callUids_snoc ho] at hu'; exact a2 h hm u' hu'
    · intro h w' v' u' hm; exact a3 h w' v' u' (mem_snoc_call ho hm)
  · intro j t hj hjt; rw [ht] at hjt
    intro u w v e
    obtain ⟨a1, a2, a3⟩ := hO.op j t hj hjt u w v e
    rw [hh, hq, hn]
    exact ⟨fun h w' v' u' hm => a1 h w' v' u' (mem_snoc_call ho hm), a2, a3⟩
  · rw [hh, hq, hn]; intro h w v u hm; exact hO.g h w v u (mem_snoc_call ho hm)
  · exact hH
  · rw [hq]; exact hO.qs
  · rw [hq, hn]; exact hO.qn

theorem OX.log {s : State} {x : Option Nat} (hO : OX s x) (o : Obs) (ho : notCall o = true) : OX (s.log o) x :=
  hO.hist_step rfl rfl rfl rfl hO.hsorted ho

theorem OX.weaken {s : State} (hO : OX s none) (ti : Nat) : OX s (some ti) := by
  constructor
  · exact hO.good
  · exact hO.kd
  · exact hO.oi
  · intro j t _ hjt; exact hO.op j t (by simp) hjt
  · exact hO.g
  · exact hO.hsorted
  · exact hO.qs
  · exact hO.qn

theorem OX.setThreadMine {s : State} {ti : Nat} (hO : OX s (some ti)) (t' : Thread) (hk : KD t') (hi : OI s t') :
    OX (s.setThread ti t') (some ti) :=
  ⟨hO.good, threads_set hO.kd hk, threads_set hO.oi hi, threads_set_of hO.op (fun h => absurd rfl h),
   hO.g, hO.hsorted, hO.qs, hO.qn⟩

theorem OX.updThread_same {s : State} {x : Option Nat} (hO : OX s x) (k : Nat) (f : Thread → Thread)
    (hf : ∀ t, (f t).pc = t.pc ∧ (f t).iter = t.iter ∧ (f t).kind = t.kind) : OX (s.updThread k f) x := by
  rw [updThread_eq]
  split
  · rename_i tk htk
    exact ⟨hO.good, threads_set hO.kd ((hO.kd k tk htk).of_same (hf tk).1 (hf tk).2.1 (hf tk).2.2),
      threads_set hO.oi ((hO.oi k tk htk).of_iter (hf tk).2.1),
      threads_set_of hO.op (fun hk => (hO.op k tk hk htk).of_pc (hf tk).1), hO.g, hO.hsorted, hO.qs, hO.qn⟩
  · exact hO

theorem OX.spawn {s : State} {x : Option Nat} (hO : OX s x) (b : String) (k : Kind) : OX (s.spawn b k).1 x :=
  ⟨hO.good, threads_spawn hO.kd (fun _ => KD.fresh rfl rfl), threads_spawn hO.oi (fun _ => OI.of_none rfl),
   threads_spawn_of hO.op (fun _ _ _ _ e => nomatch e), hO.g, hO.hsorted, hO.qs, hO.qn⟩

theorem pairwise_insertSorted {x : Nat} {l : List Nat} (h : l.Pairwise (· < ·)) :
    (insertSorted x l).Pairwise (· < ·) := by
  induction l with
  | nil => simp [insertSorted]
  | cons y ys ih =>
    simp only [insertSorted]
    have hy := List.pairwise_cons.mp h
    split
    · rename_i hxy
      refine List.pairwise_cons.mpr ⟨?_, h⟩
      intro a ha
      rcases List.mem_cons.mp ha with e | e
      · rw [e]; exact hxy
      · exact Nat.lt_trans hxy (hy.1 a e)
    · split
      · exact h
      · rename_i h1 h2
        refine List.pairwise_cons.mpr ⟨?_, ih hy.2⟩
        intro a ha
        rcases mem_insertSorted.mp ha with e | e
        · rw [e]; omega
        · exact hy.1 a e

def HSorted (hs : List (Wid × List Hid)) : Prop := ∀ w, (hOf hs w).Pairwise (· < ·)

theorem HSorted.reg {hs : List (Wid × List Hid)} (h : HSorted hs) (x : Hid) (w : Wid) :
    HSorted (ainsert w (insertSorted x (hOf hs w)) hs) := by
  intro w'; rw [hOf_ainsert]; split
  · exact pairwise_insertSorted (h w)
  · exact h w'

theorem HSorted.unreg {hs : List (Wid × List Hid)} (h : HSorted hs) (x : Hid) (w : Wid) :
    HSorted (ainsert w ((hOf hs w).filter (· != x)) hs) := by
  intro w'; rw [hOf_ainsert]; split
  · exact (h w).filter _
  · exact h w'

theorem HSorted.unregW {hs : List (Wid × List Hid)} (h : HSorted hs) (w : Wid) : HSorted (aerase w hs) := by
  intro w'; rw [hOf_aerase]; split
  · exact List.Pairwise.nil
  · exact h w'

theorem HSorted.nil : HSorted [] := fun _ => List.Pairwise.nil

theorem OX.release {s : State} {x : Option Nat} (hO : OX s x) : OX s.release x := by
  obtain ⟨o, c, h⟩ := release_fields s
  rw [h]; exact hO.frame rfl rfl rfl rfl (fun _ => rfl)

theorem OX.updEm {s : State} {x : Option Nat} (hO : OX s x) (e : Eid) (f : EmObj → EmObj) : OX (s.updEm e f) x :=
  hO.frame (updEm_hist s e f) (updEm_threads s e f) (updEm_queue s e f) (updEm_nextUid s e f) (updEm_handlersOf s e f)

theorem OX.foldUpdEm {s : State} {x : Option Nat} (hO : OX s x) (l : List Eid) (f : EmObj → EmObj) :
    OX (l.foldl (fun acc e => acc.updEm e f) s) x :=
  foldUpdEm_ind (P := (OX · x)) f (fun _ e h => h.updEm e f) hO l

theorem OX.putItem {s : State} {x : Option Nat} (hO : OX s x) (mk : Nat → QItem) (onEnq : Nat → Obs) (onDrop : Obs)
    (h1 : notCall onDrop = true) (h2 : notCall (onEnq s.nextUid) = true)
    (hmk : mk s.nextUid = .stop ∨ ∃ w v, mk s.nextUid = .ev s.nextUid w v) :
    OX (s.putItem mk onEnq onDrop) x := by
  refine putItem_ind (P := fun s' => OX s' x) s mk onEnq onDrop (hO.log _ h1) ?_
    (fun s' d h => h.updThread_same d notif (fun t => ⟨(notif_same t).1, (notif_same t).2.1, notif_kind t⟩))
  unfold putBase
  constructor
  · exact hO.good.snoc (GoodAtO.of_notCall h2)
  · exact hO.kd
  · intro j t hj u w v rest e
    obtain ⟨a1, a2, a3, a4⟩ := hO.oi j t hj u w v rest e
    refine ⟨a1, ?_, fun h w' v' u' hm => a3 h w' v' u' (mem_snoc_call h2 hm), below_put hmk a4⟩
    intro h hm u' hu'
    rw [log_hist, callUids_snoc h2] at hu'; exact a2 h hm u' hu'
  · intro j t hj hjt u w v e
    obtain ⟨a1, a2⟩ := hO.op j t hj hjt u w v e
    exact ⟨fun h w' v' u' hm => a1 h w' v' u' (mem_snoc_call h2 hm), below_put hmk a2⟩
  · intro h w v u hm
    exact below_put hmk (hO.g h w v u (mem_snoc_call h2 hm))
  · exact hO.hsorted
  · exact quids_put_pairwise hmk hO.qs hO.qn
  · exact quids_put_lt hmk hO.qn

theorem OX.pop {s : State} {x : Option Nat} (hO : OX s x) {item : QItem} {rest : List QItem}
    (hq : s.queue = item :: rest) (l : Option QItem) : OX { s with queue := rest, last := l } x := by
  have hsub := quids_sub_of_cons hq
  constructor
  · exact hO.good
  · exact hO.kd
  · intro j t hj u w v r e
    obtain ⟨a1, a2, a3, a4, a5⟩ := hO.oi j t hj u w v r e
    exact ⟨a1, a2, a3, fun u' hu' => a4 u' (hsub u' hu'), a5⟩
  · intro j t hj hjt u w v e
    obtain ⟨a1, a2, a3⟩ := hO.op j t hj hjt u w v e
    exact ⟨a1, fun u' hu' => a2 u' (hsub u' hu'), a3⟩
  · intro h w v u hm
    obtain ⟨a1, a2⟩ := hO.g h w v u hm
    exact ⟨fun u' hu' => a1 u' (hsub u' hu'), a2⟩
  · exact hO.hsorted
  · exact quids_tail_pairwise hq hO.qs
  · intro u hu; exact hO.qn u (hsub u hu)

theorem OX.close {s : State} {ti : Nat} (hO : OX s (some ti)) (t' : Thread) (hk : KD t') (hi : OI s t')
    (hp : OP s t') : OX (s.setThread ti t') none :=
  ⟨hO.good, threads_set hO.kd hk, threads_set hO.oi hi,
   fun j t _ hjt => (getElem?_set_cases hjt).elim (fun e => by rw [e.2]; exact hp)
     (fun e => hO.op j t (fun c => e.1 (Option.some.inj c)) e.2),
   hO.g, hO.hsorted, hO.qs, hO.qn⟩

theorem OX.closeNone {s : State} {ti : Nat} (hO : OX s (some ti)) (ht : s.threads[ti]? = none) : OX s none :=
  ⟨hO.good, hO.kd, hO.oi, fun j t _ hjt => hO.op j t (fun e => by cases e; rw [ht] at hjt; cases hjt) hjt,
   hO.g, hO.hsorted, hO.qs, hO.qn⟩

theorem OX.closeThread {s : State} {ti : Nat} {t : Thread} (hO : OX s (some ti)) (ht : s.threads[ti]? = some t)
    (t' : Thread) (h1 : dpc t'.pc = false) (h2 : t'.iter = t.iter ∨ t'.iter = none) (h3 : t'.kind = t.kind) :
    OX (s.setThread ti t') none := by
  apply hO.close
  · intro hh
    rcases hh with hh | hh
    · rcases h2 with e | e
      · rw [h3]; exact hO.kd ti t ht (Or.inl (e ▸ hh))
      · rw [e] at hh; cases hh
    · rw [h1] at hh; cases hh
  · exact h2.elim (hO.oi ti t ht).of_iter OI.of_none
  · intro u w v e; rw [e] at h1; cases h1

theorem OX.closeUpd {s : State} {ti : Nat} (hO : OX s (some ti)) (f : Thread → Thread)
    (h1 : ∀ t, dpc (f t).pc = false) (h2 : ∀ t, (f t).iter = t.iter ∨ (f t).iter = none)
    (h3 : ∀ t, (f t).kind = t.kind) : OX (s.updThread ti f) none := by
  rw [updThread_eq]
  split
  · rename_i t ht
    exact hO.closeThread ht _ (h1 t) (h2 t) (h3 t)
  · rename_i ht; exact hO.closeNone ht

theorem OX.closeWait {s : State} {ti : Nat} (hO : OX s (some ti)) (hkd : ∀ t, s.thread? ti = some t → t.kind = .dispatcher)
    (f : Thread → Thread) (h1 : ∀ t, (f t).pc = .dWait) (h2 : ∀ t, (f t).iter = t.iter) (h3 : ∀ t, (f t).kind = t.kind) :
    OX (s.updThread ti f) none := by
  rw [updThread_eq]
  split
  · rename_i t ht
    apply hO.close
    · intro _; rw [h3]; exact hkd t ht
    · exact (hO.oi ti t ht).of_iter (h2 t)
    · intro u w v e; rw [h1] at e; cases e
  · rename_i ht; exact hO.closeNone ht

theorem OX.popEv {s : State} {ti : Nat} (hO : OX s (some ti)) (hkd : ∀ t, s.thread? ti = some t → t.kind = .dispatcher)
    {u : Nat} {w : Wid} {v : Nat} {rest : List QItem}
    (hq : s.queue = .ev u w v :: rest) (l : Option QItem) (f : Thread → Thread)
    (h1 : ∀ t, (f t).pc = .dLock u w v) (h2 : ∀ t, (f t).iter = t.iter) (h3 : ∀ t, (f t).kind = t.kind) :
    OX (({ s with queue := rest, last := l } : State).updThread ti f) none := by
  have hu : u ∈ quids s.queue := quids_head_mem hq
  have hO1 := hO.pop hq l
  rw [updThread_eq]
  split
  · rename_i t ht
    apply hO1.close
    · intro _; rw [h3]; exact hkd t ht
    · exact (hO1.oi ti t ht).of_iter (h2 t)
    · intro u' w' v' e
      rw [h1] at e; cases e
      exact ⟨fun h w' v' u' hm => (hO.g h w' v' u' hm).1 u hu, quids_head_lt hq hO.qs, hO.qn u hu⟩
  · rename_i ht; exact hO1.closeNone ht

theorem callUids_snoc_call (hist : List Obs) (h h' : Hid) (w : Wid) (v u : Nat) :
    callUids h' (hist ++ [.call h w v u]) = callUids h' hist ++ (if h = h' then [u] else []) := by
  rw [callUids_append, callUids_singleton]

theorem OX.call {s : State} {ti : Nat} {t : Thread} (hd : oneD s) (hO : OX s (some ti))
    (ht : s.threads[ti]? = some t) {u : Nat} {w : Wid} {v : Nat} {h : Hid} {rest : List Hid}
    (hit : t.iter = some (u, w, v, h :: rest)) (t' : Thread) (hk : t'.kind = t.kind)
    (hit' : t'.iter = some (u, w, v, rest)) :
    OX ((s.log (.call h w v u)).setThread ti t') (some ti) := by
  have hkt : t.kind = .dispatcher := hO.kd ti t ht (Or.inl (by rw [hit]; rfl))
  obtain ⟨a1, a2, a3, a4, a5⟩ := hO.oi ti t ht u w v (h :: rest) hit
  have idle : ∀ (j : Nat) (tj : Thread), j ≠ ti → s.threads[j]? = some tj → tj.iter = none ∧ dpc tj.pc = false := by
    intro j tj hj hjt
    have hn : ¬ (tj.iter.isSome = true ∨ dpc tj.pc = true) := by
      intro hh
      exact hj (oneD_same hd hjt ht (hO.kd j tj hjt hh) hkt)
    constructor
    · cases hi : tj.iter with
      | none => rfl
      | some x => exact absurd (Or.inl (by rw [hi]; rfl)) hn
    · cases hp : dpc tj.pc with
      | false => rfl
      | true => exact absurd (Or.inr hp) hn
  have key : ∀ (j : Nat) (tj : Thread), ((s.log (.call h w v u)).threads.set ti t')[j]? = some tj →
      tj = t' ∨ (j ≠ ti ∧ s.threads[j]? = some tj) :=
    fun j tj hj => (getElem?_set_cases hj).imp (fun e => e.2) id
  have hp := List.pairwise_cons.mp a1
  constructor
  · exact hO.good.snoc (a2 h (by simp))
  · intro j tj hj
    rcases key j tj hj with e | ⟨_, h0⟩
    · subst e; intro _; rw [hk]; exact hkt
    · exact hO.kd j tj h0
  · intro j tj hj
    rcases key j tj hj with e | ⟨hne, h0⟩
    · subst e
      intro u' w' v' r' e'
      rw [hit'] at e'; cases e'
      refine ⟨hp.2, ?_, ?_, a4, a5⟩
      · intro h' hm u' hu'
        simp only [setThread_hist, log_hist, callUids_snoc_call] at hu'
        have hne' : h ≠ h' := fun e => by subst e; exact Nat.lt_irrefl _ (hp.1 h hm)
        simp only [hne', if_false, List.append_nil] at hu'
        exact a2 h' (List.mem_cons_of_mem _ hm) u' hu'
      · intro h' w' v' u' hm
        simp only [setThread_hist, log_hist, List.mem_append, List.mem_singleton] at hm
        rcases hm with hm | hm
        · exact a3 h' w' v' u' hm
        · cases hm; exact Nat.le_refl _
    · intro u' w' v' r' e'
      rw [(idle j tj hne h0).1] at e'; cases e'
  · intro j tj hjx hjt
    rcases key j tj hjt with e | ⟨hne, h0⟩
    · subst e
      exfalso
      have hne : j ≠ ti := fun e => hjx (by rw [e])
      simp only [setThread_threads, log_threads, getElem?_set_ne' _ _ _ _ hne] at hjt
      have := (idle j _ hne hjt).1
      rw [hit'] at this; cases this
    · intro u' w' v' e'
      have := (idle j tj hne h0).2
      rw [e'] at this; simp [dpc] at this
  · intro h' w' v' u' hm
    simp only [setThread_hist, log_hist, List.mem_append, List.mem_singleton] at hm
    rcases hm with hm | hm
    · exact hO.g h' w' v' u' hm
    · cases hm; exact ⟨a4, a5⟩
  · exact hO.hsorted
  · exact hO.qs
  · exact hO.qn

theorem OX.dispatch {s : State} {ti : Nat} {t : Thread} (hO : OX s none) (ht : s.threads[ti]? = some t)
    {u : Nat} {w : Wid} {v : Nat} (hpc : t.pc = .dLock u w v) (t' : Thread) (hk : t'.kind = t.kind)
    (hit : t'.iter = some (u, w, v, s.handlersOf w)) :
    OX ((s.log (.dispatch u w (s.handlersOf w))).setThread ti t') (some ti) := by
  obtain ⟨p1, p2, p3⟩ := hO.op ti t (by simp) ht u w v hpc
  have hkt : t.kind = .dispatcher := hO.kd ti t ht (Or.inr (by rw [hpc]; rfl))
  apply OX.setThreadMine ((hO.weaken ti).log _ rfl)
  · intro _; rw [hk]; exact hkt
  · intro u' w' v' r e
    rw [hit] at e; cases e
    refine ⟨hO.hsorted w, ?_, ?_, p2, p3⟩
    · intro h hm u' hu'
      simp only [log_hist, callUids_snoc (o := .dispatch u w (s.handlersOf w)) rfl] at hu'
      obtain ⟨w', v', hc⟩ := mem_callUids.mp hu'
      exact p1 h w' v' u' hc
    · intro h w' v' u' hm
      exact Nat.le_of_lt (p1 h w' v' u' (mem_snoc_call (o := .dispatch u w (s.handlersOf w)) rfl hm))

theorem OX.setThreadSame {s : State} {ti : Nat} {t : Thread} (hO : OX s (some ti)) (ht : s.threads[ti]? = some t)
    (t' : Thread) (e1 : t'.iter = t.iter) (e2 : t'.pc = t.pc) (e3 : t'.kind = t.kind) :
    OX (s.setThread ti t') (some ti) :=
  hO.setThreadMine t' ((hO.kd ti t ht).of_same e2 e1 e3) ((hO.oi ti t ht).of_iter e1)

theorem OC.closeUpd {s : State} {ti : Nat} (hC : OC s (some ti)) (f : Thread → Thread)
    (h1 : ∀ t, dpc (f t).pc = false) (h2 : ∀ t, (f t).iter = t.iter ∨ (f t).iter = none)
    (h3 : ∀ t, (f t).kind = t.kind) : OC (s.updThread ti f) none :=
  hC.map (KP.updThread _ _ _ h3) (fun _ hO => hO.closeUpd f h1 h2 h3)

theorem OC.frame {s s' : State} {x : Option Nat} (hC : OC s x) (hh : s'.hist = s.hist) (ht : s'.threads = s.threads)
    (hq : s'.queue = s.queue) (hn : s'.nextUid = s.nextUid) (hH : ∀ w, s'.handlersOf w = s.handlersOf w) :
    OC s' x :=
  hC.map (KP.of_eq ht) (fun _ hO => hO.frame hh ht hq hn hH)

theorem OC.hist_step {s s' : State} {x : Option Nat} {o : Obs} (hC : OC s x) (hh : s'.hist = s.hist ++ [o])
    (ht : s'.threads = s.threads) (hq : s'.queue = s.queue) (hn : s'.nextUid = s.nextUid)
    (hH : HSorted s.handlers → HSorted s'.handlers) (ho : notCall o = true) : OC s' x :=
  hC.map (KP.of_eq ht) (fun _ hO => hO.hist_step hh ht hq hn (hH hO.hsorted) ho)

theorem OC.release {s : State} {x : Option Nat} (hC : OC s x) : OC s.release x :=
  hC.map (KP.of_eq (by simp)) (fun _ hO => hO.release)

theorem OC.updEm {s : State} {x : Option Nat} (hC : OC s x) (e : Eid) (f : EmObj → EmObj) : OC (s.updEm e f) x :=
  hC.map (KP.of_eq (by simp)) (fun _ hO => hO.updEm e f)

theorem OC.foldUpdEm {s : State} {x : Option Nat} (hC : OC s x) (l : List Eid) (f : EmObj → EmObj) :
    OC (l.foldl (fun acc e => acc.updEm e f) s) x :=
  foldUpdEm_ind (P := (OC · x)) f (fun _ e h => h.updEm e f) hC l

theorem OC.spawn {s : State} {x : Option Nat} (hC : OC s x) (b : String) (k : Kind) : OC (s.spawn b k).1 x :=
  hC.map (KP.spawn s b k) (fun _ hO => hO.spawn b k)

theorem OC.log {s : State} {x : Option Nat} (hC : OC s x) (o : Obs) (ho : notCall o = true) : OC (s.log o) x :=
  hC.map (KP.of_eq rfl) (fun _ hO => hO.log o ho)

theorem OC.setThreadSame {s : State} {ti : Nat} {t : Thread} (hC : OC s (some ti)) (ht : s.threads[ti]? = some t)
    (t' : Thread) (e1 : t'.iter = t.iter) (e2 : t'.pc = t.pc) (e3 : t'.kind = t.kind) :
    OC (s.setThread ti t') (some ti) :=
  hC.map (KP.setThread ht t' e3) (fun _ hO => hO.setThreadSame ht t' e1 e2 e3)

theorem OC.closeThread {s : State} {ti : Nat} {t : Thread} (hC : OC s (some ti)) (ht : s.threads[ti]? = some t)
    (t' : Thread) (h1 : dpc t'.pc = false) (h2 : t'.iter = t.iter ∨ t'.iter = none) (h3 : t'.kind = t.kind) :
    OC (s.setThread ti t') none :=
  hC.map (KP.setThread ht t' h3) (fun _ hO => hO.closeThread ht t' h1 h2 h3)

theorem OC.putItem {s : State} {x : Option Nat} (hC : OC s x) (mk : Nat → QItem) (onEnq : Nat → Obs) (onDrop : Obs)
    (h1 : notCall onDrop = true) (h2 : notCall (onEnq s.nextUid) = true)
    (hmk : mk s.nextUid = .stop ∨ ∃ w v, mk s.nextUid = .ev s.nextUid w v) :
    OC (s.putItem mk onEnq onDrop) x :=
  hC.map (KP.putItem s mk onEnq onDrop) (fun _ hO => hO.putItem mk onEnq onDrop h1 h2 hmk)

theorem OC.weaken {s : State} (hC : OC s none) (ti : Nat) : OC s (some ti) :=
  hC.map (KP.refl s) (fun _ hO => hO.weaken ti)

theorem OX.init (clients : List (List Op)) (cbs : List (Hid × List (List Op))) (emit : List (Wid × List Nat)) :
    OX (init clients cbs emit) none :=
  ⟨Good.nil _, fun _ _ hj => KD.fresh (init_thread hj).1 (init_thread hj).2.1, fun _ _ hj => OI.of_none (init_thread hj).2.1,
   fun _ _ _ hj _ _ _ e => (nomatch (init_thread hj).1.symm.trans e), fun _ _ _ _ hm => (nomatch hm),
   fun _ => List.Pairwise.nil, List.Pairwise.nil, fun _ hu => (nomatch hu)⟩

theorem goodO_call_pairwise {hist : List Obs} (hg : Good GoodAtO hist) (h : Hid) :
    (callUids h hist).Pairwise (· < ·) := by
  refine hg.filterMap_pairwise (fun p o u hG e => ?_)
  cases o with
  | call h' w v u' =>
    change (if h' = h then some u' else none) = some u at e
    by_cases hh : h' = h
    · rw [if_pos hh] at e; cases e; rw [← hh]; exact hG
    · rw [if_neg hh] at e; cases e
  | _ => cases e

theorem oneD_of_count {s : State} (h : (s.threads.filter (fun t => t.kind == .dispatcher)).length ≤ 1) : oneD s := by
  intro i j hi hj
  obtain ⟨a, ha, ka⟩ := kinds_get_some hi
  obtain ⟨b, hb, kb⟩ := kinds_get_some hj
  exact (filter_length_le_one_iff _ _).mp h i j a b ha hb (beq_iff_eq.mpr ka) (beq_iff_eq.mpr kb)

end WD.ProofsObs
