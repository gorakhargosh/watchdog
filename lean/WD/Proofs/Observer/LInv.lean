/- lock discipline and "a removing call returns only when its handlers are unregistered" -/
import WD.Proofs.Observer.Inv1
namespace WD.ProofsObs
open WD WD.Obs

def holdsPc : Pc → Bool
  | .schedStarted .. => true
  | .unschedJoin .. => true
  | .uallJoin .. => true
  | _ => false

def idepth (t : Thread) : Nat := if t.iter.isSome then 1 else 0
def depth (t : Thread) : Nat := (if holdsPc t.pc then 1 else 0) + idepth t

/-- what the program counter says about the call in progress (and, inside a join, about the registry) -/
def CurOK (hist : List Obs) : Pc → Option Op → Prop
  | .acq op, c => c = some op
  | .schedStarted h w _, c => ∃ f, c = some (.schedule h w f)
  | .unschedJoin w _, c => c = some (.unschedule w) ∧ ∀ h, registered hist h w = false
  | .uallJoin _ fs, c => c = some (if fs then .stop else .unscheduleAll) ∧ ∀ h w, registered hist h w = false
  | .startEm _, c => c = some .start
  | .startD, c => c = some .start
  | .joinD, c => c = some .join
  | _, _ => True

def noReg (o : Obs) : Bool := match o with | .reg .. => false | _ => true

theorem regStep_noReg {o : Obs} (ho : noReg o = true) (h : Hid) (w : Wid) : regStep h w false o = false := by
  cases o with
  | reg => cases ho
  | unreg | unregW => simp only [regStep, ite_self]
  | _ => rfl

theorem CurOK.mono_noReg {hist : List Obs} {o : Obs} {pc : Pc} {c : Option Op} (ho : noReg o = true)
    (h : CurOK hist pc c) : CurOK (hist ++ [o]) pc c := by
  cases pc with
  | unschedJoin w e => exact ⟨h.1, fun h' => by rw [registered_snoc, h.2 h']; exact regStep_noReg ho _ _⟩
  | uallJoin es fs => exact ⟨h.1, fun h' w' => by rw [registered_snoc, h.2 h' w']; exact regStep_noReg ho _ _⟩
  | _ => exact h

theorem CurOK.of_not_holds {hist hist' : List Obs} {pc : Pc} {c : Option Op} (hp : holdsPc pc = false)
    (h : CurOK hist pc c) : CurOK hist' pc c := by
  cases pc <;> first | exact h | cases hp

structure TQ (s : State) (j : Nat) (t : Thread) : Prop where
  lock : 0 < depth t → s.lockOwner = some j ∧ s.lockCount = depth t
  cur : CurOK s.hist t.pc t.cur

theorem TQ.frame {s s' : State} {j : Nat} {t : Thread} (h : TQ s j t) (hlo : s'.lockOwner = s.lockOwner)
    (hlc : s'.lockCount = s.lockCount) (hh : s'.hist = s.hist) : TQ s' j t :=
  ⟨by rw [hlo, hlc]; exact h.lock, by rw [hh]; exact h.cur⟩

theorem depth_of_same {t t' : Thread} (hpc : t'.pc = t.pc) (hit : t'.iter = t.iter) : depth t' = depth t := by
  unfold depth idepth; rw [hpc, hit]

theorem TQ.of_same {s : State} {j : Nat} {t t' : Thread} (h : TQ s j t) (hpc : t'.pc = t.pc) (hit : t'.iter = t.iter)
    (hc : t'.cur = t.cur) : TQ s j t' :=
  ⟨by rw [depth_of_same hpc hit]; exact h.lock, by rw [hpc, hc]; exact h.cur⟩

theorem TQ.fresh {s : State} {j : Nat} {t : Thread} (hpc : t.pc = .begin) (hit : t.iter = none) : TQ s j t :=
  ⟨fun h => by unfold depth idepth at h; rw [hpc, hit] at h; exact absurd h (Nat.lt_irrefl 0), by rw [hpc]; trivial⟩

def GoodAtL (p : List Obs) : Obs → Prop
  | .did op res => res = "ok" → ∀ h w, removes op h w = true → registered p h w = false
  | _ => True

/-- the invariant while thread `ti` is in the middle of a step, holding the lock `d` times -/
structure LX (s : State) (ti : Nat) (d : Nat) : Prop where
  good : Good GoodAtL s.hist
  others : ∀ (j : Nat) (t : Thread), j ≠ ti → s.threads[j]? = some t → TQ s j t
  mine : (d = 0 → s.lockOwner ≠ some ti) ∧ (0 < d → s.lockOwner = some ti ∧ s.lockCount = d)
  own : ∀ j : Nat, j ≠ ti → s.lockOwner = some j → ∃ t, s.threads[j]? = some t ∧ 0 < depth t

/-- the invariant between steps -/
structure LQ (s : State) : Prop where
  good : Good GoodAtL s.hist
  thr : ∀ (j : Nat) (t : Thread), s.threads[j]? = some t → TQ s j t
  own : ∀ j : Nat, s.lockOwner = some j → ∃ t, s.threads[j]? = some t ∧ 0 < depth t

theorem LX.others_idle {s : State} {ti d : Nat} (hL : LX s ti d) (hd : 0 < d) {j : Nat} {t : Thread}
    (hj : j ≠ ti) (ht : s.threads[j]? = some t) : depth t = 0 := by
  cases hdt : depth t with
  | zero => rfl
  | succ n =>
    have h1 := ((hL.others j t hj ht).lock (by omega)).1
    have h2 := (hL.mine.2 hd).1
    rw [h1] at h2; cases h2; exact absurd rfl hj

/-- while `ti` holds the lock the other threads hold nothing, so what is known of them does not depend on the lock -/
theorem LX.others_any {s s' : State} {ti d : Nat} (hL : LX s ti d) (hd : 0 < d) {j : Nat}
    {t : Thread} (hj : j ≠ ti) (ht : s.threads[j]? = some t) (hh : s'.hist = s.hist) : TQ s' j t :=
  ⟨fun h => absurd h (by rw [hL.others_idle hd hj ht]; exact Nat.lt_irrefl 0), by rw [hh]; exact (hL.others j t hj ht).cur⟩

theorem depth_zero_holds {t : Thread} (h : depth t = 0) : holdsPc t.pc = false := by
  unfold depth at h
  cases hp : holdsPc t.pc <;> simp_all

theorem LX.frame {s s' : State} {ti d : Nat} (hL : LX s ti d) (hh : s'.hist = s.hist) (ht : s'.threads = s.threads)
    (hlo : s'.lockOwner = s.lockOwner) (hlc : s'.lockCount = s.lockCount) : LX s' ti d :=
  ⟨by rw [hh]; exact hL.good, fun j t hj hjt => (hL.others j t hj (ht ▸ hjt)).frame hlo hlc hh,
   by rw [hlo, hlc]; exact hL.mine, by rw [hlo, ht]; exact hL.own⟩

theorem LX.touch {s : State} {ti d : Nat} (hL : LX s ti d) (w : Wid) :
    LX (if (alookup w s.handlers).isNone then { s with handlers := ainsert w [] s.handlers } else s) ti d := by
  split
  · exact hL.frame rfl rfl rfl rfl
  · exact hL

theorem LX.hist_step {s s' : State} {ti d : Nat} {o : Obs} (hL : LX s ti d) (hh : s'.hist = s.hist ++ [o])
    (ht : s'.threads = s.threads) (hlo : s'.lockOwner = s.lockOwner) (hlc : s'.lockCount = s.lockCount)
    (hg : GoodAtL s.hist o) (ho : noReg o = true ∨ 0 < d) : LX s' ti d := by
  constructor
  · rw [hh]; exact hL.good.snoc hg
  · intro j t hj hjt
    rw [ht] at hjt
    have := hL.others j t hj hjt
    refine ⟨by rw [hlo, hlc]; exact this.lock, ?_⟩
    rw [hh]
    rcases ho with ho | ho
    · exact this.cur.mono_noReg ho
    · exact this.cur.of_not_holds (depth_zero_holds (hL.others_idle ho hj hjt))
  · rw [hlo, hlc]; exact hL.mine
  · rw [hlo, ht]; exact hL.own

theorem LX.log {s : State} {ti d : Nat} (hL : LX s ti d) (o : Obs) (hg : GoodAtL s.hist o)
    (ho : noReg o = true ∨ 0 < d) : LX (s.log o) ti d :=
  hL.hist_step rfl rfl rfl rfl hg ho

theorem LX.setThreadMine {s : State} {ti d : Nat} (hL : LX s ti d) (t' : Thread) : LX (s.setThread ti t') ti d :=
  ⟨hL.good, threads_set_ne (fun j t hj hjt => (hL.others j t hj hjt).frame rfl rfl rfl), hL.mine,
   fun j hj hjo => (hL.own j hj hjo).imp (fun _ h => ⟨(getElem?_set_ne' _ _ _ _ hj).trans h.1, h.2⟩)⟩

theorem LX.updThread_same {s : State} {ti d : Nat} (hL : LX s ti d) (k : Nat) (f : Thread → Thread)
    (hf : ∀ t, (f t).pc = t.pc ∧ (f t).iter = t.iter ∧ (f t).cur = t.cur) : LX (s.updThread k f) ti d := by
  rw [updThread_eq]
  split
  · rename_i tk htk
    refine ⟨hL.good, threads_set_of (fun j t hj hjt => (hL.others j t hj hjt).frame rfl rfl rfl)
      (fun hk => ((hL.others k tk hk htk).of_same (hf tk).1 (hf tk).2.1 (hf tk).2.2).frame rfl rfl rfl), hL.mine, ?_⟩
    intro j hj hjo
    obtain ⟨t, h1, h2⟩ := hL.own j hj hjo
    by_cases e : j = k
    · subst e
      rw [htk] at h1; cases h1
      exact ⟨f tk, getElem?_set_self' _ htk, by rw [depth_of_same (hf tk).1 (hf tk).2.1]; exact h2⟩
    · exact ⟨t, (getElem?_set_ne' _ _ _ _ e).trans h1, h2⟩
  · exact hL

theorem LX.release {s : State} {ti k : Nat} (hL : LX s ti (k + 1)) : LX s.release ti k := by
  obtain ⟨ho, hc⟩ := hL.mine.2 (Nat.succ_pos k)
  unfold State.release
  split
  · rename_i hle
    have hk : k = 0 := by rw [hc] at hle; exact Nat.le_zero.mp (Nat.le_of_succ_le_succ hle)
    subst hk
    exact ⟨hL.good, fun j t hj hjt => hL.others_any (Nat.succ_pos 0) hj hjt rfl,
      ⟨fun _ h => (nomatch h), fun h => absurd h (Nat.lt_irrefl 0)⟩, fun j hj hjo => (nomatch hjo)⟩
  · rename_i hle
    exact ⟨hL.good, fun j t hj hjt => hL.others_any (Nat.succ_pos k) hj hjt rfl,
      ⟨fun h => by omega, fun _ => ⟨ho, show s.lockCount - 1 = k by rw [hc]; rfl⟩⟩, hL.own⟩

theorem LX.acquire {s : State} {ti d : Nat} (hL : LX s ti d) (ho : s.lockOwner = some ti) :
    LX { s with lockCount := s.lockCount + 1 } ti (d + 1) := by
  have hd : 0 < d := Nat.pos_of_ne_zero (fun e => hL.mine.1 e ho)
  obtain ⟨_, hc⟩ := hL.mine.2 hd
  exact ⟨hL.good, fun j t hj hjt => hL.others_any hd hj hjt rfl,
    ⟨fun h => (nomatch h), fun _ => ⟨ho, show s.lockCount + 1 = d + 1 by rw [hc]⟩⟩, hL.own⟩

theorem LX.spawn {s : State} {ti d : Nat} (hL : LX s ti d) (b : String) (k : Kind) : LX (s.spawn b k).1 ti d :=
  ⟨hL.good, threads_spawn_of (fun j t hj hjt => (hL.others j t hj hjt).frame rfl rfl rfl) (fun _ => TQ.fresh rfl rfl),
   hL.mine, fun j hj hjo => (hL.own j hj hjo).imp (fun _ h => ⟨spawn_thread? b k h.1, h.2⟩)⟩

theorem LX.close {s : State} {ti d : Nat} {t : Thread} (hL : LX s ti d) (ht : s.thread? ti = some t) (t' : Thread)
    (hd : depth t' = d) (hc : CurOK s.hist t'.pc t'.cur) : LQ (s.setThread ti t') := by
  refine ⟨hL.good, fun j tj hj => ?_, fun j hjo => ?_⟩
  · rcases getElem?_set_cases hj with ⟨e1, e⟩ | ⟨hne, h⟩
    · rw [e, e1]; exact ⟨fun h => by rw [hd] at h ⊢; exact hL.mine.2 h, hc⟩
    · exact (hL.others j tj hne h).frame rfl rfl rfl
  · by_cases e : j = ti
    · subst e
      refine ⟨t', getElem?_set_self' t' ht, ?_⟩
      rw [hd]
      cases d with
      | zero => exact absurd hjo (hL.mine.1 rfl)
      | succ n => exact Nat.succ_pos n
    · exact (hL.own j e hjo).imp (fun tj h => ⟨(getElem?_set_ne' _ _ _ _ e).trans h.1, h.2⟩)

theorem LX.closeUpd {s : State} {ti d : Nat} {t : Thread} (hL : LX s ti d) (ht : s.thread? ti = some t)
    (f : Thread → Thread) (hd : depth (f t) = d) (hc : CurOK s.hist (f t).pc (f t).cur) : LQ (s.updThread ti f) := by
  have ht' : s.threads[ti]? = some t := ht
  rw [updThread_eq, ht']
  exact hL.close ht _ hd hc

theorem LQ.open {s : State} (hQ : LQ s) {ti : Nat} {t : Thread} (ht : s.thread? ti = some t) : LX s ti (depth t) := by
  have ht' : s.threads[ti]? = some t := ht
  constructor
  · exact hQ.good
  · intro j tj _ hj; exact hQ.thr j tj hj
  · refine ⟨fun h0 ho => ?_, fun h => (hQ.thr ti t ht').lock h⟩
    obtain ⟨t2, h1, h2⟩ := hQ.own ti ho
    rw [ht'] at h1; cases h1; omega
  · intro j _ hjo; exact hQ.own j hjo

theorem LX.putItem {s : State} {ti d : Nat} (hL : LX s ti d) (mk : Nat → QItem) (onEnq : Nat → Obs) (onDrop : Obs)
    (h1 : noReg onDrop = true) (h2 : noReg (onEnq s.nextUid) = true) (g1 : GoodAtL s.hist onDrop)
    (g2 : GoodAtL s.hist (onEnq s.nextUid)) : LX (s.putItem mk onEnq onDrop) ti d :=
  putItem_ind (P := fun s' => LX s' ti d) s mk onEnq onDrop (hL.log _ g1 (Or.inl h1))
    (hL.hist_step (o := onEnq s.nextUid) rfl rfl rfl rfl g2 (Or.inl h2))
    (fun _ k h => h.updThread_same k notif notif_same)

theorem LX.updEm {s : State} {ti d : Nat} (hL : LX s ti d) (e : Eid) (f : EmObj → EmObj) : LX (s.updEm e f) ti d :=
  hL.frame (updEm_hist s e f) (updEm_threads s e f) (updEm_lockOwner s e f) (updEm_lockCount s e f)

theorem LX.foldUpdEm {s : State} {ti d : Nat} (hL : LX s ti d) (l : List Eid) (f : EmObj → EmObj) :
    LX (l.foldl (fun acc e => acc.updEm e f) s) ti d :=
  foldUpdEm_ind (P := (LX · ti d)) f (fun _ e h => h.updEm e f) hL l

/-- the raising callback / client: every `with self._lock` of the thread is unwound -/
theorem LX.raise {s : State} {ti d : Nat} {t : Thread} (hL : LX s ti d) (ht : s.thread? ti = some t) (o : Obs)
    (hno : noReg o = true) (hg : GoodAtL s.hist o) (t' : Thread) (hd : depth t' = 0)
    (hc : CurOK (s.hist ++ [o]) t'.pc t'.cur) :
    LQ (((if s.lockOwner = some ti then ({ s with lockOwner := none, lockCount := 0 } : State) else s).log o).setThread ti t') := by
  generalize hs1 : (if s.lockOwner = some ti then ({ s with lockOwner := none, lockCount := 0 } : State) else s) = s1
  have h1 : LX s1 ti 0 := by
    subst hs1; split
    · rename_i ho
      have hd0 : 0 < d := Nat.pos_of_ne_zero (fun e => hL.mine.1 e ho)
      exact ⟨hL.good, fun j tj hj hjt => hL.others_any hd0 hj hjt rfl,
        ⟨fun _ h => (nomatch h), fun h => absurd h (Nat.lt_irrefl 0)⟩, fun j hj hjo => (nomatch hjo)⟩
    · rename_i ho
      cases d with
      | zero => exact hL
      | succ n => exact absurd (hL.mine.2 (Nat.succ_pos n)).1 ho
  have h2 : s1.hist = s.hist := by subst hs1; split <;> rfl
  have h3 : s1.thread? ti = some t := by subst hs1; split <;> exact ht
  refine (h1.log o (by rw [h2]; exact hg) (Or.inl hno)).close (t := t) (by simpa using h3) t' hd ?_
  simp only [log_hist, h2]; exact hc

theorem LQ.depth_zero_of_free {s : State} (hQ : LQ s) {j : Nat} {t : Thread} (hj : s.threads[j]? = some t)
    (hn : s.lockOwner = none) : depth t = 0 := by
  cases hd : depth t with
  | zero => rfl
  | succ n =>
    have := ((hQ.thr j t hj).lock (by omega)).1
    rw [hn] at this; cases this

theorem LQ.take {s : State} (hQ : LQ s) (ti : Nat) (hn : s.lockOwner = none) :
    LX { s with lockOwner := some ti, lockCount := 1 } ti 1 := by
  constructor
  · exact hQ.good
  · intro j t hj hjt
    have hz := hQ.depth_zero_of_free hjt hn
    exact ⟨fun h => by omega, (hQ.thr j t hjt).cur⟩
  · exact ⟨fun h => by omega, fun _ => ⟨rfl, rfl⟩⟩
  · intro j hj hjo
    cases hjo; exact absurd rfl hj

theorem LQ.init (clients : List (List Op)) (cbs : List (Hid × List (List Op))) (emit : List (Wid × List Nat)) :
    LQ (init clients cbs emit) :=
  ⟨Good.nil _, fun _ _ hj => TQ.fresh (init_thread hj).1 (init_thread hj).2.1, fun _ hj => (nomatch hj)⟩

theorem idepth_none {t : Thread} (h : t.iter = none) : idepth t = 0 := by simp [idepth, h]

theorem depth_of_not_holds {t : Thread} (h : holdsPc t.pc = false) : depth t = idepth t := by simp [depth, h]

theorem depth_of_holds {t : Thread} (h : holdsPc t.pc = true) : depth t = idepth t + 1 := by
  simp [depth, h]; omega

theorem notok {P : Prop} {r : String} (h : r ≠ "ok") : r = "ok" → P := fun e => absurd e h

end WD.ProofsObs
