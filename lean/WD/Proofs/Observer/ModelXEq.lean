/- the instrumented functions agree with the model's whenever they return a state -/
import WD.Proofs.Observer.ModelX
namespace WD.ProofsObs
open WD WD.Obs

/- Each clause: split on what the two bodies branch on, for both at once (`cases h : d` abstracts `d` in the whole goal,
   `split` decides an `if` on both sides), until each side is a tail call or a result. -/

theorem eqX_d (ti : Nat) : ∀ fuel,
    (∀ s s', dLoopX fuel s ti = some s' → dLoop fuel s ti = s') ∧
    (∀ s s', dGetX fuel s ti = some s' → dGet fuel s ti = s') := by
  intro fuel
  induction fuel with
  | zero =>
    refine ⟨?_, ?_⟩
    · intro s s' h; cases h
    · intro s s' h; cases h
  | succ n ih =>
    refine ⟨fun s s' => ?_, fun s s' => ?_⟩
    · unfold dLoopX dLoop
      split
      · intro h; cases h; rfl
      · exact ih.2 _ _
    · unfold dGetX dGet
      cases hq : s.queue <;> dsimp only
      · intro h; cases h; rfl
      · rename_i item rest
        cases item <;> dsimp only
        · intro h; cases h; rfl
        · exact ih.1 _ _

structure AllEq (fuel : Nat) : Prop where
  fin : ∀ s ti res s', finishOpX fuel s ti res = some s' → finishOp fuel s ti res = s'
  nxt : ∀ s ti s', nextOpX fuel s ti = some s' → nextOp fuel s ti = s'
  sta : ∀ s ti op s', startOpX fuel s ti op = some s' → startOp fuel s ti op = s'
  ent : ∀ s ti op s', enterLockedX fuel s ti op = some s' → enterLocked fuel s ti op = s'
  lck : ∀ s ti op s', lockedX fuel s ti op = some s' → locked fuel s ti op = s'
  sfin : ∀ s ti h w e s', schedFinishX fuel s ti h w e = some s' → schedFinish fuel s ti h w e = s'
  ufin : ∀ s ti w s', unschedFinishX fuel s ti w = some s' → unschedFinish fuel s ti w = s'
  uab : ∀ s ti b s', uallBodyX fuel s ti b = some s' → uallBody fuel s ti b = s'
  uajn : ∀ s ti es b s', uallJoinNextX fuel s ti es b = some s' → uallJoinNext fuel s ti es b = s'
  stem : ∀ s ti es s', startEmittersX fuel s ti es = some s' → startEmitters fuel s ti es = s'
  cit : ∀ s ti s', continueIterX fuel s ti = some s' → continueIter fuel s ti = s'

theorem allEq : ∀ fuel, AllEq fuel := by
  intro fuel
  induction fuel with
  | zero =>
    constructor
    · intro s ti res s' h; exact nomatch h
    · intro s ti s' h; exact nomatch h
    · intro s ti op s' h; exact nomatch h
    · intro s ti op s' h; exact nomatch h
    · intro s ti op s' h; exact nomatch h
    · intro s ti h0 w e s' h; exact nomatch h
    · intro s ti w s' h; exact nomatch h
    · intro s ti b s' h; exact nomatch h
    · intro s ti es b s' h; exact nomatch h
    · intro s ti es s' h; exact nomatch h
    · intro s ti s' h; exact nomatch h
  | succ n ih =>
    constructor
    · intro s ti res s'
      unfold finishOpX finishOp
      cases ht : s.thread? ti <;> dsimp only
      · intro h; cases h
      · exact ih.nxt _ _ _
    · intro s ti s'
      unfold nextOpX nextOp
      cases ht : s.thread? ti <;> dsimp only
      · intro h; cases h
      · rename_i t
        cases ho : t.ops <;> dsimp only
        · cases hk : t.kind <;> dsimp only
          · intro h; cases h; rfl
          · exact ih.cit _ _ _
          · intro h; cases h; rfl
        · exact ih.sta _ _ _ _
    · intro s ti op s'
      unfold startOpX startOp
      cases op <;> dsimp only
      case start =>
        split
        · exact ih.fin _ _ _ _
        · exact ih.stem _ _ _ _
      case join =>
        cases hd : s.dIdx <;> dsimp only
        · exact ih.fin _ _ _ _
        · split
          · exact ih.fin _ _ _ _
          · intro h; cases h; rfl
      case raiseExc =>
        cases ht : s.thread? ti <;> dsimp only
        · intro h; cases h
        · intro h; cases h; rfl
      all_goals exact ih.ent _ _ _ _
    · intro s ti op s'
      unfold enterLockedX enterLocked
      split
      · exact ih.lck _ _ _ _
      · intro h; cases h; rfl
    · intro s ti op s'
      unfold lockedX locked
      cases op <;> dsimp only
      case schedule h w f =>
        cases he : s.emitterOf w <;> dsimp only
        · split
          · exact ih.fin _ _ _ _
          · split
            · split
              · exact ih.fin _ _ _ _
              · intro h; cases h; rfl
            · exact ih.sfin _ _ _ _ _ _
        · exact ih.fin _ _ _ _
      case unschedule w =>
        cases he : s.emitterOf w <;> dsimp only
        · exact ih.fin _ _ _ _
        · split
          · exact ih.fin _ _ _ _
          · rename_i e _
            cases ((((({ s with handlers := aerase w s.handlers, regEm := s.regEm.filter (· != e) } : State).log (.unregW w)).updEm e
              (fun o => { o with stopped := true })).em? e).bind (·.tidx)) <;> dsimp only
            · exact ih.ufin _ _ _ _
            · intro h; cases h; rfl
      case addHandler h w => exact ih.fin _ _ _ _
      case removeHandler h w =>
        split
        · exact ih.fin _ _ _ _
        · exact ih.fin _ _ _ _
      case unscheduleAll => exact ih.uab _ _ _ _
      case stop => exact ih.uab _ _ _ _
      all_goals intro h; cases h
    · intro s ti h0 w e s'
      unfold schedFinishX schedFinish
      exact ih.fin _ _ _ _
    · intro s ti w s'
      unfold unschedFinishX unschedFinish
      split
      · exact ih.fin _ _ _ _
      · exact ih.fin _ _ _ _
    · intro s ti b s'
      unfold uallBodyX uallBody
      exact ih.uajn _ _ _ _ _
    · intro s ti es b s'
      unfold uallJoinNextX uallJoinNext
      cases es <;> dsimp only
      · split
        · exact ih.fin _ _ _ _
        · exact ih.fin _ _ _ _
      · split
        · intro h; cases h; rfl
        · exact ih.uajn _ _ _ _ _
    · intro s ti es s'
      unfold startEmittersX startEmitters
      cases es <;> dsimp only
      · intro h; cases h; rfl
      · rename_i e rest
        cases s.em? e <;> dsimp only
        · intro h; cases h
        · intro h; cases h; rfl
    · intro s ti s'
      unfold continueIterX continueIter
      cases ht : s.thread? ti <;> dsimp only
      · intro h; cases h
      · rename_i t
        cases hi : t.iter <;> try dsimp only
        · intro h; cases h
        · rename_i x
          obtain ⟨u, w, v, l⟩ := x
          cases l <;> dsimp only
          · exact (eqX_d ti n).1 _ _
          · -- first the `if` inside the touched handler table, then the membership test
            split
            · split
              · exact ih.nxt _ _ _
              · exact ih.cit _ _ _
            · split
              · exact ih.nxt _ _ _
              · exact ih.cit _ _ _

theorem stepX_eq {s s' : State} {ti : Nat} (h : stepX s ti = some s') : step s ti = some s' := by
  have A := allEq FUEL
  have D := eqX_d ti FUEL
  revert h
  unfold stepX step
  generalize FUEL = F at A D
  split
  · exact id
  · cases ht : s.thread? ti <;> dsimp only
    · exact id
    · rename_i t
      cases hp : t.pc <;> try dsimp only
      case begin =>
        cases hk : t.kind <;> dsimp only
        · exact fun h => congrArg some (A.nxt _ _ _ h)
        · exact fun h => congrArg some (D.1 _ _ h)
        · exact id
      case acq op => exact fun h => congrArg some (A.lck _ _ _ _ h)
      case schedStarted h0 w e => exact fun h => congrArg some (A.sfin _ _ _ _ _ _ h)
      case unschedJoin w e => exact fun h => congrArg some (A.ufin _ _ _ _ h)
      case uallJoin es b =>
        cases es <;> dsimp only
        · exact fun h => congrArg some (A.uajn _ _ _ _ _ h)
        · exact fun h => congrArg some (A.uajn _ _ _ _ _ h)
      case startEm es => exact fun h => congrArg some (A.stem _ _ _ _ h)
      case startD => exact fun h => congrArg some (A.fin _ _ _ _ h)
      case joinD => exact fun h => congrArg some (A.fin _ _ _ _ h)
      case dWait => exact fun h => congrArg some (D.2 _ _ h)
      case dLock u w v => exact fun h => congrArg some (A.cit _ _ _ h)
      all_goals exact id

theorem run_induction {P : State → Prop} (hstep : ∀ s s' ti, P s → stepX s ti = some s' → P s') :
    ∀ (sched : List Nat) (s : State), P s → runOk s sched = true → P (run s sched) := by
  intro sched
  induction sched with
  | nil => intro s h _; exact h
  | cons ti sched ih =>
    intro s hP hok
    simp only [WD.Obs.run, List.foldl_cons]
    unfold runOk at hok
    cases hs : WD.Obs.step s ti with
    | none =>
      simp only [hs] at hok
      exact ih s hP hok
    | some s1 =>
      simp only [hs, Bool.and_eq_true] at hok
      obtain ⟨h1, h2⟩ := hok
      cases hx : stepX s ti with
      | none => simp [hx] at h1
      | some s2 =>
        have := stepX_eq hx
        rw [hs] at this; cases this
        exact ih s1 (hstep s s1 ti hP hx) h2

end WD.ProofsObs
