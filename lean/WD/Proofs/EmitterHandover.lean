/- the hand-over between an emitter's start() and a stop() that overtakes it: whatever the interleaving, once both have
   finished a created buffer has been closed.  (The starter writes the field and then reads the flag, the stopper sets
   the flag and then reads the field, so one of the two sees what the other wrote and closes the buffer.)  The protocol
   has 100 reachable states; they are computed, and what is claimed is checked on each. -/
import WD.Model.EmitterHandover
namespace WD.Hand

abbrev Good (s : St) : Prop :=
  s.sp = .done → s.tp = .done → (s.created = true → s.closed = true) ∧ s.field = false ∧ s.lost = false

def code (s : St) : Nat :=
  [s.stopped, s.created, s.closed, s.field, s.sx, s.ty, s.ident, s.again, s.lost].foldl (fun n b => 2 * n + b.toNat)
    (8 * s.sp.ctorIdx + s.tp.ctorIdx)

theorem digit_inj {k m n a b : Nat} (ha : a < k) (hb : b < k) (h : k * m + a = k * n + b) : m = n ∧ a = b := by
  have hk : 0 < k := Nat.zero_lt_of_lt ha
  have h1 := congrArg (· / k) h
  have h2 := congrArg (· % k) h
  simp only [Nat.mul_add_div hk, Nat.mul_add_mod, Nat.div_eq_of_lt, Nat.mod_eq_of_lt, ha, hb, Nat.add_zero] at h1 h2
  exact ⟨h1, h2⟩

theorem bit_inj {m n : Nat} {a b : Bool} (h : 2 * m + a.toNat = 2 * n + b.toNat) : m = n ∧ a = b :=
  have inj : ∀ a b : Bool, a.toNat = b.toNat → a = b := by decide
  ⟨(digit_inj a.toNat_lt b.toNat_lt h).1, inj a b (digit_inj a.toNat_lt b.toNat_lt h).2⟩

theorem code_inj {s t : St} (h : code s = code t) : s = t := by
  obtain ⟨sp, tp, a1, a2, a3, a4, a5, a6, a7, a8, a9⟩ := s
  obtain ⟨sp', tp', b1, b2, b3, b4, b5, b6, b7, b8, b9⟩ := t
  simp only [code, List.foldl] at h
  obtain ⟨h8, rfl⟩ := bit_inj h
  obtain ⟨h7, rfl⟩ := bit_inj h8
  obtain ⟨h6, rfl⟩ := bit_inj h7
  obtain ⟨h5, rfl⟩ := bit_inj h6
  obtain ⟨h4, rfl⟩ := bit_inj h5
  obtain ⟨h3, rfl⟩ := bit_inj h4
  obtain ⟨h2, rfl⟩ := bit_inj h3
  obtain ⟨h1, rfl⟩ := bit_inj h2
  obtain ⟨h0, rfl⟩ := bit_inj h1
  have lt8 : ∀ x : TPc, x.ctorIdx < 8 := fun x => by cases x <;> decide
  obtain ⟨hs, ht⟩ := digit_inj (lt8 tp) (lt8 tp') h0
  rw [← SPc.ofNat_ctorIdx sp, ← TPc.ofNat_ctorIdx tp, hs, ht, SPc.ofNat_ctorIdx, TPc.ofNat_ctorIdx]

/-- a list of states as a set of codes, one bit each: membership is then one look at a bit, where a search through
    the list would compare whole states -/
def mask (l : List St) : Nat := l.foldr (fun s m => 2 ^ code s ||| m) 0

theorem mem_of_testBit {l : List St} {t : St} (h : (mask l).testBit (code t) = true) : t ∈ l := by
  induction l with
  | nil => nomatch (Nat.zero_testBit _).symm.trans h
  | cons s l ih =>
    simp only [mask, List.foldr, Nat.testBit_or, Nat.testBit_two_pow, Bool.or_eq_true, decide_eq_true_eq] at h
    exact h.elim (fun h => code_inj h ▸ List.mem_cons_self) (fun h => List.mem_cons_of_mem _ (ih h))

def visit (t : St) (p : Nat × List St × List St) : Nat × List St × List St :=
  if p.1.testBit (code t) then p else (2 ^ code t ||| p.1, t :: p.2.1, t :: p.2.2)

/-- expand one found state after the other; every state is expanded once, so the fuel need only exceed their number -/
def explore : Nat → Nat × List St × List St → List St
  | n + 1, (m, found, s :: todo) => explore n (visit (step s true) (visit (step s false) (m, found, todo)))
  | _, (_, found, _) => found

def reach : List St := explore 128 (mask [init false, init true], [init false, init true], [init false, init true])

/-- the protocol is finite: one evaluation of `reach` settles the three claims together -/
theorem reach_inductive :
    (∀ b, init b ∈ reach) ∧ ∀ s ∈ reach, (∀ b, step s b ∈ reach) ∧ Good s := by
  have h : (∀ b, (mask reach).testBit (code (init b)) = true) ∧
      ∀ s ∈ reach, (∀ b, (mask reach).testBit (code (step s b)) = true) ∧ Good s := by decide +kernel
  exact ⟨fun b => mem_of_testBit (h.1 b), fun s hs => ⟨fun b => mem_of_testBit ((h.2 s hs).1 b), (h.2 s hs).2⟩⟩

theorem run_reach (sched : List Bool) : ∀ s ∈ reach, run s sched ∈ reach := by
  induction sched with
  | nil => intro s h; exact h
  | cons b rest ih => intro s h; exact ih _ ((reach_inductive.2 s h).1 b)

/-- **hand-over**: for every interleaving of the starter (which calls `start()` once or twice) and the stopper, when
    both have finished the buffer that was created has been closed, the emitter no longer refers to it, and no
    reference to a buffer was ever overwritten by a second one -/
theorem handover (again : Bool) (sched : List Bool) (h1 : (run (init again) sched).sp = .done)
    (h2 : (run (init again) sched).tp = .done) :
    ((run (init again) sched).created = true → (run (init again) sched).closed = true) ∧
      (run (init again) sched).field = false ∧ (run (init again) sched).lost = false :=
  (reach_inductive.2 _ (run_reach sched _ (reach_inductive.1 again))).2 h1 h2

/-- premises satisfiable: a double start() overtaken by the stopper in the middle -/
example : let s := run (init true) [true, true, true, true, true, false, false, false, false, true, true]
    s.sp = .done ∧ s.tp = .done ∧ s.created = true ∧ s.closed = true := by decide

/-- the defect that was repaired (D20): without the look at `ident`, a second start() overwrites the reference to
    the buffer the running thread reads, and stop() then closes the wrong one -/
def d20_final : St := List.foldl stepNoGuard (init true) (List.replicate 10 true ++ List.replicate 4 false)
example : d20_final.sp = .done ∧ d20_final.tp = .done ∧ d20_final.lost = true := by decide

/-- the defect that was repaired (D19): before, the stopper first, then the starter, left the buffer open -/
example : let s := [false, false, true, true, true].foldl stepOld ({} : St)
    s.sp = .done ∧ s.tp = .done ∧ s.created = true ∧ s.closed = false := by decide

end WD.Hand
