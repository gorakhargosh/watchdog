/- the statements behind WD.Props.C18 (auto-restart part): what the invariants of WD.Proofs.Restart.Step say of a
   reachable state -/
import WD.Proofs.Restart.Step
namespace WD.ProofsRst
open WD.Rst

section reach
variable {s : State} (r : Reach s)
include r

theorem Reach.one_child (p q : Nat) (hp : s.aliveP p = true) (hq : s.aliveP q = true) : p = q := by
  have h := r.inv.glob.dead
  by_cases e1 : s.process = some p
  · by_cases e2 : s.process = some q
    · rw [e1] at e2; cases e2; rfl
    · rw [h q e2] at hq; cases hq
  · rw [h p e1] at hp; cases hp

theorem Reach.lock_exclusive (i j : Nat) (ti tj : Thread) (hi : s.threads[i]? = some ti) (hhi : holds ti.pc = true)
    (hj : s.threads[j]? = some tj) (hhj : holds tj.pc = true) : i = j := by
  have a := (r.inv.pcs i ti.pc (pcOf_eq _ _ _ hi)).1 hhi
  have b := (r.inv.pcs j tj.pc (pcOf_eq _ _ _ hj)).1 hhj
  rw [a] at b; cases b; rfl

theorem Reach.sleeping_has_process (i : Nat) (ti : Thread) (hi : s.threads[i]? = some ti) (hs : isSleep ti.pc = true) :
    s.process ≠ none :=
  (r.inv.pcs i ti.pc (pcOf_eq _ _ _ hi)).2.1 hs

/-- once the working stop() has returned, every watcher thread has been told to stop (it leaves its poll loop at its
    next step and starts nothing: `no_spawn_after_stop`), and the trick references no watcher and no child any more -/
theorem Reach.watchers_stopped (tid t : Nat) (h : Obs.stopRet tid t ∈ s.hist) :
    s.watcher = none ∧ s.process = none ∧
    ∀ (j : Nat) (th : Thread), s.threads[j]? = some th → isWatcher th.kind = true → th.stopFlag = true := by
  have hp := (r.inv.glob.ret ⟨_, h, rfl⟩).2
  have hw := r.wat.pnone hp
  refine ⟨hw, hp, ?_⟩
  intro j th hth hk
  rcases r.wat.flag j th hth hk with e | e
  · rw [hw] at e; cases e
  · exact e

theorem Reach.debouncer_gone (tid t : Nat) (h : Obs.stopRet tid t ∈ s.hist) (j : Nat) (th : Thread)
    (hth : s.threads[j]? = some th) (hd : isDeb th.kind = true) : th.pc = .done :=
  r.deb.gone (Or.inr ⟨_, h, rfl⟩) j th.kind th.pc (by simp) (by simp [kp, hth]) hd

theorem Reach.one_debouncer (j : Nat) (th : Thread) (hth : s.threads[j]? = some th) (hd : isDeb th.kind = true) :
    s.debTid = some j :=
  r.deb.uniq j th.kind th.pc (by simp [kp, hth]) hd

/-- **all helper threads gone, the process watchers**: once the working `stop()` has returned, every watcher thread the
    trick ever started has ended (the current one and every one an earlier restart replaced) -/
theorem Reach.watchers_gone (tid tm : Nat) (h : Obs.stopRet tid tm ∈ s.hist) (j : Nat) (th : Thread)
    (hth : s.threads[j]? = some th) (hk : isWatcher th.kind = true) : th.pc = .done := by
  have hn := r.ji.ret ⟨_, h, rfl⟩ j
  cases hkk : th.kind with
  | client => rw [hkk] at hk; cases hk
  | deb => rw [hkk] at hk; cases hk
  | watcher pid =>
    apply Classical.byContradiction
    intro hnd
    exact hn ⟨pid, th.pc, by simp [kp, hth, hkk], hnd⟩

/-- while a `stop()` is on its way past the restart lock, the watchers it will join include every watcher thread that
    has not ended -/
theorem Reach.stop_carries_all_live_watchers (i : Nat) (t : Thread) (ht : s.threads[i]? = some t)
    (hc : carries t.pc = true) (u : Nat) (tu : Thread) (hu : s.threads[u]? = some tu) (hk : isWatcher tu.kind = true)
    (hnd : tu.pc ≠ .done) : u ∈ carried t.pc := by
  cases hkk : tu.kind with
  | client => rw [hkk] at hk; cases hk
  | deb => rw [hkk] at hk; cases hk
  | watcher pid =>
    exact r.ji.cc i t.kind t.pc (by simp) (by simp [kp, ht]) hc u ⟨pid, tu.pc, by simp [kp, hu, hkk], hnd⟩

/-- **no deadlock on the two locks**: whenever some thread is waiting for `_restart_lock` or `_stopping_lock`, some thread
    can take a step or the lock's holder sleeps in the kill loop with a deadline pending -/
theorem Reach.lock_wait_progress (j : Nat) (t : Thread) (ht : s.threads[j]? = some t)
    (hw : waitsS t.pc = true ∨ waitsR t.pc = true) : CanMove s := by
  rcases hw with h | h
  · exact Or.inl (waitS_progress _ j t ht h)
  · exact waitR_progress r.inv j t ht h

end reach

variable (cfg : Cfg) (lifetimes : List (Option Nat)) (scripts : List (List Op)) (as : List Action)

theorem no_child_after_stop (tid t : Nat) (h : Obs.stopRet tid t ∈ (run (init cfg lifetimes scripts) as).hist)
    (pid : Nat) : (run (init cfg lifetimes scripts) as).aliveP pid = false := by
  have inv := (reach_run cfg lifetimes scripts as).inv
  have := (inv.glob.ret ⟨_, h, rfl⟩).2
  exact inv.glob.dead pid (by rw [this]; simp)

theorem no_spawn_after_stop (p q : List Obs) (tid t pid t' : Nat)
    (h : (run (init cfg lifetimes scripts) as).hist = p ++ Obs.stopRet tid t :: q) : Obs.spawn pid t' ∉ q := by
  intro hm
  have := (reach_run cfg lifetimes scripts as).inv.glob.nsas p q _ h rfl _ hm
  simp [isSpawn] at this

end WD.ProofsRst
