/- The polling emitter (`WD.Poll`).  The walk over a virtual tree with faults, by `vnodes_induction`: it does not raise
   when every fault it meets is one it tolerates (`walk_tolerant`) and collects exactly the entries when there is none
   (`walk_complete`); then `start` and `poll` in terms of the snapshot diff (`baseline`, `poll_events`, `quiet`,
   `root_gone`).  Restated in WD.Props.C10. -/
import WD.Model.Polling
import WD.Spec.PollingSpec
import WD.Props.C09
namespace WD.ProofsPoll
open WD WD.Poll

/-- induction over a listing: the listing of a sub-directory (when `listdir` answered) and the entries after it are
    both smaller.  (A theorem that recurses on `List VNode` by itself makes Lean compile a nested recursion every time.) -/
theorem vnodes_induction {P : List VNode → Prop} (nil : P [])
    (cons : ∀ n s l rest, (∀ ch, l = .ok ch → P ch) → P rest → P (.mk n s l :: rest)) : ∀ nodes, P nodes :=
  @VNode.rec_2 (fun v => ∀ rest, P rest → P (v :: rest)) (fun l => ∀ ch, l = .ok ch → P ch) P
    (fun n s l hl rest hr => cons n s l rest hl hr) (fun _ _ h => nomatch h)
    (fun _ ha _ h => Except.ok.inj h ▸ ha) nil (fun _ rest h1 h2 => h1 rest h2)

theorem walk_ok_err (root : String) (nodes : List VNode) :
    (walk true root (.ok nodes)).2 = (walkSubs root nodes).2 := by
  rw [walk]
  rcases walkSubs root nodes with ⟨sub, err⟩
  rfl

theorem walk_error_err (root : String) (e : Err) :
    (walk true root (.error e)).2 = if tolerated e then none else some e := by
  rw [walk]
  split <;> rfl

theorem walkSubs_dir {root n : String} {st : Stat} {l : Except Err (List VNode)} (rest : List VNode)
    (hd : st.isdir = true) (h : (walk true (join root n) l).2 = none ∨ (walk true (join root n) l).2 = some .eacces) :
    (walkSubs root (.mk n (.ok st) l :: rest)).2 = (walkSubs root rest).2 := by
  rw [walkSubs, if_pos hd]
  rcases hw : walk true (join root n) l with ⟨sub, err⟩
  rw [hw] at h
  rcases h with h | h <;> simp only at h <;> subst h <;> rfl

theorem walkSubs_tolerant (root : String) (nodes : List VNode) (h : tolerantBelow nodes = true) :
    (walkSubs root nodes).2 = none := by
  induction nodes using vnodes_induction generalizing root with
  | nil => rw [walkSubs]
  | cons n s l rest ihc ihr =>
    cases s with
    | error e => simp only [tolerantBelow] at h; rw [walkSubs]; exact ihr root h
    | ok st =>
      have hr : tolerantBelow rest = true ∧ (st.isdir = true →
          (walk true (join root n) l).2 = none ∨ (walk true (join root n) l).2 = some .eacces) := by
        cases l with
        | ok ch =>
          simp only [tolerantBelow, Bool.and_eq_true] at h
          exact ⟨h.2, fun hd => Or.inl ((walk_ok_err _ ch).trans (ihc ch rfl _ (by rw [← h.1, if_pos hd])))⟩
        | error e =>
          simp only [tolerantBelow, Bool.and_eq_true] at h
          refine ⟨h.2, fun hd => ?_⟩
          rw [walk_error_err]
          have h1 := h.1
          rw [if_pos hd, Bool.or_eq_true, beq_iff_eq] at h1
          rcases h1 with h1 | h1
          · exact Or.inl (if_pos h1)
          · subst h1; exact Or.inr rfl
      cases hd : st.isdir with
      | false => rw [walkSubs, hd]; exact ihr root hr.1
      | true => rw [walkSubs_dir rest hd (hr.2 hd), ihr root hr.1]

theorem perm_aux {α} (p : α) (ownR X more allCh allRest : List α)
    (h1 : X.Perm allCh) (h2 : (ownR ++ more).Perm allRest) :
    (p :: ownR ++ (X ++ more)).Perm (p :: (allCh ++ allRest)) := by
  refine List.Perm.cons _ ?_
  have : (ownR ++ (X ++ more)).Perm (X ++ (ownR ++ more)) := by
    rw [← List.append_assoc, ← List.append_assoc]
    exact List.Perm.append_right _ List.perm_append_comm
  exact this.trans (List.Perm.append h1 h2)

theorem walkSubs_complete (root : String) (nodes : List VNode) (h : faultFree nodes = true) :
    (walkSubs root nodes).2 = none ∧
      (ownEntries root nodes ++ (walkSubs root nodes).1).Perm (allEntries root nodes) := by
  induction nodes using vnodes_induction generalizing root with
  | nil => simp [walkSubs, ownEntries, allEntries]
  | cons n s l rest ihc ihr =>
    rcases s with e | st
    · simp [faultFree] at h
    rcases l with e | ch
    · simp only [faultFree, Bool.and_eq_true] at h
      have ih := ihr root h.2
      have hd : ¬ st.isdir = true := by simpa using h.1
      simp only [walkSubs, ownEntries, allEntries, hd]
      refine ⟨ih.1, ?_⟩
      simpa using ih.2
    · simp only [faultFree, Bool.and_eq_true] at h
      have ih := ihr root h.2
      simp only [walkSubs, ownEntries, allEntries]
      by_cases hd : st.isdir = true
      · simp only [hd, if_true] at h ⊢
        have ih2 := ihc ch rfl (join root n) h.1
        simp only [walk, if_true]
        rcases hr : walkSubs root rest with ⟨more, err⟩
        rcases hc : walkSubs (join root n) ch with ⟨sub, err2⟩
        rw [hr] at ih; rw [hc] at ih2
        simp only at ih ih2
        obtain ⟨rfl, ihp⟩ := ih
        obtain ⟨rfl, ihp2⟩ := ih2
        simp only [true_and]
        exact perm_aux _ _ _ _ _ _ ihp2 ihp
      · simp only [hd] at h ⊢
        refine ⟨ih.1, ?_⟩
        simpa using ih.2

theorem walk_tolerant (recursive : Bool) (root : String) (l : Except Err (List VNode))
    (h : tolerantTop l = true) : (walk recursive root l).2 = none := by
  cases l with
  | error e =>
    simp only [tolerantTop] at h
    simp [walk, h]
  | ok nodes =>
    simp only [tolerantTop] at h
    have := walkSubs_tolerant root nodes h
    cases recursive
    · simp [walk]
    · simp only [walk, if_true]
      rcases hr : walkSubs root nodes with ⟨sub, err⟩
      rw [hr] at this
      simpa using this

theorem snapshot_never_raises (recursive : Bool) (path : String) (st : Stat) (l : Except Err (List VNode))
    (h : tolerantTop l = true) : ∃ s, takeSnapshot recursive (.mk path (.ok st) l) = .ok s := by
  have := walk_tolerant recursive path l h
  rcases hw : walk recursive path l with ⟨entries, err⟩
  rw [hw] at this
  simp only at this
  subst this
  exact ⟨Snap.build ((path, st) :: entries), by simp only [takeSnapshot, hw]⟩

theorem walk_complete (root : String) (nodes : List VNode) (h : faultFree nodes = true) :
    (walk true root (.ok nodes)).1.Perm (allEntries root nodes) ∧ (walk true root (.ok nodes)).2 = none := by
  have := walkSubs_complete root nodes h
  simp only [walk, if_true]
  rcases hr : walkSubs root nodes with ⟨sub, err⟩
  rw [hr] at this
  exact ⟨this.2, this.1⟩

theorem nonrecursive_children (root : String) (nodes : List VNode) :
    walk false root (.ok nodes) = (ownEntries root nodes, none) := by
  simp [walk]

theorem own_entries_iff (root : String) (nodes : List VNode) (p : Path) (st : Stat) :
    (p, st) ∈ ownEntries root nodes ↔ ∃ n l, VNode.mk n (.ok st) l ∈ nodes ∧ p = join root n := by
  induction nodes with
  | nil => simp [ownEntries]
  | cons v rest ih =>
    rcases v with ⟨n, s | s, l⟩
    · simp only [ownEntries, ih, List.mem_cons, VNode.mk.injEq]
      constructor
      · rintro ⟨n', l', hm, hp⟩
        exact ⟨n', l', Or.inr hm, hp⟩
      · rintro ⟨n', l', hm | hm, hp⟩
        · exact absurd hm.2.1 (by simp)
        · exact ⟨n', l', hm, hp⟩
    · simp only [ownEntries, ih, List.mem_cons, VNode.mk.injEq, Prod.mk.injEq, Except.ok.injEq]
      constructor
      · rintro (⟨hp, hs⟩ | ⟨n', l', hm, hp⟩)
        · exact ⟨n, l, Or.inl ⟨rfl, hs, rfl⟩, hp⟩
        · exact ⟨n', l', Or.inr hm, hp⟩
      · rintro ⟨n', l', ⟨hn, hs, hl⟩ | hm, hp⟩
        · exact Or.inl ⟨by rw [hp, hn], hs⟩
        · exact Or.inr ⟨n', l', hm, hp⟩

theorem baseline (recursive : Bool) (root : VNode) (em : Emitter) (h : Emitter.start recursive root = some em) :
    takeSnapshot recursive root = .ok em.snapshot ∧ em.stopped = false ∧ em.recursive = recursive := by
  unfold Emitter.start at h
  split at h
  · rename_i s hs
    simp only [Option.some.injEq] at h
    subst h
    exact ⟨hs, rfl, rfl⟩
  · simp at h

theorem poll_events (em : Emitter) (root : VNode) (new : Snap) (hs : em.stopped = false)
    (hn : takeSnapshot em.recursive root = .ok new) :
    (em.poll root).2 = diffEvents ((diff false em.snapshot new).lists em.snapshot new) ∧
    (em.poll root).1.snapshot = new ∧ (em.poll root).1.stopped = false ∧
    totalEvents (em.poll root).2 =
      (let l := (diff false em.snapshot new).lists em.snapshot new
       l.filesDeleted.length + l.filesModified.length + l.filesCreated.length + l.filesMoved.length +
       l.dirsDeleted.length + l.dirsModified.length + l.dirsCreated.length + l.dirsMoved.length) := by
  have hp : em.poll root = ({ em with snapshot := new },
      diffEvents ((diff false em.snapshot new).lists em.snapshot new)) := by
    simp only [Emitter.poll, hs, hn]
    simp
  rw [hp]
  refine ⟨rfl, rfl, hs, ?_⟩
  simp [totalEvents, diffEvents, Nat.add_assoc]

theorem quiet (em : Emitter) (root : VNode) (hs : em.stopped = false) (hwf : em.snapshot.WF)
    (hn : takeSnapshot em.recursive root = .ok em.snapshot) : totalEvents (em.poll root).2 = 0 := by
  obtain ⟨-, -, -, ht⟩ := poll_events em root em.snapshot hs hn
  rw [ht]
  obtain ⟨h1, h2, h3, h4⟩ := WD.C09.self_empty hwf
  simp [Diff.lists, h1, h2, h3, h4]

theorem root_gone (em : Emitter) (root : VNode) (e : Err) (hs : em.stopped = false)
    (hn : takeSnapshot em.recursive root = .error e) :
    (em.poll root).2 = [[⟨.DirDeletedEvent, em.rootPath, "", false⟩]] ∧ (em.poll root).1.stopped = true ∧
    ∀ root', ((em.poll root).1.poll root').2 = [] ∧ ((em.poll root).1.poll root').1 = (em.poll root).1 := by
  have hp : em.poll root = ({ em with stopped := true },
      [[⟨.DirDeletedEvent, em.rootPath, "", false⟩]]) := by
    simp only [Emitter.poll, hs, hn]
    simp
  rw [hp]
  refine ⟨rfl, rfl, ?_⟩
  intro root'
  simp [Emitter.poll]

end WD.ProofsPoll
