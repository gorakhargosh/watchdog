/- A well-formed snapshot (`Snap.WF`) read in both directions - from a path to its stat, from a file identity back to the
   one path that has it (`pathOf`, `hasId`) - and the closed form of `Snap.build` on entries without duplicates
   (`build_eq_of_wf`).  Used by WD.Props.C09. -/
import WD.Model.Snapshot
import WD.Spec.SnapshotSpec
namespace WD
open WD.Spec

theorem Snap.mem_paths_iff (s : Snap) (p : Path) : p ∈ s.paths ↔ ∃ st, s.stat? p = some st := by
  unfold Snap.paths Snap.stat?
  rw [← alookup_isSome_iff, Option.isSome_iff_exists]

theorem Snap.contains_paths (s : Snap) (p : Path) : s.paths.contains p = true ↔ ∃ st, s.stat? p = some st := by
  rw [List.contains_iff_mem, Snap.mem_paths_iff]

theorem Snap.WF.stat_mem {s : Snap} (h : s.WF) {p : Path} {st : Stat} :
    s.stat? p = some st ↔ (p, st) ∈ s.stats :=
  alookup_some_iff h.statsNodup

theorem Snap.WF.pathOf_of_stat {s : Snap} (h : s.WF) {p : Path} {st : Stat}
    (hs : s.stat? p = some st) : s.pathOf st.id = some p := by
  have h1 : alookup st.id s.byId = some p := (h.inv st.id p).mpr ⟨st, hs, rfl⟩
  have h2 : p ≠ "" := h.nonempty p ((s.mem_paths_iff p).mpr ⟨st, hs⟩)
  simp [Snap.pathOf, h1, h2]

theorem Snap.WF.stat_of_pathOf {s : Snap} (h : s.WF) {p : Path} {i : FileId}
    (hp : s.pathOf i = some p) : ∃ st, s.stat? p = some st ∧ st.id = i := by
  unfold Snap.pathOf at hp
  split at hp
  · rename_i q hq
    split at hp
    · simp at hp
    · simp at hp; subst hp; exact (h.inv i q).mp hq
  · simp at hp

theorem Snap.WF.pathOf_none_iff {s : Snap} (h : s.WF) (i : FileId) :
    s.pathOf i = none ↔ ∀ p st, s.stat? p = some st → st.id ≠ i := by
  constructor
  · intro hn p st hs hid
    have := h.pathOf_of_stat hs
    rw [hid, hn] at this; simp at this
  · intro hall
    cases hp : s.pathOf i with
    | none => rfl
    | some p =>
      obtain ⟨st, hs, hid⟩ := h.stat_of_pathOf hp
      exact absurd hid (hall p st hs)

theorem Snap.WF.inj {s : Snap} (h : s.WF) {p q : Path} {a b : Stat}
    (ha : s.stat? p = some a) (hb : s.stat? q = some b) (hid : a.id = b.id) : p = q := by
  have h1 := h.pathOf_of_stat ha
  have h2 := h.pathOf_of_stat hb
  rw [hid, h2] at h1; simp at h1; exact h1.symm

theorem hasId_iff (s : Snap) (i : FileId) :
    hasId s i = true ↔ ∃ p st, (p, st) ∈ s.stats ∧ st.id = i := by
  simp [hasId, List.any_eq_true]

theorem Snap.WF.hasId_iff {s : Snap} (h : s.WF) (i : FileId) :
    hasId s i = true ↔ ∃ p, s.pathOf i = some p := by
  rw [WD.hasId_iff]
  constructor
  · rintro ⟨p, st, hm, hid⟩
    exact ⟨p, hid ▸ h.pathOf_of_stat (h.stat_mem.mpr hm)⟩
  · rintro ⟨p, hp⟩
    obtain ⟨st, hs, hid⟩ := h.stat_of_pathOf hp
    exact ⟨p, st, h.stat_mem.mp hs, hid⟩

theorem Snap.WF.hasId_false_iff {s : Snap} (h : s.WF) (i : FileId) :
    hasId s i = false ↔ s.pathOf i = none := by
  have := h.hasId_iff i
  cases hh : hasId s i <;> cases hp : s.pathOf i <;> simp_all

theorem getInode_false (s : Snap) (p : Path) : getInode false s p = s.inode? p := by
  simp [getInode, Snap.inode?]

theorem Snap.inode?_of_stat {s : Snap} {p : Path} {st : Stat} (h : s.stat? p = some st) :
    s.inode? p = some st.id := by
  rw [Snap.inode?, h]; rfl

theorem ainsert_fresh {α β : Type} [DecidableEq α] (k : α) (v : β) (l : List (α × β)) (h : k ∉ akeys l) :
    ainsert k v l = l ++ [(k, v)] := by
  induction l with
  | nil => rfl
  | cons hd t ih =>
    obtain ⟨k', v'⟩ := hd
    simp only [akeys, List.map_cons, List.mem_cons, not_or] at h
    have hk : ¬ k' = k := fun e => h.1 e.symm
    simp only [ainsert, hk, if_false, List.cons_append]
    rw [ih h.2]

theorem foldl_ainsert_fresh {α β γ : Type} [DecidableEq α] (f : γ → α × β) (es : List γ) (acc : List (α × β))
    (hnd : (es.map (fun e => (f e).1)).Nodup) (hdis : ∀ e ∈ es, (f e).1 ∉ akeys acc) :
    es.foldl (fun a e => ainsert (f e).1 (f e).2 a) acc = acc ++ es.map f := by
  induction es generalizing acc with
  | nil => simp
  | cons e t ih =>
    simp only [List.map_cons, List.nodup_cons] at hnd
    simp only [List.foldl_cons]
    rw [ainsert_fresh _ _ _ (hdis e (List.mem_cons_self ..))]
    rw [ih _ hnd.2]
    · simp
    · intro e' he'
      simp only [akeys, List.map_append, List.map_cons, List.map_nil, List.mem_append, List.mem_singleton, not_or]
      refine ⟨hdis e' (List.mem_cons_of_mem _ he'), ?_⟩
      intro heq
      exact hnd.1 (List.mem_map.mpr ⟨e', he', heq⟩)

theorem build_fold_fields (es : List (Path × Stat)) (a : List (Path × Stat)) (b : List (FileId × Path)) :
    es.foldl (fun s e => (⟨ainsert e.1 e.2 s.stats, ainsert e.2.id e.1 s.byId⟩ : Snap)) ⟨a, b⟩ =
      ⟨es.foldl (fun a e => ainsert e.1 e.2 a) a, es.foldl (fun b e => ainsert e.2.id e.1 b) b⟩ := by
  induction es generalizing a b with
  | nil => rfl
  | cons e t ih => simp only [List.foldl_cons]; rw [ih]

theorem build_eq_of_wf (es : List (Path × Stat)) (h : entriesWF es = true) :
    Snap.build es = ⟨es, es.map (fun e => (e.2.id, e.1))⟩ := by
  simp only [entriesWF, Bool.and_eq_true, decide_eq_true_eq] at h
  obtain ⟨⟨h1, h2⟩, _⟩ := h
  unfold Snap.build Snap.empty
  rw [build_fold_fields]
  have e1 := foldl_ainsert_fresh (fun e : Path × Stat => e) es [] (by simpa using h1) (by simp [akeys])
  have e2 := foldl_ainsert_fresh (fun e : Path × Stat => (e.2.id, e.1)) es [] (by simpa using h2) (by simp [akeys])
  simp only [List.nil_append, List.map_id'] at e1 e2
  rw [e1, e2]

end WD
