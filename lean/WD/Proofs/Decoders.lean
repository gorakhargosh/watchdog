/- The two buffer decoders (`WD.Dec`).  One encoded record in front of the rest of a buffer parses to that record
   followed by the parse of the rest (`parseIno_step`, `parseWin_step`); by induction, decoding an encoded list gives the
   list back (`inotify_decode_encode`, `win_decode_encode`: the decoder half of WD.Props.C20). -/
import WD.Model.Decoders
namespace WD.ProofsDec
open WD.Dec

theorem le32_length (n : Nat) : (le32 n).length = 4 := rfl

theorem rd32_append_off (pre X : Bytes) (k : Nat) :
    rd32 (pre ++ X) (pre.length + k) = rd32 X k := by
  unfold rd32
  rw [Nat.add_assoc pre.length k 1, Nat.add_assoc pre.length k 2, Nat.add_assoc pre.length k 3]
  simp [List.getD_eq_getElem?_getD, List.getElem?_append_right]

theorem rd32_append_off0 (pre X : Bytes) : rd32 (pre ++ X) pre.length = rd32 X 0 := by
  have := rd32_append_off pre X 0
  simpa using this

theorem rd32_le32 (pre : Bytes) (i : Nat) (hi : pre.length = i) (a : Nat) (rest : Bytes) (ha : a < 2 ^ 32) :
    rd32 (pre ++ le32 a ++ rest) i = a := by
  rw [← hi, List.append_assoc, rd32_append_off0]
  simp [rd32, le32]; omega

theorem drop_past {α} (A P E : List α) {n : Nat} (h : (A ++ P).length = n) :
    (A ++ (P ++ E)).drop n = E ∧ (A ++ (P ++ E)).length - n = E.length := by
  subst h
  rw [← List.append_assoc]
  exact ⟨List.drop_left' rfl, by rw [List.length_append, Nat.add_sub_cancel_left]⟩

theorem dropWhile_replicate0 (pad : Nat) (l : List Nat) :
    (List.replicate pad 0 ++ l).dropWhile (· == 0) = l.dropWhile (· == 0) := by
  induction pad with
  | zero => simp
  | succ n ih => simp [List.replicate_succ, ih]

theorem rstrip0_pad (name : Bytes) (pad : Nat) (h : name.getLast? ≠ some 0) :
    rstrip0 (name ++ List.replicate pad 0) = name := by
  unfold rstrip0
  rw [List.reverse_append, List.reverse_replicate, dropWhile_replicate0]
  have : name.reverse.dropWhile (· == 0) = name.reverse := by
    rw [List.getLast?_eq_head?_reverse] at h
    cases hr : name.reverse with
    | nil => rfl
    | cons x xs =>
      rw [hr] at h
      have hx : x ≠ 0 := by simpa using h
      simp [hx]
  rw [this, List.reverse_reverse]

theorem encodeInoRec_length (r : InoRec) (pad : Nat) :
    (encodeInoRec r pad).length = 16 + (r.name.length + pad) := by
  simp [encodeInoRec, le32_length]; omega

theorem parseIno_step (f : Nat) (pre tail : Bytes) (r : InoRec) (pad : Nat)
    (hwd : r.wd < 2 ^ 32) (hmask : r.mask < 2 ^ 32) (hcookie : r.cookie < 2 ^ 32)
    (hlen : r.name.length + pad < 2 ^ 32) (hlast : r.name.getLast? ≠ some 0) :
    parseIno (f + 1) (pre ++ (encodeInoRec r pad ++ tail)) pre.length =
      r :: parseIno f ((pre ++ encodeInoRec r pad) ++ tail) (pre ++ encodeInoRec r pad).length := by
  have hcond : pre.length + 16 ≤ (pre ++ (encodeInoRec r pad ++ tail)).length := by
    simp [encodeInoRec_length]; omega
  rw [parseIno, if_pos hcond]
  have e0 : rd32 (pre ++ (encodeInoRec r pad ++ tail)) pre.length = r.wd := by
    rw [rd32_append_off0]; simp only [encodeInoRec, List.append_assoc]
    exact rd32_le32 [] 0 rfl _ _ hwd
  have e4 : rd32 (pre ++ (encodeInoRec r pad ++ tail)) (pre.length + 4) = r.mask := by
    rw [rd32_append_off]; simp only [encodeInoRec, List.append_assoc]
    simpa only [List.append_assoc] using rd32_le32 (le32 r.wd) 4 rfl r.mask _ hmask
  have e8 : rd32 (pre ++ (encodeInoRec r pad ++ tail)) (pre.length + 8) = r.cookie := by
    rw [rd32_append_off]; simp only [encodeInoRec, List.append_assoc]
    simpa only [List.append_assoc] using rd32_le32 (le32 r.wd ++ le32 r.mask) 8 rfl r.cookie _ hcookie
  have e12 : rd32 (pre ++ (encodeInoRec r pad ++ tail)) (pre.length + 12) = r.name.length + pad := by
    rw [rd32_append_off]; simp only [encodeInoRec, List.append_assoc]
    simpa only [List.append_assoc] using rd32_le32 (le32 r.wd ++ le32 r.mask ++ le32 r.cookie) 12 rfl (r.name.length + pad) _ hlen
  have ed : ((pre ++ (encodeInoRec r pad ++ tail)).drop (pre.length + 16)).take (r.name.length + pad)
      = r.name ++ List.replicate pad 0 := by
    have : pre ++ (encodeInoRec r pad ++ tail) =
        (pre ++ (le32 r.wd ++ le32 r.mask ++ le32 r.cookie ++ le32 (r.name.length + pad))) ++
          ((r.name ++ List.replicate pad 0) ++ tail) := by
      simp [encodeInoRec, List.append_assoc]
    rw [this, List.drop_left' (by simp [le32_length]), List.take_left' (by simp)]
  simp only [e0, e4, e8, e12, ed, rstrip0_pad _ _ hlast]
  congr 1
  rw [List.append_assoc]
  congr 1
  simp [encodeInoRec_length]; omega

theorem parseIno_encode (rs : List (InoRec × Nat))
    (h : ∀ x ∈ rs, x.1.wd < 2 ^ 32 ∧ x.1.mask < 2 ^ 32 ∧ x.1.cookie < 2 ^ 32 ∧ x.1.name.length + x.2 < 2 ^ 32 ∧
      (∀ b ∈ x.1.name, b < 256) ∧ x.1.name.getLast? ≠ some 0) :
    ∀ (fuel : Nat) (pre : Bytes), rs.length + 1 ≤ fuel →
      parseIno fuel (pre ++ encodeIno rs) pre.length = rs.map Prod.fst := by
  induction rs with
  | nil =>
    intro fuel pre hf
    cases fuel with
    | zero => omega
    | succ f => simp [parseIno, encodeIno]
  | cons x rest ih =>
    intro fuel pre hf
    obtain ⟨r, pad⟩ := x
    cases fuel with
    | zero => omega
    | succ f =>
      obtain ⟨h1, h2, h3, h4, -, h6⟩ := h (r, pad) (by simp)
      simp only [encodeIno]
      rw [parseIno_step f pre _ r pad h1 h2 h3 h4 h6,
        ih (fun y hy => h y (List.mem_cons_of_mem _ hy)) f _ (by simp at hf; omega)]
      rfl

theorem encodeIno_length (rs : List (InoRec × Nat)) : rs.length ≤ (encodeIno rs).length := by
  induction rs with
  | nil => simp
  | cons x rest ih =>
    obtain ⟨r, pad⟩ := x
    simp [encodeIno, encodeInoRec_length]; omega

theorem inotify_decode_encode (rs : List (InoRec × Nat))
    (h : ∀ x ∈ rs, x.1.wd < 2 ^ 32 ∧ x.1.mask < 2 ^ 32 ∧ x.1.cookie < 2 ^ 32 ∧ x.1.name.length + x.2 < 2 ^ 32 ∧
      (∀ b ∈ x.1.name, b < 256) ∧ x.1.name.getLast? ≠ some 0) :
    decodeIno (encodeIno rs) = rs.map Prod.fst := by
  have := parseIno_encode rs h ((encodeIno rs).length + 1) [] (by have := encodeIno_length rs; omega)
  simpa [decodeIno] using this

theorem bytes16_length (us : List Nat) : (bytes16 us).length = 2 * us.length := by
  induction us with
  | nil => rfl
  | cons u rest ih => simp [bytes16, ih]; omega

theorem units16_bytes16 (us : List Nat) (h : ∀ u ∈ us, u < 65536) : units16 (bytes16 us) = us := by
  induction us with
  | nil => rfl
  | cons u rest ih =>
    have hu : u < 65536 := h u (by simp)
    simp only [bytes16, units16]
    rw [ih (fun v hv => h v (List.mem_cons_of_mem _ hv))]
    congr 1
    omega

/-- one FILE_NOTIFY_INFORMATION record without its padding: NextEntryOffset, Action, FileNameLength, FileName -/
def winRec (next : Nat) (r : WinRec) : Bytes :=
  le32 next ++ le32 r.action ++ le32 (2 * r.name.length) ++ bytes16 r.name

theorem winRec_length (next : Nat) (r : WinRec) : (winRec next r).length = 12 + 2 * r.name.length := by
  simp only [winRec, List.length_append, le32_length, bytes16_length]

theorem parseWin_step (f n nx : Nat) (r : WinRec) (tail : Bytes) (hn : n ≠ 0)
    (hnx : nx < 2 ^ 32) (ha : r.action < 2 ^ 32) (hlen : 2 * r.name.length < 2 ^ 32)
    (hu : ∀ u ∈ r.name, u < 65536) :
    parseWin (f + 1) (winRec nx r ++ tail) n =
      if nx = 0 then [r] else r :: parseWin f ((winRec nx r ++ tail).drop nx) (n - nx) := by
  rw [parseWin, if_neg hn]
  have e0 : rd32 (winRec nx r ++ tail) 0 = nx := by
    simpa only [winRec, List.append_assoc, List.nil_append] using rd32_le32 [] 0 rfl nx _ hnx
  have e4 : rd32 (winRec nx r ++ tail) 4 = r.action := by
    simpa only [winRec, List.append_assoc] using rd32_le32 (le32 nx) 4 rfl r.action _ ha
  have e8 : rd32 (winRec nx r ++ tail) 8 = 2 * r.name.length := by
    simpa only [winRec, List.append_assoc] using
      rd32_le32 (le32 nx ++ le32 r.action) 8 rfl (2 * r.name.length) (bytes16 r.name ++ tail) hlen
  have ed : ((winRec nx r ++ tail).drop 12).take (2 * r.name.length) = bytes16 r.name := by
    rw [winRec, List.append_assoc _ (bytes16 r.name) tail, List.drop_left' (by simp [le32_length]),
      List.take_left' (bytes16_length _)]
  simp only [e0, e4, e8, ed, units16_bytes16 _ hu]

theorem encodeWin_single (r : WinRec) (pad : Nat) :
    encodeWin [(r, pad)] = winRec 0 r ++ List.replicate pad 0 := rfl

theorem encodeWin_cons2 (r : WinRec) (pad : Nat) (y : WinRec × Nat) (rest : List (WinRec × Nat)) :
    encodeWin ((r, pad) :: y :: rest) =
      winRec (12 + 2 * r.name.length + pad) r ++ (List.replicate pad 0 ++ encodeWin (y :: rest)) := by
  simp [encodeWin, winRec]

theorem encodeWin_length_pos (rs : List (WinRec × Nat)) (hne : rs ≠ []) : (encodeWin rs).length ≠ 0 := by
  match rs, hne with
  | [(r, pad)], _ => simp [encodeWin_single, winRec_length]
  | (r, pad) :: y :: rest, _ => simp [encodeWin_cons2, winRec_length]

theorem parseWin_encode (rs : List (WinRec × Nat)) (hne : rs ≠ [])
    (h : ∀ x ∈ rs, x.1.action < 2 ^ 32 ∧ 12 + 2 * x.1.name.length + x.2 < 2 ^ 32 ∧ (∀ u ∈ x.1.name, u < 65536)) :
    ∀ fuel : Nat, rs.length ≤ fuel →
      parseWin fuel (encodeWin rs) (encodeWin rs).length = rs.map Prod.fst := by
  induction rs with
  | nil => exact absurd rfl hne
  | cons x rest ih =>
    intro fuel hf
    obtain ⟨r, pad⟩ := x
    obtain ⟨h1, h2, h3⟩ := h (r, pad) (by simp)
    simp only at h1 h2 h3
    cases fuel with
    | zero => simp at hf
    | succ f =>
      have hpos := encodeWin_length_pos ((r, pad) :: rest) (by simp)
      cases rest with
      | nil =>
        rw [encodeWin_single] at hpos ⊢
        rw [parseWin_step f _ 0 r _ hpos (by omega) h1 (by omega) h3]
        simp
      | cons y rest' =>
        rw [encodeWin_cons2] at hpos ⊢
        rw [parseWin_step f _ _ r _ hpos h2 h1 (by omega) h3, if_neg (by omega)]
        obtain ⟨hd, hl⟩ := drop_past (winRec (12 + 2 * r.name.length + pad) r) (List.replicate pad 0)
          (encodeWin (y :: rest')) (n := 12 + 2 * r.name.length + pad) (by simp [winRec_length])
        rw [hd, hl, ih (by simp) (fun z hz => h z (List.mem_cons_of_mem _ hz)) f (by simp at hf ⊢; omega)]
        rfl

theorem encodeWin_length (rs : List (WinRec × Nat)) : rs.length ≤ (encodeWin rs).length := by
  induction rs with
  | nil => simp
  | cons x rest ih =>
    obtain ⟨r, pad⟩ := x
    cases rest with
    | nil => simp [encodeWin_single, winRec_length]; omega
    | cons y rest' =>
      rw [encodeWin_cons2]
      simp [winRec_length] at ih ⊢; omega

theorem win_decode_encode (rs : List (WinRec × Nat)) (hne : rs ≠ [])
    (h : ∀ x ∈ rs, x.1.action < 2 ^ 32 ∧ 12 + 2 * x.1.name.length + x.2 < 2 ^ 32 ∧ (∀ u ∈ x.1.name, u < 65536)) :
    decodeWin (encodeWin rs) (encodeWin rs).length = rs.map Prod.fst := by
  have := encodeWin_length rs
  exact parseWin_encode rs hne h _ (by omega)

end WD.ProofsDec
