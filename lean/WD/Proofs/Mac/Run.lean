/- whole histories through the FSEvents layer: contract refinement, replay, the non-recursive filter -/
import WD.Proofs.Mac.Step
namespace WD.Mac
open WD WD.Pipe WD.Win

/-- C20 (FSEvents, one operation): the events delivered for the native events of one valid operation, read after
    the operation, are the FSEvents contract's (a non-recursive watch: those of them its filter lets through) -/
theorem mac_step {fs : FS} (hwf : fs.WF) (r : Bool) (st : MSt) (hst : ViewOK st fs.nextIno) (op : Op) (hv : winValid fs op = true) :
    (emitBatch (fsAfter fs op) r st (macEvents fs op)).2 =
      (if r then (macContract fs op).1 else (macContract fs op).1.filter keepFlat) ∧
    (emitBatch (fsAfter fs op) r st (macEvents fs op)).1.stopped = (st.stopped || (macContract fs op).2) ∧
    ViewOK (emitBatch (fsAfter fs op) r st (macEvents fs op)).1 (fsAfter fs op).nextIno := by
  obtain ⟨h1, h2, h3⟩ := loop_step hwf st hst op hv
  refine ⟨?_, h2, h3⟩
  simp only [emitBatch, h1]

/-- C20 (FSEvents, non-recursive watch): whatever the native events are, nothing is delivered that lies below the
    root's direct children — every delivered event names the root, a direct child of it, or moves something to a
    direct child of it -/
theorem flat_shallow (fs : FS) (st : MSt) (evs : List MEv) :
    ∀ e ∈ (emitBatch fs false st evs).2,
      e.src = ["W"] ∨ parentOf e.src = ["W"] ∨ parentOf e.dest = ["W"] := by
  intro e he
  simp only [emitBatch, Bool.false_eq_true, if_false, List.mem_filter] at he
  have hk := he.2
  simp only [keepFlat, Bool.or_eq_true, Bool.and_eq_true, beq_iff_eq] at hk
  rcases hk with hk | hk
  · split at hk
    · exact Or.inl hk
    · exact Or.inr (Or.inl hk)
  · exact Or.inr (Or.inr hk.2)

theorem macContract_stop_iff (fs : FS) (op : Op) : (macContract fs op).2 = true ↔ op = .rmdir ["W"] := by
  cases op with
  | rmdir p =>
    by_cases h : p = ["W"]
    · subst h; exact ⟨fun _ => rfl, fun _ => rfl⟩
    · have hb : (p == ["W"]) = false := beq_eq_false_iff_ne.mpr h
      simp only [macContract, hb, Bool.false_eq_true, if_false, false_iff]
      exact fun hh => h (Op.rmdir.inj hh)
  | rename p q =>
    simp only [macContract]
    cases fs.find? p
    · exact ⟨fun h => (nomatch h), fun h => (nomatch h)⟩
    · simp only [apply_ite Prod.snd, ite_self, Bool.false_eq_true, false_iff]
      exact fun h => nomatch h
  | _ => exact ⟨fun h => (nomatch h), fun h => (nomatch h)⟩

theorem MSys.op_fs (s : MSys) (op : Op) : (s.op op).1.fs = fsAfter s.fs op := by
  simp only [MSys.op]; split <;> rfl
theorem MSys.op_rec (s : MSys) (op : Op) : (s.op op).1.recursive = s.recursive := by
  simp only [MSys.op]; split <;> rfl

theorem MSys.run_stopped (s : MSys) (ops : List Op) (h : s.st.stopped = true) : (s.run ops).2 = ops.map (fun _ => []) := by
  induction ops generalizing s with
  | nil => rfl
  | cons op rest ih =>
    have h1 : s.op op = ({ s with fs := fsAfter s.fs op }, []) := by simp [MSys.op, h]
    simp only [MSys.run, h1, List.map_cons]
    rw [ih { s with fs := fsAfter s.fs op } h]

def filterRun (r : Bool) (l : List (List PEv)) : List (List PEv) := if r then l else l.map (fun evs => evs.filter keepFlat)

theorem filterRun_cons (r : Bool) (a : List PEv) (l : List (List PEv)) :
    filterRun r (a :: l) = (if r then a else a.filter keepFlat) :: filterRun r l := by
  cases r <;> simp [filterRun]

theorem filterRun_nils (r : Bool) (l : List Op) : filterRun r (l.map (fun _ => ([] : List PEv))) = l.map (fun _ => []) := by
  cases r <;> simp [filterRun]

/-- C20 (FSEvents): for every history the file system accepts, every operation drained, the delivered stream is
    the FSEvents contract's, operation by operation -/
theorem run_contract (s : MSys) (ops : List Op) (hwf : s.fs.WF) (hs : s.st.stopped = false) (hview : ViewOK s.st s.fs.nextIno)
    (hv : winFsValid s.fs ops = true) : (s.run ops).2 = filterRun s.recursive (macContractRun s.fs ops) := by
  induction ops generalizing s with
  | nil => cases s.recursive <;> rfl
  | cons op rest ih =>
    simp only [winFsValid, Bool.and_eq_true] at hv
    obtain ⟨h1, h2, h3⟩ := mac_step hwf s.recursive s.st hview op hv.1
    have hop2 : (s.op op).2 = (if s.recursive then (macContract s.fs op).1 else (macContract s.fs op).1.filter keepFlat) := by
      simp only [MSys.op, hs, Bool.false_eq_true, if_false]; exact h1
    have hopst : (s.op op).1.st = (emitBatch (fsAfter s.fs op) s.recursive s.st (macEvents s.fs op)).1 := by
      simp only [MSys.op, hs, Bool.false_eq_true, if_false]
    simp only [MSys.run, macContractRun, filterRun_cons, hop2]
    congr 1
    cases hstop : (macContract s.fs op).2 with
    | true =>
      simp only [if_true, filterRun_nils]
      exact MSys.run_stopped _ _ (by rw [hopst, h2, hs, hstop]; rfl)
    | false =>
      simp only [Bool.false_eq_true, if_false]
      have hne : op ≠ .rmdir ["W"] := fun h => by
        have := (macContract_stop_iff s.fs op).mpr h
        rw [hstop] at this; cases this
      have := ih (s.op op).1 (by rw [MSys.op_fs]; exact wf_after hwf op (winValid_valid hv.1) hne)
        (by rw [hopst, h2, hs, hstop]; rfl) (by rw [hopst, MSys.op_fs]; exact h3) (by rw [MSys.op_fs]; exact hv.2)
      rw [MSys.op_fs, MSys.op_rec] at this
      exact this

theorem descendants_file {fs : FS} (hwf : fs.WF) {q : P} {x : Ent} (hq : fs.find? q = some x) (hf : x.isDir = false) (hne : q ≠ []) :
    fs.descendants q = [] := by
  simp only [FS.descendants, List.filter_eq_nil_iff]
  intro y hy
  have := FS.WF.file_no_desc hwf hq hf hne y hy
  simp [this]

@[simp] theorem key_evCreated (e : MEv) : (evCreated e).filterMap key = [.cr e.path e.isDir] := by
  simp [evCreated]
@[simp] theorem key_evRemoved (e : MEv) : (evRemoved e).filterMap key = [.del e.path] := by
  simp [evRemoved, keys_evDeleted]
@[simp] theorem key_evModified (e : MEv) : (evModified e).filterMap key = [] := keys_mod _ _ _

theorem keys_evPre (st : MSt) (e : MEv) :
    (evPre st e).filterMap key = if e.created && !st.fsView.contains e.ino then [.cr e.path e.isDir] else [] := by
  rw [evPre, List.filterMap_append, key_evModified, List.append_nil]
  split <;> simp

variable {fs : FS}

theorem vis_true (p : P) : vis true p = inW p := rfl

theorem Plain.contract_keys {op : Op} {paths : List P} {m t r : Bool} (h : Plain fs op paths m t r) :
    (macContract fs op).1.filterMap key = (sel fs paths).flatMap (fun y => if r then [Key.del y.1] else []) := by
  rw [h.contract]
  induction sel fs paths with
  | nil => rfl
  | cons y rest ih =>
    rw [List.flatMap_cons, List.flatMap_cons, List.filterMap_append, ih, List.filterMap_append, key_evModified]
    cases r <;> simp [keys_evDeleted]

/-- the deletions of the paths the operation names, all of which exist: FSEvents reports the entries found there,
    Windows the names -/
theorem removal_keys {op : Op} {paths : List P} {m t : Bool} (h : Plain fs op paths m t true)
    (hex : ∀ q ∈ paths, ∃ e, fs.find? q = some e) :
    (macContract fs op).1.filterMap key =
      (paths.flatMap (fun q => if inW q then [mkEv .FileDeletedEvent q] else [])).filterMap key := by
  rw [h.contract_keys]
  clear h
  induction paths with
  | nil => rfl
  | cons q rest ih =>
    obtain ⟨e, he⟩ := hex q (List.mem_cons_self ..)
    have ih' := ih (fun x hx => hex x (List.mem_cons_of_mem _ hx))
    simp only [sel, List.filterMap_cons, he, Option.bind_some, List.flatMap_cons, List.filterMap_append] at ih' ⊢
    rw [← ih']
    cases inW q <;> rfl

/-- the FSEvents contract and the Windows contract of a recursive watch change the replayed tree in the same way -/
theorem mac_keys_win (hwf : fs.WF) (op : Op) (hv : winValid fs op = true) (hroot : op ≠ .rmdir ["W"]) :
    (macContract fs op).1.filterMap key = (winContract fs true op).1.filterMap key := by
  have hvv := winValid_valid hv
  have one : ∀ {p : P} {e : Ent}, fs.find? p = some e → ∀ q ∈ [p], ∃ e, fs.find? q = some e :=
    fun he q hq => ⟨_, List.mem_singleton.mp hq ▸ he⟩
  cases op with
  | create p | mkdir p =>
    simp only [macContract, winContract]
    by_cases h : inW p = true <;> simp [h, vis_true]
  | write p => rw [(Plain.write hvv).contract_keys]; simp only [winContract]; cases vis true p <;> simp
  | chmod p => rw [(Plain.chmod p).contract_keys]; simp [winContract, keys_mod]
  | unlink p =>
    obtain ⟨e, he, _⟩ := FS.isFile_iff.mp hvv
    rw [removal_keys (Plain.unlink p) (one he), List.flatMap_singleton]
    rfl
  | rmdir p =>
    have hw : p ≠ ["W"] := fun h => hroot (h ▸ rfl)
    have hb : (p == ["W"]) = false := beq_eq_false_iff_ne.mpr hw
    simp only [validOp, Bool.and_eq_true] at hvv
    obtain ⟨e, he, _⟩ := FS.isDir_iff.mp hvv.1.2
    rw [removal_keys (Plain.rmdir hw) (one he), List.flatMap_singleton]
    simp only [winContract, hb, Bool.false_eq_true, if_false]
    rfl
  | rmtree p => exact removal_keys (Plain.rmtree p) (fun q hq => (validRmtree_paths hvv q hq).2)
  | rmtreeOrd p order => exact removal_keys (Plain.rmtreeOrd p order) (fun q hq => (validRmtree_paths hvv q hq).2)
  | rename p q =>
    obtain ⟨e, ok⟩ := renameOK_of_valid hvv
    have hd : fs.isDir p = e.isDir := by simp [FS.isDir, ok.he]
    -- a file has nothing below it: no synthetic events on either side
    have hsub : (if e.isDir then subMoved (fs.renamed p q) p q else []) = subMoved (fs.renamed p q) p q ∧
        (if e.isDir then subCreated (fs.renamed p q) q else []) = subCreated (fs.renamed p q) q := by
      cases hf : e.isDir with
      | true => exact ⟨rfl, rfl⟩
      | false =>
        have hd := descendants_file (ok.wf hwf) (ok.find_renamed_dest hwf) (by simpa [rwEnt] using hf) (ne_nil_of_two_le ok.hq2)
        simp [subMoved, subCreated, hd]
    rw [macContract_rename ok]
    simp only [winContract, fsAfter_rename ok, hd, Bool.and_true, hsub.1, hsub.2]
    by_cases h1 : inW p = true <;> by_cases h2 : inW q = true <;>
      simp [h1, h2, vis_true, keys_evDeleted]

theorem mac_replay_contract {fs : FS} (hwf : fs.WF) (op : Op) (hv : winValid fs op = true) (hroot : op ≠ .rmdir ["W"]) :
    sameTree (replay (treeW fs) (macContract fs op).1) (treeW (fsAfter fs op)) := by
  rw [replay_congr _ ((mac_keys_win hwf op hv hroot).trans (keys_eq hwf true op hv hroot))]
  exact replay_contract hwf false op (winValid_valid hv)

/-- C20 (FSEvents, recursive watch): replaying the contract's events of a whole history on the tree as it stood at
    the start gives the tree that exists afterwards -/
theorem mac_replay_run {fs : FS} (hwf : fs.WF) (ops : List Op) (hv : winFsValid fs ops = true) (hroot : Op.rmdir ["W"] ∉ ops) :
    sameTree (replay (treeW fs) (macContractRun fs ops).flatten) (treeW (fsRun fs ops)) :=
  replay_run_of_step (c := macContract) (run := macContractRun) (fun _ => rfl) (fun _ _ _ => rfl) macContract_stop_iff
    mac_replay_contract hwf ops hv hroot

end WD.Mac
