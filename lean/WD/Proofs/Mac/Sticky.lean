/- FSEvents: flags that stick to an item from its earlier events (created, modified, inode-meta) may re-appear on any
   later event of the item; whatever re-appears, the delivered stream still replays to the right tree -/
import WD.Proofs.Mac.Cut
namespace WD.Mac
open WD WD.Pipe WD.Win

theorem eraseSub_setEntry (t : Tree) (p : P) (d : Bool) : eraseSub (setEntry t p d) p = eraseSub t p := by
  simp only [eraseSub, setEntry, List.filter_append, List.filter_filter]
  have h1 : List.filter (fun x => !(x.1 == p || isUnder p x.1)) [(p, d)] = [] := by simp
  rw [h1, List.append_nil]
  congr 1; funext x
  by_cases hx : x.1 = p <;> simp [hx]

theorem setEntry_setEntry (t : Tree) (q : P) (d d' : Bool) : setEntry (setEntry t q d') q d = setEntry t q d := by
  simp only [setEntry, List.filter_append, List.filter_filter]
  have h1 : List.filter (fun x => x.1 != q) [(q, d')] = [] := by simp
  rw [h1, List.append_nil]
  congr 2; funext x
  by_cases hx : x.1 = q <;> simp [hx]

theorem setEntry_present {t : Tree} {p : P} {d : Bool} (hm : (p, d) ∈ t) (hu : ∀ y ∈ t, y.1 = p → y = (p, d)) :
    sameTree (setEntry t p d) t := by
  intro y
  rw [mem_setEntry]
  constructor
  · rintro (⟨h, _⟩ | h)
    · exact h
    · rw [h]; exact hm
  · intro h
    by_cases hy : y.1 = p
    · exact Or.inr (hu y h hy)
    · exact Or.inl ⟨h, hy⟩

theorem replayK_cons (t : Tree) (k : Key) (ks : List Key) : replayK t (k :: ks) = replayK (applyKey t k) ks := rfl

theorem K_cr_del (t : Tree) (p : P) (d : Bool) (rest : List Key) :
    replayK t (.cr p d :: .del p :: rest) = replayK t (.del p :: rest) := by
  simp only [replayK_cons, applyKey, eraseSub_setEntry]

theorem K_cr_mv (t : Tree) (p q : P) (d d' : Bool) (hp : p ≠ []) (rest : List Key) :
    replayK t (.cr p d :: .mv p q d' :: rest) = replayK t (.mv p q d' :: rest) := by
  simp only [replayK_cons, applyKey, hp, if_false, eraseSub_setEntry]

theorem K_cr_cr (t : Tree) (q : P) (d d' : Bool) (rest : List Key) :
    replayK t (.cr q d' :: .cr q d :: rest) = replayK t (.cr q d :: rest) := by
  simp only [replayK_cons, applyKey, setEntry_setEntry]

theorem K_spurious (c : Bool) (t : Tree) (p : P) (d : Bool) (k : Key) (rest : List Key)
    (hk : k = .del p ∨ (∃ q d', k = .mv p q d' ∧ p ≠ []) ∨ ∃ d', k = .cr p d') :
    replayK t ((if c then [.cr p d] else []) ++ k :: rest) = replayK t (k :: rest) := by
  cases c
  · rfl
  · rcases hk with rfl | ⟨q, d', rfl, hp⟩ | ⟨d', rfl⟩
    · exact K_cr_del t p d rest
    · exact K_cr_mv t p q d d' hp rest
    · exact K_cr_cr t p d' d rest

theorem sameTree_replayK {a b : Tree} (h : sameTree a b) (ks : List Key) : sameTree (replayK a ks) (replayK b ks) := by
  induction ks generalizing a b with
  | nil => exact h
  | cons k rest ih =>
    apply ih
    cases k with
    | cr p d => exact sameTree_setEntry h _ _
    | del p => exact sameTree_eraseSub h _
    | mv p q d =>
      simp only [applyKey]
      by_cases hp : p = [] <;> by_cases hq : q = [] <;> simp only [hp, hq, if_true, if_false]
      · exact h
      · exact sameTree_setEntry h _ _
      · exact sameTree_eraseSub h _
      · exact sameTree_setEntry (sameTree_eraseSub h _) _ _

theorem treeW_unique {fs : FS} (hwf : fs.WF) {p : P} {x : Ent} (hx : fs.find? p = some x) (hw : inW p = true) :
    (p, x.isDir) ∈ treeW fs ∧ ∀ y ∈ treeW fs, y.1 = p → y = (p, x.isDir) := by
  have hem := FS.find?_some hx
  have hin : (p, x.isDir) ∈ treeW fs := mem_treeW.mpr ⟨x, hem.1, hem.2, rfl, hw⟩
  exact ⟨hin, fun y hy hyp => treeW_path_inj hwf y hy _ hin hyp⟩

def StickyOK (fs : FS) (op : Op) (st : MSt) (r : MSt × List PEv) : Prop :=
  sameTree (replay (treeW fs) r.2) (treeW (fsAfter fs op)) ∧ r.1.stopped = st.stopped ∧ ViewOK r.1 (fsAfter fs op).nextIno

theorem stickAll_nil (ss : List Sticky) : stickAll [] ss = [] := by simp [stickAll]

theorem stickAll_mem {evs : List MEv} {ss : List Sticky} {e' : MEv} (h : e' ∈ stickAll evs ss) :
    ∃ e ∈ evs, e'.ino = e.ino ∧ e'.rootChanged = e.rootChanged := by
  induction evs generalizing ss with
  | nil => simp [stickAll] at h
  | cons e rest ih =>
    cases ss with
    | nil => simp [stickAll] at h
    | cons s ss' =>
      simp only [stickAll, List.zipWith_cons_cons, List.mem_cons] at h
      rcases h with h | h
      · exact ⟨e, List.mem_cons_self .., by rw [h]; rfl, by rw [h]; rfl⟩
      · obtain ⟨x, hx, h1⟩ := ih h
        exact ⟨x, List.mem_cons_of_mem _ hx, h1⟩

/-- the sticky flags touch neither the inode nor the root flag, so the emitter keeps running and its announced set stays
    sound (`loop_facts`); what is left to show per operation is that the stream replays like the contract's -/
theorem stickyOK_of_keys {fs : FS} {op : Op} {st : MSt} (hwf : fs.WF) (hv : winValid fs op = true) (hroot : op ≠ .rmdir ["W"])
    (hst : ViewOK st (fsAfter fs op).nextIno)
    (hev : ∀ a ∈ macEvents fs op, a.ino < (fsAfter fs op).nextIno ∧ a.rootChanged = false) (ss : List Sticky) (n : Nat)
    (hk : sameTree (replayK (treeW fs) ((emitLoop (fsAfter fs op) n st (stickAll (macEvents fs op) ss)).2.filterMap key))
      (replayK (treeW fs) ((macContract fs op).1.filterMap key))) :
    StickyOK fs op st (emitLoop (fsAfter fs op) n st (stickAll (macEvents fs op) ss)) := by
  have hev' : ∀ a ∈ stickAll (macEvents fs op) ss, a.ino < (fsAfter fs op).nextIno ∧ a.rootChanged = false := by
    intro a ha
    obtain ⟨x, hx, h1, h2⟩ := stickAll_mem ha
    rw [h1, h2]; exact hev x hx
  obtain ⟨h1, h2⟩ := loop_facts (fsAfter fs op) _ n st _ hst (fun a ha => (hev' a ha).1)
  refine ⟨?_, h2 (fun a ha => (hev' a ha).2), h1⟩
  have hc := mac_replay_contract hwf op hv hroot
  rw [replay_eq_replayK] at hc ⊢
  exact sameTree_trans hk hc

variable {fs : FS}

theorem Fresh.sticky {op : Op} {p : P} {d : Bool} (h : Fresh fs op p d) (hwf : fs.WF) (st : MSt) (hst : ViewOK st fs.nextIno)
    (hv : winValid fs op = true) (hroot : op ≠ .rmdir ["W"]) (ss : List Sticky) (hlen : ss.length = (macEvents fs op).length) :
    StickyOK fs op st (emitLoop (fsAfter fs op) ss.length st (stickAll (macEvents fs op) ss)) := by
  apply stickyOK_of_keys hwf hv hroot (h.ino ▸ hst.mono (Nat.le_succ _))
  · intro a ha
    rw [h.events] at ha
    split at ha
    · rw [List.mem_singleton.mp ha, h.ino]; exact ⟨Nat.lt_succ_self _, rfl⟩
    · cases ha
  · rw [h.events] at hlen ⊢
    rw [h.contract]
    cases hw : inW p <;> rw [hw] at hlen
    · obtain rfl := List.length_eq_zero_iff.mp (hlen : ss.length = 0)
      exact sameTree_refl _
    · obtain ⟨s, rfl⟩ := List.length_eq_one_iff.mp (hlen : ss.length = 1)
      have he := emitOne_plain (fsAfter fs op) st (({ path := p, ino := fs.nextIno, isDir := d, created := true } : MEv).stick s) [] rfl rfl
      simp only [if_true, stickAll, List.zipWith_cons_cons, List.zipWith_nil_right, List.length_singleton, emitLoop_cons, he,
        emitLoop_nil]
      have hnm : fs.nextIno ∉ st.fsView := fun h => Nat.lt_irrefl _ (hst _ h)
      simp [keys_evPre, MEv.stick, hnm, sameTree_refl]

/-- a re-appearing created flag announces an item the tree holds already (`hpres`), or one that is deleted at once -/
theorem sticky_plain_keys (fsx : FS) (m t r : Bool) (l : List (P × Ent)) (ss : List Sticky) (hlen : ss.length = l.length)
    (st : MSt) (t0 : Tree)
    (hpres : r = false → ∀ y ∈ l, (y.1, y.2.isDir) ∈ t0 ∧ ∀ z ∈ t0, z.1 = y.1 → z = (y.1, y.2.isDir)) :
    sameTree (replayK t0 ((emitLoop fsx ss.length st (stickAll (l.map (itemEv m t r)) ss)).2.filterMap key))
      (replayK t0 (l.flatMap (fun y => if r then [Key.del y.1] else []))) := by
  induction l generalizing ss st t0 with
  | nil =>
    obtain rfl := List.length_eq_zero_iff.mp hlen
    exact sameTree_refl _
  | cons y rest ih =>
    cases ss with
    | nil => cases hlen
    | cons s ss' =>
      have hlen' : ss'.length = rest.length := Nat.succ.inj hlen
      have he := emitOne_plain fsx st ((itemEv m t r y).stick s) (stickAll (rest.map (itemEv m t r)) ss') rfl rfl
      show sameTree (replayK t0 ((emitLoop fsx (ss'.length + 1) st
        ((itemEv m t r y).stick s :: stickAll (rest.map (itemEv m t r)) ss')).2.filterMap key)) _
      rw [emitLoop_cons, he, List.flatMap_cons]
      cases r with
      | false =>
        simp only [List.filterMap_append, keys_evPre, MEv.stick, itemEv, Bool.false_or, Bool.false_eq_true, if_false,
          List.append_nil, List.nil_append]
        have hy := (hpres rfl) y (List.mem_cons_self ..)
        have ih' := ih ss' hlen' (st.add y.2.ino) t0 (fun _ z hz => (hpres rfl) z (List.mem_cons_of_mem _ hz))
        cases (s.created && !st.fsView.contains y.2.ino)
        · exact ih'
        · exact sameTree_trans (sameTree_replayK (setEntry_present hy.1 hy.2) _) ih'
      | true =>
        simp only [List.filterMap_append, keys_evPre, MEv.stick, itemEv, Bool.false_or, if_true, key_evRemoved,
          List.append_assoc, List.singleton_append]
        rw [K_spurious _ t0 y.1 y.2.isDir _ _ (Or.inl rfl)]
        exact ih ss' hlen' ((st.add y.2.ino).discard y.2.ino) (applyKey t0 (.del y.1)) (fun h => by cases h)

theorem Plain.sticky {op : Op} {paths : List P} {m t r : Bool} (h : Plain fs op paths m t r) (hwf : fs.WF) (st : MSt)
    (hst : ViewOK st fs.nextIno) (hv : winValid fs op = true) (hroot : op ≠ .rmdir ["W"]) (ss : List Sticky)
    (hlen : ss.length = (macEvents fs op).length) :
    StickyOK fs op st (emitLoop (fsAfter fs op) ss.length st (stickAll (macEvents fs op) ss)) := by
  apply stickyOK_of_keys hwf hv hroot (h.ino ▸ hst)
  · intro a ha
    have := h.event_facts hwf a (h.events ▸ ha)
    exact ⟨h.ino ▸ this.1, this.2.2.2⟩
  · rw [h.events] at hlen ⊢
    rw [h.contract_keys]
    exact sticky_plain_keys _ m t r _ ss (by simpa using hlen) st _ (fun _ y hy => treeW_unique hwf (mem_sel hy).1 (mem_sel hy).2)

theorem keys_subMoved_append (a : List PEv) (b : List PEv) : (a ++ b).filterMap key = a.filterMap key ++ b.filterMap key :=
  List.filterMap_append

theorem sticky_rename (hwf : fs.WF) (st : MSt) (hst : ViewOK st fs.nextIno) (p q : P)
    (hv : winValid fs (.rename p q) = true) (ss : List Sticky) (hlen : ss.length = (macEvents fs (.rename p q)).length) :
    StickyOK fs (.rename p q) st (emitLoop (fsAfter fs (.rename p q)) ss.length st (stickAll (macEvents fs (.rename p q)) ss)) := by
  obtain ⟨e, ok⟩ := renameOK_of_valid (winValid_valid hv)
  have hi := entry_ino_lt hwf ok.he
  have hpn : p ≠ [] := ne_nil_of_two_le ok.hp2
  have hn : (fsAfter fs (.rename p q)).nextIno = fs.nextIno := by rw [fsAfter_rename ok]; rfl
  apply stickyOK_of_keys hwf hv (by intro h; cases h) (hn ▸ hst)
  · intro a ha
    rcases mem_macEvents_rename ok ha with rfl | rfl <;> exact ⟨hn ▸ hi, rfl⟩
  · rw [macEvents_rename ok] at hlen ⊢
    rw [macContract_rename ok, fsAfter_rename ok]
    cases hp : inW p <;> cases hq : inW q <;> rw [hp, hq] at hlen
    · obtain rfl := List.length_eq_zero_iff.mp (hlen : ss.length = 0)
      exact sameTree_refl _
    · obtain ⟨s, rfl⟩ := List.length_eq_one_iff.mp (hlen : ss.length = 1)
      have hl := loop_arrived (fs.renamed p q) st ((renEv e q).stick s) 0 ⟨rfl, rfl, rfl⟩ (existsNow_dst ok hwf _ rfl rfl)
      show sameTree (replayK _ ((emitLoop (fs.renamed p q) (0 + 1) st [(renEv e q).stick s]).2.filterMap key)) _
      rw [hl]
      simp only [List.filterMap_append, keys_evPre, key_evCreated, MEv.stick, renEv, Bool.false_and, Bool.false_eq_true,
        if_false, if_true, List.filterMap_cons, key_mk_created, key_dirMod, List.append_assoc,
        List.cons_append, List.nil_append]
      rw [K_spurious _ _ q e.isDir _ _ (Or.inr (Or.inr ⟨_, rfl⟩))]
      exact sameTree_refl _
    · obtain ⟨s, rfl⟩ := List.length_eq_one_iff.mp (hlen : ss.length = 1)
      have hl := loop_left (fs.renamed p q) st ((renEv e p).stick s) 0 ⟨rfl, rfl⟩ (existsNow_src ok hwf _ rfl)
      show sameTree (replayK _ ((emitLoop (fs.renamed p q) (0 + 1) st [(renEv e p).stick s]).2.filterMap key)) _
      rw [hl]
      simp only [List.filterMap_append, keys_evPre, key_evRemoved, MEv.stick, renEv, Bool.and_false, Bool.false_eq_true,
        if_false, if_true, keys_evDeleted]
      rw [K_spurious _ _ p e.isDir _ _ (Or.inl rfl)]
      exact sameTree_refl _
    · obtain ⟨s1, s2, rfl⟩ : ∃ s1 s2, ss = [s1, s2] := by
        rcases ss with _ | ⟨s1, _ | ⟨s2, _ | ⟨s3, r⟩⟩⟩
        · cases hlen
        · cases hlen
        · exact ⟨s1, s2, rfl⟩
        · cases hlen
      have hl := loop_pair (fs.renamed p q) st ((renEv e p).stick s1) ((renEv e q).stick s2) 1 ⟨rfl, rfl, rfl⟩ ⟨rfl, rfl, rfl⟩
      show sameTree (replayK _ ((emitLoop (fs.renamed p q) (1 + 1) st [(renEv e p).stick s1, (renEv e q).stick s2]).2.filterMap key)) _
      rw [hl]
      simp only [List.filterMap_append, keys_evPre, key_evModified, MEv.stick, renEv, Bool.and_self, if_true,
        List.filterMap_cons, key_mk_moved, key_dirMod, List.append_assoc,
        List.cons_append, List.nil_append, List.append_nil]
      rw [K_spurious _ _ p e.isDir _ _ (Or.inr (Or.inl ⟨_, _, rfl, hpn⟩))]
      exact sameTree_refl _

/-- C20 (FSEvents, sticky flags): whatever created / modified / inode-meta flags re-appear on the native events of a
    valid drained operation, the delivered stream replays to the tree after the operation, the emitter keeps running
    and its announced set stays sound -/
theorem sticky_step (hwf : fs.WF) (st : MSt) (hst : ViewOK st fs.nextIno) (op : Op) (hv : winValid fs op = true)
    (hroot : op ≠ .rmdir ["W"]) (ss : List Sticky) (hlen : ss.length = (macEvents fs op).length) :
    StickyOK fs op st (emitLoop (fsAfter fs op) ss.length st (stickAll (macEvents fs op) ss)) := by
  cases op with
  | create p => exact (Fresh.create p).sticky hwf st hst hv hroot ss hlen
  | mkdir p => exact (Fresh.mkdir p).sticky hwf st hst hv hroot ss hlen
  | write p => exact (Plain.write (winValid_valid hv)).sticky hwf st hst hv hroot ss hlen
  | chmod p => exact (Plain.chmod p).sticky hwf st hst hv hroot ss hlen
  | unlink p => exact (Plain.unlink p).sticky hwf st hst hv hroot ss hlen
  | rmdir p => exact (Plain.rmdir (fun h => hroot (h ▸ rfl))).sticky hwf st hst hv hroot ss hlen
  | rmtree p => exact (Plain.rmtree p).sticky hwf st hst hv hroot ss hlen
  | rmtreeOrd p order => exact (Plain.rmtreeOrd p order).sticky hwf st hst hv hroot ss hlen
  | rename p q => exact sticky_rename hwf st hst p q hv ss hlen

theorem stickAll_length (evs : List MEv) (ss : List Sticky) (h : ss.length = evs.length) : (stickAll evs ss).length = ss.length := by
  simp [stickAll, h]

/-- C20 (FSEvents, sticky flags, whole histories, recursive watch): replaying the delivered stream reproduces the tree -/
theorem sticky_run (s : MSys) (hrec : s.recursive = true) (oss : List (Op × List Sticky)) (hwf : s.fs.WF) (hs : s.st.stopped = false)
    (hview : ViewOK s.st s.fs.nextIno) (hv : winFsValid s.fs (oss.map Prod.fst) = true) (hroot : Op.rmdir ["W"] ∉ oss.map Prod.fst)
    (hl : stickyLens s.fs oss) :
    sameTree (replay (treeW s.fs) (s.runSticky oss).2.flatten) (treeW (fsRun s.fs (oss.map Prod.fst))) := by
  induction oss generalizing s with
  | nil => exact sameTree_refl _
  | cons x rest ih =>
    obtain ⟨op, ss⟩ := x
    simp only [List.map_cons, winFsValid, Bool.and_eq_true] at hv
    simp only [stickyLens] at hl
    have hne : op ≠ .rmdir ["W"] := fun h => hroot (by simp [h])
    obtain ⟨h1, h2, h3⟩ := sticky_step hwf s.st hview op hv.1 hne ss hl.1
    have hb : emitBatch (fsAfter s.fs op) s.recursive s.st (stickAll (macEvents s.fs op) ss) =
        emitLoop (fsAfter s.fs op) ss.length s.st (stickAll (macEvents s.fs op) ss) := by
      simp only [emitBatch, hrec, if_true, stickAll_length _ _ hl.1]
    simp only [MSys.runSticky, hs, Bool.false_eq_true, if_false, hb, List.map_cons, fsRun, List.flatten_cons, replay_append]
    have := ih { s with fs := fsAfter s.fs op, st := (emitLoop (fsAfter s.fs op) ss.length s.st (stickAll (macEvents s.fs op) ss)).1 }
      hrec (wf_after hwf op (winValid_valid hv.1) hne) (h2.trans hs) h3 hv.2 (fun h => hroot (by simp [h])) hl.2
    exact sameTree_trans (sameTree_replay h1 _) this

end WD.Mac
