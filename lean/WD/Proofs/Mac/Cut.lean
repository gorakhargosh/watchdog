/- FSEvents: a callback boundary between the two events of a rename (the emitter falls back to deleted + created +
   synthetic created events) still replays to the right tree -/
import WD.Proofs.Mac.Run
namespace WD.Mac
open WD WD.Pipe WD.Win

variable {fs : FS} {p q : P} {e : Ent}

theorem subCreated_as_subMoved (ok : RenameOK fs p q e) (hwf : fs.WF) (t : Tree)
    (ht : ∀ y ∈ t, y.1 ≠ p ∧ isUnder p y.1 = false) :
    sameTree (replay t (subCreated (fs.renamed p q) q)) (replay t (subMoved (fs.renamed p q) p q)) := by
  have hem := FS.find?_some ok.he
  have hfree := ok.q_free hwf
  have hwfR := ok.wf hwf
  have hpn : p ≠ [] := ne_nil_of_two_le ok.hp2
  have hpq : isUnder q p = false := by
    have := hfree e hem.1 (by rw [hem.2]; exact ok.hne); rwa [hem.2] at this
  have hinc : ∀ z, isUnder q z = true → z ≠ p ∧ isUnder p z = false := by
    intro z hz
    constructor
    · intro h; rw [h, hpq] at hz; cases hz
    · cases hc : isUnder p z with
      | false => rfl
      | true =>
        rcases prefix_comparable hz hc with h | h | h
        · exact absurd h.symm ok.hne
        · rw [hpq] at h; cases h
        · rw [ok.hnu] at h; cases h
  have hDnd : (((fs.renamed p q).descendants q).map Ent.path).Nodup :=
    List.Nodup.sublist (List.Sublist.map _ List.filter_sublist) hwfR.paths
  have hDq : ∀ d ∈ (fs.renamed p q).descendants q, isUnder q d.path = true := fun d hd => (List.mem_filter.mp hd).2
  intro y
  have h1 := mem_replay_subCreated ((fs.renamed p q).descendants q) hDnd t y
  have h2 := mem_replay_subMoved (q := q) p ((fs.renamed p q).descendants q) hDnd hDq hinc hpn t ht y
  exact h1.trans h2.symm

/-- the stream of a rename inside the tree whose two native events arrive in different callbacks -/
def cutStream (fs : FS) (p q : P) (d : Bool) : List PEv :=
  evDeleted d p ++ ([mkEv (createdCls d) q, dirMod q] ++ subCreated (fsAfter fs (.rename p q)) q)

theorem cut_rename_emits {fs : FS} (hwf : fs.WF) (st : MSt) (p q : P) (hv : winValid fs (.rename p q) = true)
    (hp : inW p = true) (hq : inW q = true) (x : Ent) (hx : fs.find? p = some x) :
    macEvents fs (.rename p q) = [renEv x p] ++ [renEv x q] ∧
    (emitBatch (fsAfter fs (.rename p q)) true (emitBatch (fsAfter fs (.rename p q)) true st [renEv x p]).1 [renEv x q]).2 =
      [mkEv (createdCls x.isDir) q, dirMod q] ++ subCreated (fsAfter fs (.rename p q)) q ∧
    (emitBatch (fsAfter fs (.rename p q)) true st [renEv x p]).2 = evDeleted x.isDir p := by
  obtain ⟨e, ok⟩ := renameOK_of_valid (winValid_valid hv)
  obtain rfl : e = x := Option.some.inj (ok.he.symm.trans hx)
  refine ⟨by rw [macEvents_rename ok, hp, hq]; rfl, ?_, ?_⟩
  · exact congrArg Prod.snd (loop_arrived _ _ (renEv e q) 0 ⟨rfl, rfl, rfl⟩ (fsAfter_rename ok ▸ existsNow_dst ok hwf _ rfl rfl))
  · exact congrArg Prod.snd (loop_left _ st (renEv e p) 0 ⟨rfl, rfl⟩ (fsAfter_rename ok ▸ existsNow_src ok hwf _ rfl))

/-- C20 (FSEvents, callback cut inside a rename): the fallback stream replays to the same tree -/
theorem cut_rename_replay {fs : FS} (hwf : fs.WF) (p q : P) (hv : winValid fs (.rename p q) = true)
    (hp : inW p = true) (hq : inW q = true) :
    sameTree (replay (treeW fs) (cutStream fs p q (fs.isDir p))) (treeW (fsAfter fs (.rename p q))) := by
  obtain ⟨e, ok⟩ := renameOK_of_valid (winValid_valid hv)
  have hd : fs.isDir p = e.isDir := by simp [FS.isDir, ok.he]
  have hpn : p ≠ [] := ne_nil_of_two_le ok.hp2
  have hqn : q ≠ [] := ne_nil_of_two_le ok.hq2
  have hne : Op.rename p q ≠ Op.rmdir ["W"] := by intro h; cases h
  -- the uncut contract stream replays to the tree after
  have huncut := mac_replay_contract hwf (.rename p q) hv hne
  simp only [macContract, ok.he, hp, hq, Bool.and_self, if_true] at huncut
  rw [fsAfter_rename ok] at huncut ⊢
  apply sameTree_trans _ huncut
  simp only [cutStream, hd, fsAfter_rename ok, replay_append, replay_evDeleted, List.cons_append, List.nil_append, replay_cons,
    applyEv_dirMod, applyEv_mk_created, applyEv_mk_moved _ _ _ _ hpn hqn]
  apply subCreated_as_subMoved ok hwf
  intro z hz
  rcases mem_setEntry.mp hz with ⟨h1, _⟩ | h1
  · have := mem_eraseSub.mp h1; exact ⟨this.2.1, this.2.2⟩
  · rw [h1]; exact ⟨fun h => ok.hne h.symm, ok.hnu⟩

end WD.Mac
