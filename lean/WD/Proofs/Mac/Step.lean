/- the FSEvents emitter: the equations of one iteration of its loop, the invariant `ViewOK`, what the simulator renders
   for each kind of operation, and that one drained operation yields the FSEvents contract -/
import WD.Model.MacEmit
import WD.Proofs.Win.Run
namespace WD.Mac
open WD WD.Pipe

theorem mem_add {st : MSt} {i j : Nat} : j ∈ (st.add i).fsView ↔ j = i ∨ j ∈ st.fsView := by
  simp only [MSt.add]
  split
  · rename_i h
    constructor
    · exact Or.inr
    · rintro (h1 | h1)
      · subst h1; simpa using h
      · exact h1
  · simp
theorem mem_discard {st : MSt} {i j : Nat} : j ∈ (st.discard i).fsView ↔ j ∈ st.fsView ∧ j ≠ i := by
  simp [MSt.discard]
@[simp] theorem add_stopped (st : MSt) (i : Nat) : (st.add i).stopped = st.stopped := rfl
@[simp] theorem discard_stopped (st : MSt) (i : Nat) : (st.discard i).stopped = st.stopped := rfl

/-- the announced inodes stay below the next inode the file system hands out -/
def ViewOK (st : MSt) (n : Nat) : Prop := ∀ i ∈ st.fsView, i < n

theorem ViewOK.add {st : MSt} {n i : Nat} (h : ViewOK st n) (hi : i < n) : ViewOK (st.add i) n := by
  intro j hj; rcases mem_add.mp hj with h1 | h1
  · omega
  · exact h j h1
theorem ViewOK.discard {st : MSt} {n i : Nat} (h : ViewOK st n) : ViewOK (st.discard i) n :=
  fun j hj => h j (mem_discard.mp hj).1
theorem ViewOK.discardIf {st : MSt} {n : Nat} (h : ViewOK st n) (b : Bool) (i : Nat) :
    ViewOK (if b then st.discard i else st) n := by
  cases b
  · exact h
  · exact h.discard
theorem ViewOK.mono {st : MSt} {n m : Nat} (h : ViewOK st n) (hnm : n ≤ m) : ViewOK st m :=
  fun j hj => Nat.lt_of_lt_of_le (h j hj) hnm
theorem ViewOK.not_mem {st : MSt} {n : Nat} (h : ViewOK st n) : st.fsView.contains n = false := by
  cases hc : st.fsView.contains n with
  | false => rfl
  | true => have := h n (by simpa using hc); omega

theorem discardIf_stopped (st : MSt) (b : Bool) (i : Nat) : (if b then st.discard i else st).stopped = st.stopped := by
  cases b <;> rfl

/-- what every iteration queues first: the creation of an item not announced yet, then its modification -/
def evPre (st : MSt) (e : MEv) : List PEv :=
  (if e.created && !st.fsView.contains e.ino then evCreated e else []) ++ evModified e

/-- the `created && removed` branch of `emitOne` is covered too -/
theorem emitOne_plain (fsx : FS) (st : MSt) (e : MEv) (rest : List MEv) (hr : e.renamed = false) (hx : e.rootChanged = false) :
    emitOne fsx st e rest =
      (if e.removed then (st.add e.ino).discard e.ino else st.add e.ino,
       evPre st e ++ (if e.removed then evRemoved e else []), rest) := by
  simp only [emitOne, evPre, hr, hx, Bool.false_eq_true, if_false]
  cases e.created <;> cases e.removed <;> cases st.fsView.contains e.ino <;> rfl

theorem emitOne_pair (fsx : FS) (st : MSt) (e d : MEv) (rest : List MEv) (hr : e.renamed = true) (hm : e.removed = false)
    (hx : e.rootChanged = false) (hf : findDst e rest = some d) (hd : d.removed = false) :
    emitOne fsx st e rest =
      (st.add e.ino,
       evPre st e ++ [mkEv (movedCls e.isDir) e.path d.path, dirMod e.path, dirMod d.path] ++ subMoved fsx e.path d.path ++ evModified d,
       rest.erase d) := by
  simp [emitOne, evPre, hr, hm, hx, hf, hd]

theorem emitOne_arrived (fsx : FS) (st : MSt) (e : MEv) (rest : List MEv) (hr : e.renamed = true) (hm : e.removed = false)
    (hx : e.rootChanged = false) (hf : findDst e rest = none) (hex : existsNow fsx e = true) :
    emitOne fsx st e rest = (st.add e.ino, evPre st e ++ evCreated e ++ subCreated fsx e.path, rest) := by
  simp [emitOne, evPre, hr, hm, hx, hf, hex]

theorem emitOne_left (fsx : FS) (st : MSt) (e : MEv) (rest : List MEv) (hr : e.renamed = true) (hm : e.removed = false)
    (hf : findDst e rest = none) (hex : existsNow fsx e = false) :
    emitOne fsx st e rest = ((st.add e.ino).discard e.ino, evPre st e ++ evRemoved e, rest) := by
  simp [emitOne, evPre, hr, hm, hf, hex]

theorem emitLoop_nil (fsx : FS) (n : Nat) (st : MSt) : emitLoop fsx n st [] = (st, []) := by cases n <;> rfl

theorem emitLoop_cons (fsx : FS) (n : Nat) (st : MSt) (e : MEv) (rest : List MEv) :
    emitLoop fsx (n + 1) st (e :: rest) =
      ((emitLoop fsx n (emitOne fsx st e rest).1 (emitOne fsx st e rest).2.2).1,
       (emitOne fsx st e rest).2.1 ++ (emitLoop fsx n (emitOne fsx st e rest).1 (emitOne fsx st e rest).2.2).2) := rfl

theorem emitOne_facts (fsx : FS) (st : MSt) (e : MEv) (rest : List MEv) (m : Nat) (hst : ViewOK st m) (he : e.ino < m) :
    ViewOK (emitOne fsx st e rest).1 m ∧ (e.rootChanged = false → (emitOne fsx st e rest).1.stopped = st.stopped) ∧
    (∀ d ∈ (emitOne fsx st e rest).2.2, d ∈ rest) := by
  have hadd := hst.add he
  generalize hr : emitOne fsx st e rest = r
  unfold emitOne at hr
  extract_lets historic root at hr
  have hroot : ∀ (st' : MSt) (evs : List PEv) (rest' : List MEv), ViewOK st' m → st'.stopped = st.stopped →
      (∀ d ∈ rest', d ∈ rest) →
      ViewOK (root st' evs rest').1 m ∧ (e.rootChanged = false → (root st' evs rest').1.stopped = st.stopped) ∧
      (∀ d ∈ (root st' evs rest').2.2, d ∈ rest) := by
    intro st' evs rest' h1 h2 h3
    simp only [root]
    cases e.rootChanged
    · exact ⟨h1, fun _ => h2, h3⟩
    · exact ⟨fun _ h => (by cases h), fun h => (by cases h), h3⟩
  clear_value root
  -- the branches are taken one `rw` at a time: `split` on this term is many times slower to check
  by_cases hcr : (e.created && e.removed) = true
  · rw [if_pos hcr] at hr
    subst hr; exact hroot _ _ _ hadd.discard rfl (fun _ h => h)
  · rw [if_neg hcr] at hr
    by_cases hren : e.renamed = true
    · rw [if_pos hren] at hr
      cases hf : findDst e rest with
      | some d =>
        rw [hf] at hr
        subst hr
        exact hroot _ _ _ ((hadd.discardIf _ _).discardIf _ _) (by rw [discardIf_stopped, discardIf_stopped]; rfl)
          (fun z hz => List.mem_of_mem_erase hz)
      | none =>
        rw [hf] at hr
        by_cases hex : existsNow fsx e = true
        · rw [if_pos hex] at hr
          subst hr; exact hroot _ _ _ (hadd.discardIf _ _) (by rw [discardIf_stopped]; rfl) (fun _ h => h)
        · rw [if_neg hex] at hr
          subst hr; exact ⟨hadd.discard, fun _ => rfl, fun _ h => h⟩
    · rw [if_neg hren] at hr
      subst hr; exact hroot _ _ _ (hadd.discardIf _ _) (by rw [discardIf_stopped]; rfl) (fun _ h => h)

theorem loop_facts (fsx : FS) (m : Nat) (n : Nat) (st : MSt) (evs : List MEv) (hst : ViewOK st m) (he : ∀ e ∈ evs, e.ino < m) :
    ViewOK (emitLoop fsx n st evs).1 m ∧ ((∀ e ∈ evs, e.rootChanged = false) → (emitLoop fsx n st evs).1.stopped = st.stopped) := by
  induction n generalizing st evs with
  | zero => exact ⟨hst, fun _ => rfl⟩
  | succ n ih =>
    cases evs with
    | nil => exact ⟨hst, fun _ => rfl⟩
    | cons e rest =>
      obtain ⟨h1, h2, h3⟩ := emitOne_facts fsx st e rest m hst (he e (List.mem_cons_self ..))
      have ih' := ih (emitOne fsx st e rest).1 (emitOne fsx st e rest).2.2 h1 (fun d hd => he d (List.mem_cons_of_mem _ (h3 d hd)))
      simp only [emitLoop]
      refine ⟨ih'.1, fun hx => ?_⟩
      rw [ih'.2 (fun d hd => hx d (List.mem_cons_of_mem _ (h3 d hd))), h2 (hx e (List.mem_cons_self ..))]

theorem loop_plain (fsx : FS) (evs : List MEv) (h : ∀ e ∈ evs, e.created = false ∧ e.renamed = false ∧ e.rootChanged = false)
    (n : Nat) (hn : evs.length ≤ n) (st : MSt) :
    (emitLoop fsx n st evs).2 = evs.flatMap (fun e => evModified e ++ if e.removed then evRemoved e else []) := by
  induction evs generalizing n st with
  | nil => rw [emitLoop_nil]; rfl
  | cons e rest ih =>
    obtain ⟨hc, hr, hx⟩ := h e (List.mem_cons_self ..)
    cases n with
    | zero => simp at hn
    | succ n =>
      rw [emitLoop_cons, emitOne_plain fsx st e rest hr hx, List.flatMap_cons,
        ih (fun x hx => h x (List.mem_cons_of_mem _ hx)) n (by simpa using hn)]
      simp only [evPre, hc, Bool.false_and, Bool.false_eq_true, if_false, List.nil_append]

theorem loop_pair (fsx : FS) (st : MSt) (a b : MEv) (n : Nat) (ha : a.renamed = true ∧ a.removed = false ∧ a.rootChanged = false)
    (hb : b.renamed = true ∧ b.ino = a.ino ∧ b.removed = false) :
    emitLoop fsx (n + 1) st [a, b] =
      (st.add a.ino, evPre st a ++ [mkEv (movedCls a.isDir) a.path b.path, dirMod a.path, dirMod b.path] ++
        subMoved fsx a.path b.path ++ evModified b) := by
  have hf : findDst a [b] = some b := by simp [findDst, hb.1, hb.2.1]
  rw [emitLoop_cons, emitOne_pair fsx st a b [b] ha.1 ha.2.1 ha.2.2 hf hb.2.2]
  simp [emitLoop_nil]

theorem loop_arrived (fsx : FS) (st : MSt) (a : MEv) (n : Nat) (ha : a.renamed = true ∧ a.removed = false ∧ a.rootChanged = false)
    (hex : existsNow fsx a = true) :
    emitLoop fsx (n + 1) st [a] = (st.add a.ino, evPre st a ++ evCreated a ++ subCreated fsx a.path) := by
  rw [emitLoop_cons, emitOne_arrived fsx st a [] ha.1 ha.2.1 ha.2.2 rfl hex]
  simp [emitLoop_nil]

theorem loop_left (fsx : FS) (st : MSt) (a : MEv) (n : Nat) (ha : a.renamed = true ∧ a.removed = false)
    (hex : existsNow fsx a = false) :
    emitLoop fsx (n + 1) st [a] = ((st.add a.ino).discard a.ino, evPre st a ++ evRemoved a) := by
  rw [emitLoop_cons, emitOne_left fsx st a [] ha.1 ha.2 rfl hex]
  simp [emitLoop_nil]

theorem find?_renamed_src {fs : FS} {p q : P} {e : Ent} (ok : RenameOK fs p q e) (hwf : fs.WF) : (fs.renamed p q).find? p = none := by
  rw [FS.find?_none]
  intro y hy
  obtain ⟨x, hx, hxq, rfl⟩ := FS.mem_renamed.mp hy
  have hem := FS.find?_some ok.he
  have hqp : isUnder q p = false := by
    have := ok.q_free hwf e hem.1 (by rw [hem.2]; exact ok.hne)
    rwa [hem.2] at this
  simp only [rwEnt]
  rcases rwPath_cases p q x.path with ⟨_, e1⟩ | ⟨_, _, u1⟩ | ⟨h1, _, e1⟩
  · rw [e1]; exact fun h => ok.hne h.symm
  · intro h; rw [h, hqp] at u1; cases u1
  · rw [e1]; exact h1

theorem entry_ino_lt {fs : FS} (hwf : fs.WF) {p : P} {x : Ent} (h : fs.find? p = some x) : x.ino < fs.nextIno :=
  hwf.inoLt (FS.find?_some h).1

def itemEv (m t r : Bool) (y : P × Ent) : MEv :=
  { path := y.1, ino := y.2.ino, isDir := y.2.isDir, modified := m, metaMod := t, removed := r }

def sel (fs : FS) (paths : List P) : List (P × Ent) :=
  paths.filterMap (fun q => (fs.find? q).bind (fun x => if inW q then some (q, x) else none))

theorem mem_sel {fs : FS} {paths : List P} {y : P × Ent} (h : y ∈ sel fs paths) : fs.find? y.1 = some y.2 ∧ inW y.1 = true := by
  simp only [sel, List.mem_filterMap] at h
  obtain ⟨q, _, hq⟩ := h
  cases hf : fs.find? q with
  | none => simp [hf] at hq
  | some x =>
    simp only [hf, Option.bind_some] at hq
    split at hq
    · cases hq; exact ⟨hf, by assumption⟩
    · cases hq

theorem sel_flatMap {β : Type} (fs : FS) (g : P × Ent → List β) (paths : List P) :
    paths.flatMap (fun q => match fs.find? q with
      | some x => if inW q then g (q, x) else []
      | none => []) = (sel fs paths).flatMap g := by
  induction paths with
  | nil => rfl
  | cons q rest ih =>
    simp only [List.flatMap_cons, sel, List.filterMap_cons] at ih ⊢
    cases hf : fs.find? q with
    | none => simpa using ih
    | some x =>
      cases hw : inW q with
      | false => simpa [hw] using ih
      | true => simp [ih]

theorem sel_one {β : Type} (fs : FS) (g : P × Ent → List β) (p : P) :
    (match fs.find? p with
      | some x => if inW p then g (p, x) else []
      | none => []) = (sel fs [p]).flatMap g := by
  simpa using sel_flatMap fs g [p]

theorem removeAll_nextIno (es : List Ent) (fs : FS) (k : Kern) : (removeAll fs k es).1.nextIno = fs.nextIno := by
  induction es generalizing fs k with
  | nil => rfl
  | cons x rest ih =>
    rw [removeAll_cons]
    simp only
    rw [ih]
    simp [removeEntry]

/-- an operation on entries that stay where they are: a write, a chmod, removals -/
structure Plain (fs : FS) (op : Op) (paths : List P) (m t r : Bool) : Prop where
  events : macEvents fs op = (sel fs paths).map (itemEv m t r)
  contract : macContract fs op =
    ((sel fs paths).flatMap (fun y => evModified (itemEv m t r y) ++ if r then evDeleted y.2.isDir y.1 else []), false)
  ino : (fsAfter fs op).nextIno = fs.nextIno

variable {fs : FS}

theorem Plain.write {p : P} (hv : fs.isFile p = true) : Plain fs (.write p) [p] true false false := by
  obtain ⟨e, he, hd⟩ := FS.isFile_iff.mp hv
  refine ⟨(sel_one fs (fun y => [itemEv true false false y]) p).trans List.map_eq_flatMap.symm, ?_, rfl⟩
  rw [← sel_one]
  cases hw : inW p <;> simp [macContract, he, hd, hw, FS.exists, evModified, itemEv]

theorem Plain.chmod (p : P) : Plain fs (.chmod p) [p] false true false :=
  ⟨(sel_one fs (fun y => [itemEv false true false y]) p).trans List.map_eq_flatMap.symm,
   congrArg (·, false) (sel_one fs (fun y => evModified (itemEv false true false y) ++ []) p),
   by simp only [fsAfter, kernelOp]; split <;> rfl⟩

theorem Plain.unlink (p : P) : Plain fs (.unlink p) [p] false false true :=
  ⟨(sel_one fs (fun y => [itemEv false false true y]) p).trans List.map_eq_flatMap.symm,
   congrArg (·, false) (sel_one fs (fun y => evDeleted y.2.isDir y.1) p),
   by simp only [fsAfter, kernelOp]; split <;> simp [removeEntry]⟩

theorem Plain.rmdir {p : P} (h : p ≠ ["W"]) : Plain fs (.rmdir p) [p] false false true := by
  have hb : (p == ["W"]) = false := by simp [h]
  refine ⟨?_, ?_, by simp only [fsAfter, kernelOp]; split <;> simp [removeEntry]⟩
  · simp only [macEvents, hb, Bool.false_eq_true, if_false]
    exact (sel_one fs (fun y => [itemEv false false true y]) p).trans List.map_eq_flatMap.symm
  · simp only [macContract, hb, Bool.false_eq_true, if_false]
    exact congrArg (·, false) (sel_one fs (fun y => evDeleted y.2.isDir y.1) p)

theorem Plain.rmtreeOrd (p : P) (order : List P) : Plain fs (.rmtreeOrd p order) (order ++ [p]) false false true :=
  ⟨(sel_flatMap fs (fun y => [itemEv false false true y]) _).trans List.map_eq_flatMap.symm,
   congrArg (·, false) (sel_flatMap fs (fun y => evDeleted y.2.isDir y.1) _),
   by simp only [fsAfter, kernelOp]; split <;> simp [removeAll_nextIno]⟩

theorem Plain.rmtree (p : P) : Plain fs (.rmtree p) (canonOrder fs p ++ [p]) false false true :=
  ⟨(sel_flatMap fs (fun y => [itemEv false false true y]) _).trans List.map_eq_flatMap.symm,
   congrArg (·, false) (sel_flatMap fs (fun y => evDeleted y.2.isDir y.1) _),
   by simp only [fsAfter, kernelOp]; split <;> simp [removeAll_nextIno]⟩

def StepOK (fs : FS) (op : Op) (st : MSt) (r : MSt × List PEv) : Prop :=
  r.2 = (macContract fs op).1 ∧ r.1.stopped = (st.stopped || (macContract fs op).2) ∧ ViewOK r.1 (fsAfter fs op).nextIno

theorem Plain.event_facts {op : Op} {paths : List P} {m t r : Bool} (_ : Plain fs op paths m t r) (hwf : fs.WF) :
    ∀ e ∈ (sel fs paths).map (itemEv m t r),
      e.ino < fs.nextIno ∧ e.created = false ∧ e.renamed = false ∧ e.rootChanged = false := by
  intro e he
  obtain ⟨y, hy, rfl⟩ := List.mem_map.mp he
  exact ⟨entry_ino_lt hwf (mem_sel hy).1, rfl, rfl, rfl⟩

theorem Plain.loop {op : Op} {paths : List P} {m t r : Bool} (h : Plain fs op paths m t r) (hwf : fs.WF) (st : MSt)
    (hst : ViewOK st fs.nextIno) :
    StepOK fs op st (emitLoop (fsAfter fs op) (macEvents fs op).length st (macEvents fs op)) := by
  have hf := h.event_facts hwf
  obtain ⟨h1, h2⟩ := loop_facts (fsAfter fs op) fs.nextIno (macEvents fs op).length st _ hst (fun e he => (hf e (h.events ▸ he)).1)
  refine ⟨?_, ?_, h.ino ▸ h1⟩
  · rw [h.events, h.contract, loop_plain _ _ (fun e he => (hf e he).2) _ (Nat.le_refl _), List.flatMap_map]
    rfl
  · rw [h2 (fun e he => (hf e (h.events ▸ he)).2.2.2), h.contract, Bool.or_false]

structure Fresh (fs : FS) (op : Op) (p : P) (d : Bool) : Prop where
  events : macEvents fs op = if inW p then [{ path := p, ino := fs.nextIno, isDir := d, created := true }] else []
  contract : macContract fs op = (if inW p then [mkEv (createdCls d) p, dirMod p] else [], false)
  ino : (fsAfter fs op).nextIno = fs.nextIno + 1

theorem Fresh.create (p : P) : Fresh fs (.create p) p false := ⟨rfl, rfl, rfl⟩
theorem Fresh.mkdir (p : P) : Fresh fs (.mkdir p) p true := ⟨rfl, rfl, rfl⟩

theorem Fresh.loop {op : Op} {p : P} {d : Bool} (h : Fresh fs op p d) (st : MSt) (hst : ViewOK st fs.nextIno) :
    StepOK fs op st (emitLoop (fsAfter fs op) (macEvents fs op).length st (macEvents fs op)) := by
  unfold StepOK
  rw [h.events, h.contract, h.ino]
  cases inW p
  · exact ⟨rfl, (Bool.or_false _).symm, hst.mono (Nat.le_succ _)⟩
  · have he := emitOne_plain (fsAfter fs op) st { path := p, ino := fs.nextIno, isDir := d, created := true } [] rfl rfl
    simp only [if_true, List.length_singleton, emitLoop_cons, he, emitLoop_nil, evPre, hst.not_mem, evModified, evCreated]
    exact ⟨rfl, (Bool.or_false _).symm, (hst.mono (Nat.le_succ _)).add (Nat.lt_succ_self _)⟩

def renEv (x : Ent) (path : P) : MEv := { path := path, ino := x.ino, isDir := x.isDir, renamed := true }

variable {p q : P} {e : Ent}

theorem macEvents_rename (ok : RenameOK fs p q e) :
    macEvents fs (.rename p q) = (if inW p then [renEv e p] else []) ++ (if inW q then [renEv e q] else []) := by
  simp only [macEvents, ok.he]; rfl

theorem mem_macEvents_rename (ok : RenameOK fs p q e) {a : MEv} (ha : a ∈ macEvents fs (.rename p q)) :
    a = renEv e p ∨ a = renEv e q := by
  rw [macEvents_rename ok] at ha
  rcases List.mem_append.mp ha with h | h <;> split at h
  · exact Or.inl (List.mem_singleton.mp h)
  · cases h
  · exact Or.inr (List.mem_singleton.mp h)
  · cases h

theorem macContract_rename (ok : RenameOK fs p q e) :
    macContract fs (.rename p q) =
      (if inW p && inW q then [mkEv (movedCls e.isDir) p q, dirMod p, dirMod q] ++ subMoved (fs.renamed p q) p q
       else if inW p then evDeleted e.isDir p
       else if inW q then [mkEv (createdCls e.isDir) q, dirMod q] ++ subCreated (fs.renamed p q) q else [], false) := by
  simp only [macContract, ok.he, fsAfter_rename ok]
  cases inW p <;> cases inW q <;> rfl

theorem existsNow_dst (ok : RenameOK fs p q e) (hwf : fs.WF) (a : MEv) (hp : a.path = q) (hi : a.ino = e.ino) :
    existsNow (fs.renamed p q) a = true := by
  simp [existsNow, hp, ok.find_renamed_dest hwf, rwEnt, hi]

theorem existsNow_src (ok : RenameOK fs p q e) (hwf : fs.WF) (a : MEv) (hp : a.path = p) :
    existsNow (fs.renamed p q) a = false := by
  simp [existsNow, hp, find?_renamed_src ok hwf]

/-- what one callback with the events of one drained operation delivers (before the non-recursive filter) -/
theorem loop_step (hwf : fs.WF) (st : MSt) (hst : ViewOK st fs.nextIno) (op : Op) (hv : Win.winValid fs op = true) :
    StepOK fs op st (emitLoop (fsAfter fs op) (macEvents fs op).length st (macEvents fs op)) := by
  have hv := Win.winValid_valid hv
  cases op with
  | create p => exact (Fresh.create p).loop st hst
  | mkdir p => exact (Fresh.mkdir p).loop st hst
  | write p => exact (Plain.write hv).loop hwf st hst
  | chmod p => exact (Plain.chmod p).loop hwf st hst
  | unlink p => exact (Plain.unlink p).loop hwf st hst
  | rmtree p => exact (Plain.rmtree p).loop hwf st hst
  | rmtreeOrd p order => exact (Plain.rmtreeOrd p order).loop hwf st hst
  | rmdir p =>
    by_cases hw : p = ["W"]
    · subst hw
      exact ⟨rfl, (Bool.or_true _).symm, fun _ h => nomatch h⟩
    · exact (Plain.rmdir hw).loop hwf st hst
  | rename p q =>
    obtain ⟨e, ok⟩ := renameOK_of_valid hv
    have hi := entry_ino_lt hwf ok.he
    have hf : ∀ a ∈ macEvents fs (.rename p q), a.ino < fs.nextIno ∧ a.rootChanged = false := by
      intro a ha
      rcases mem_macEvents_rename ok ha with rfl | rfl <;> exact ⟨hi, rfl⟩
    obtain ⟨h1, h2⟩ := loop_facts (fsAfter fs (.rename p q)) fs.nextIno (macEvents fs (.rename p q)).length st _ hst (fun a ha => (hf a ha).1)
    refine ⟨?_, ?_, fsAfter_rename ok ▸ h1⟩
    · rw [macEvents_rename ok, macContract_rename ok, fsAfter_rename ok]
      cases inW p <;> cases inW q
      · rfl
      · exact congrArg Prod.snd (loop_arrived _ st (renEv e q) 0 ⟨rfl, rfl, rfl⟩ (existsNow_dst ok hwf _ rfl rfl))
      · exact congrArg Prod.snd (loop_left _ st (renEv e p) 0 ⟨rfl, rfl⟩ (existsNow_src ok hwf _ rfl))
      · exact (congrArg Prod.snd (loop_pair _ st (renEv e p) (renEv e q) 1 ⟨rfl, rfl, rfl⟩ ⟨rfl, rfl, rfl⟩)).trans (List.append_nil _)
    · rw [h2 (fun a ha => (hf a ha).2), macContract_rename ok, Bool.or_false]

end WD.Mac
