/- The invariant behind WD.Props.C12.  Each step of reader, closer and kernel is an update of one of a few kinds (a
   call on an open descriptor, the reader moving between program counters, `_close_resources()`, ..); `Inv` is shown
   to survive each kind once, and the step functions are brought to these updates by three equations.  At the end the
   constructor: which of its calls fails decides what is left open (`ctor_some`). -/
import WD.Model.FdProto
namespace WD.ProofsFd
open WD.Fd

/-- log entries the fake kernel accepts -/
def good : Ev → Bool
  | .use _ _ => true
  | .close _ => true
  | _ => false

def goodL (l : List Ev) : Bool := l.all good

def cnt (l : List Ev) (fd : Fd) : Nat := (l.filter (· == .close fd)).length

theorem goodL_append (l l' : List Ev) : goodL (l ++ l') = (goodL l && goodL l') := by
  simp [goodL]

theorem goodL_nil : goodL [] = true := rfl

theorem goodL_cons_use (f : Fd) (w : String) (l : List Ev) : goodL (.use f w :: l) = goodL l := by
  simp [goodL, good]

theorem goodL_cons_close (f : Fd) (l : List Ev) : goodL (.close f :: l) = goodL l := by
  simp [goodL, good]

theorem cnt_append (l l' : List Ev) (fd : Fd) : cnt (l ++ l') fd = cnt l fd + cnt l' fd := by
  simp [cnt, List.filter_append]

theorem cnt_nil (fd : Fd) : cnt [] fd = 0 := rfl

theorem cnt_cons_use (f : Fd) (w : String) (l : List Ev) (fd : Fd) : cnt (.use f w :: l) fd = cnt l fd := by
  simp [cnt]

theorem cnt_cons_close (f : Fd) (l : List Ev) (fd : Fd) :
    cnt (.close f :: l) fd = (if f = fd then 1 else 0) + cnt l fd := by
  by_cases h : f = fd <;> simp [cnt, h] <;> omega

theorem useFd_open {s : State} {fd : Fd} (h : s.isOpen fd = true) (w : String) :
    s.useFd fd w = { s with log := s.log ++ [.use fd w] } := if_pos h

theorem closeResources_open {s : State} (h1 : s.inoOpen = true) (h2 : s.killROpen = true)
    (h3 : s.killWOpen = true) :
    s.closeResources = { s with
      inoOpen := false, killROpen := false, killWOpen := false,
      log := s.log ++ [.close .ino, .close .killR, .close .killW] } := by
  simp [State.closeResources, State.closeFd, State.isOpen, h1, h2, h3]

theorem readerLoop_eq (s : State) (leave : Bool) :
    readerLoop s leave = { s with reader := if s.stopFlag || leave then .done else .rAcq1 } := by
  unfold readerLoop; split <;> rfl

/-- the reader is between `_is_reading = True` and `_is_reading = False` -/
def reads : Pc → Bool
  | .rPoll | .rAcq2 _ => true
  | _ => false

theorem reads_iff (pc : Pc) : reads pc = true ↔ (pc = .rPoll ∨ ∃ buf, pc = .rAcq2 buf) := by
  cases pc <;> simp [reads]

theorem loop_idle (c : Bool) : reads (if c then .done else .rAcq1) = false := by
  cases c <;> rfl

theorem not_rPoll {pc : Pc} (h : reads pc = false) : pc ≠ .rPoll := fun e => by
  rw [e] at h; cases h

structure Inv (s : State) : Prop where
  same1 : s.killROpen = s.inoOpen
  same2 : s.killWOpen = s.inoOpen
  clos : s.inoOpen = false → s.closed = true
  rd : s.isReading = true ↔ (s.reader = .rPoll ∨ ∃ buf, s.reader = .rAcq2 buf)
  hand : s.closed = true → s.inoOpen = true → s.isReading = true
  inside : s.isReading = true → s.inoOpen = true
  wake : s.closed = true → s.reader = .rPoll → s.killData = true
  lgood : goodL s.log = true
  lcnt : ∀ fd, cnt s.log fd = if s.inoOpen then 0 else 1
  past : s.closer = .cDq ∨ s.closer = .cJoin ∨ s.closer = .done → s.closed = true

/- `Inv` does not mention `kernel`, `plan`, `stopFlag`, `rootWatched`, `inoData` and `puts`.  For `h : Inv s` and a
   state `s'` written as an update of `s`, `{ h with f := .. }` proves `Inv s'`: the fields of `h` not listed are
   taken over, which typechecks wherever the update leaves alone what the field speaks of. -/

theorem inv_init (plan : List (List Rec)) : Inv (init plan) := by
  constructor <;> simp [init, cnt_nil, goodL_nil]

theorem Inv.open_of_not_closed {s : State} (h : Inv s) (hc : ¬ s.closed = true) : s.inoOpen = true := by
  cases ho : s.inoOpen
  · exact absurd (h.clos ho) hc
  · rfl

theorem Inv.reads_eq {s : State} (h : Inv s) : reads s.reader = s.isReading :=
  Bool.eq_iff_iff.2 ((reads_iff _).trans h.rd.symm)

theorem Inv.use {s : State} (h : Inv s) (fd : Fd) (w : String) : Inv { s with log := s.log ++ [.use fd w] } :=
  { h with
    lgood := by rw [goodL_append]; exact Bool.and_eq_true_iff.2 ⟨h.lgood, rfl⟩
    lcnt := fun x => by rw [cnt_append, cnt_cons_use]; exact h.lcnt x }

theorem Inv.move {s : State} (h : Inv s) {pc : Pc} (hr : s.reader = pc) (pc' : Pc) (hrd : reads pc' = reads pc)
    (hp : pc' ≠ .rPoll) : Inv { s with reader := pc' } :=
  { h with
    rd := by rw [← reads_iff, hrd, ← hr, reads_iff]; exact h.rd
    wake := fun _ e => absurd e hp }

theorem Inv.readerLoop {s : State} (h : Inv s) {pc : Pc} (hr : s.reader = pc) (hn : reads pc = false)
    (leave : Bool) : Inv (readerLoop s leave) := by
  rw [readerLoop_eq]
  exact h.move hr _ ((loop_idle _).trans hn.symm) (not_rPoll (loop_idle _))

theorem Inv.set_reading {s : State} (h : Inv s) (hc : ¬ s.closed = true) (pc : Pc) :
    Inv { s with isReading := reads pc, reader := pc } :=
  { h with
    rd := reads_iff pc
    hand := fun c => absurd c hc
    inside := fun _ => h.open_of_not_closed hc
    wake := fun c => absurd c hc }

theorem Inv.released {s0 s : State} (h : Inv s0) (ho : s0.inoOpen = true)
    (hl : s.log = s0.log ++ [.close .ino, .close .killR, .close .killW]) (h1 : s.inoOpen = false)
    (h2 : s.killROpen = false) (h3 : s.killWOpen = false) (hc : s.closed = true) (hi : s.isReading = false)
    (hr : reads s.reader = false) : Inv s where
  same1 := h2.trans h1.symm
  same2 := h3.trans h1.symm
  clos _ := hc
  rd := by rw [← reads_iff, hi, hr]
  hand _ o := absurd (h1 ▸ o) nofun
  inside i := absurd (hi ▸ i) nofun
  wake _ e := absurd e (not_rPoll hr)
  lgood := by rw [hl, goodL_append]; exact Bool.and_eq_true_iff.2 ⟨h.lgood, rfl⟩
  lcnt fd := by rw [hl, cnt_append, h.lcnt, ho, h1]; cases fd <;> rfl
  past _ := hc

theorem Inv.add_watches {s : State} (h : Inv s) (ho : s.inoOpen = true) (buf : List Rec) :
    ∃ l, Inv { s with log := l } ∧
      buf.foldl (fun acc r => if r = .dirCreate then acc.useFd .ino "inotify_add_watch" else acc) s
        = { s with log := l } := by
  induction buf generalizing s with
  | nil => exact ⟨_, h, rfl⟩
  | cons r rs ih =>
    rw [List.foldl_cons]
    split
    · rw [useFd_open (fd := .ino) ho]; exact ih (h.use ..) ho
    · exact ih h ho

theorem of_guard {α : Type} {c : Prop} [Decidable c] {x : Option α} {y : α}
    (h : (if c then none else x) = some y) : x = some y := by
  split at h
  · cases h
  · exact h

/- In the proofs below `hs` is brought to the form `some { s with .. } = some s'`; where the intermediate states of the
   step function need names, its `have`s are kept (`-zeta`) for `extract_lets`. -/

theorem inv_reader {s s' : State} (h : Inv s) (hs : readerStep s = some s') : Inv s' := by
  replace hs := of_guard hs
  cases hr : s.reader <;> simp -zeta only [hr, reduceCtorEq] at hs
  case begin => cases hs; exact h.readerLoop hr rfl _
  case rAcq1 =>
    split at hs
    · cases hs; exact h.readerLoop hr rfl _
    next hc =>
    -- `_is_reading = True`, then `poll` on two descriptors, open because `_closed` is unset
    have ho := h.open_of_not_closed hc
    dsimp only at hs
    rw [useFd_open (fd := .ino), useFd_open (fd := .killR)] at hs
    · cases hs; exact ((h.set_reading hc .rPoll).use ..).use ..
    · exact h.same1.trans ho
    · exact ho
  case rPoll =>
    split at hs
    · rw [useFd_open (fd := .ino) (h.inside (h.rd.2 (.inl hr)))] at hs; cases hs
      exact { (h.move hr (.rAcq2 s.inoData) rfl nofun).use .. with }
    · cases hs; exact h.move hr _ rfl nofun
  case rAcq2 buf =>
    extract_lets s1 at hs
    by_cases hc : s.closed = true
    · -- `close()` has left the descriptors to the reader, which was inside `poll`/`read` then
      have ho := h.inside (h.rd.2 (.inr ⟨buf, hr⟩))
      rw [if_pos hc, readerLoop_eq, closeResources_open (s := s1) ho (h.same1.trans ho) (h.same2.trans ho)] at hs
      cases hs; exact h.released ho rfl rfl rfl rfl hc rfl (loop_idle _)
    · rw [if_neg hc] at hs; cases hs; exact h.set_reading hc (.rAcq3 buf)
  case rAcq3 buf =>
    by_cases hc : s.closed = true
    · rw [if_pos hc] at hs; cases hs; exact h.readerLoop hr rfl _
    rw [if_neg hc] at hs
    obtain ⟨l, h1, e⟩ := h.add_watches (h.open_of_not_closed hc) buf
    rw [e] at hs
    have h2 : Inv { s with log := l, rootWatched := false } := { h1 with }
    split at hs <;> split at hs <;> cases hs
    · exact h2.readerLoop hr rfl _
    · exact h2.move hr _ rfl nofun
    · exact h1.readerLoop hr rfl _
    · exact h1.move hr _ rfl nofun
  case rPut n leave =>
    have h1 : Inv { s with puts := s.puts + 1 } := { h with }
    rcases n with _ | _ | m <;> simp -zeta only at hs <;> cases hs
    · exact h.readerLoop hr rfl _
    · exact h1.readerLoop hr rfl _
    · exact h1.move hr _ rfl nofun

theorem inv_closer {s s' : State} (h : Inv s) (hs : closerStep s = some s') : Inv s' := by
  replace hs := of_guard hs
  cases hr : s.closer <;> simp -zeta only [hr, reduceCtorEq] at hs
  case begin => cases hs; exact { h with past := fun p => by simp at p }
  case cDq => cases hs; exact { h with past := fun _ => h.past (.inl hr) }
  case cJoin => cases hs; exact { h with past := fun _ => h.past (.inr (.inl hr)) }
  case cAcq =>
    by_cases hc : s.closed = true
    · rw [if_pos hc] at hs; cases hs; exact { h with past := fun _ => hc }
    rw [if_neg hc] at hs
    have ho := h.open_of_not_closed hc
    extract_lets s1 t1 s2 t2 s3 at hs
    -- `_closed = True`, then `inotify_rm_watch` if the root is still watched
    obtain ⟨l, d, h2, e2⟩ : ∃ l d, Inv { s with log := l } ∧ s2 = { s1 with log := l, inoData := d } := by
      by_cases hw : s.rootWatched = true
      · exact ⟨_, _, h.use .., by
          simp only [s2, t1]; rw [if_pos hw, if_pos ho, useFd_open (s := s1) (fd := .ino) ho]⟩
      · exact ⟨_, _, h, by simp only [s2]; rw [if_neg hw]⟩
    clear_value s2; subst e2
    simp only [s3, t2] at hs
    cases hi : s.isReading
    · -- nobody reads: `_close_resources()` here and now
      rw [if_neg (ne_true_of_eq_false hi), closeResources_open] at hs
      · cases hs
        exact h2.released ho rfl rfl rfl rfl rfl hi (h.reads_eq.trans hi)
      · exact ho
      · exact h.same1.trans ho
      · exact h.same2.trans ho
    · -- the reader is inside `poll`/`read`: wake it and leave the descriptors to it
      have hk := h.same2.trans ho
      rw [if_pos hi, if_pos hk, useFd_open (fd := .killW)] at hs
      · cases hs
        exact { h2.use .. with
          clos := fun _ => rfl, hand := fun _ _ => hi, wake := fun _ _ => rfl, past := fun _ => rfl }
      · exact hk

theorem inv_kernel {s s' : State} (h : Inv s) (hs : kernelStep s = some s') : Inv s' := by
  unfold kernelStep at hs
  split at hs
  · cases hs; exact { h with }
  · cases hs; exact { h with }
  · cases hs

theorem inv_step {s s' : State} {t : Nat} (h : Inv s) (hs : step s t = some s') : Inv s' := by
  match t with
  | 0 => exact inv_reader h hs
  | 1 => exact inv_closer h hs
  | 2 => exact inv_kernel h hs
  | _ + 3 => simp [step] at hs

theorem inv_run (sched : List Nat) {s : State} (h : Inv s) : Inv (run s sched) := by
  induction sched generalizing s with
  | nil => exact h
  | cons t ts ih =>
    simp only [run, List.foldl_cons]
    cases hst : step s t with
    | none => exact ih h
    | some s' => exact ih (inv_step h hst)

theorem inv_reach (plan : List (List Rec)) (sched : List Nat) : Inv (run (init plan) sched) :=
  inv_run sched (inv_init plan)

theorem ctorRun_watches (k m pos opened : Nat) :
    ctorRun (List.replicate m .addWatch) pos (some k) opened =
      if pos ≤ k ∧ k < pos + m then (opened - 3, true) else (opened, false) := by
  induction m generalizing pos with
  | zero => rw [if_neg (by omega)]; rfl
  | succ m ih =>
    rw [List.replicate_succ, ctorRun]
    by_cases h : k = pos
    · rw [if_pos (by rw [h]), if_pos (by omega)]; rfl
    · rw [if_neg (fun e => h (Option.some.inj e))]
      show ctorRun _ (pos + 1) (some k) opened = _
      rw [ih]
      by_cases h' : pos + 1 ≤ k ∧ k < pos + 1 + m
      · rw [if_pos h', if_pos (by omega)]
      · rw [if_neg h', if_neg (by omega)]

theorem ctorRun_watches_ok (m pos opened : Nat) :
    ctorRun (List.replicate m .addWatch) pos none opened = (opened, false) := by
  induction m generalizing pos with
  | zero => rfl
  | succ m ih => rw [List.replicate_succ, ctorRun, if_neg nofun]; exact ih _

/-- a failing call among `inotify_init`, `pipe()` and the `n` `inotify_add_watch` raises and leaves nothing open;
    a position beyond them means no call fails -/
theorem ctor_some (n k : Nat) : ctor n (some k) = if k < n + 2 then (0, true) else (3, false) := by
  unfold ctor ctorCalls
  simp only [List.cons_append, List.nil_append, ctorRun]
  match k with
  | 0 => rfl
  | 1 => rw [if_neg nofun, if_pos rfl, if_pos (by omega)]; rfl
  | k + 2 =>
    rw [if_neg (by simp), if_neg (by simp), ctorRun_watches]
    by_cases h : k + 2 < n + 2
    · rw [if_pos h, if_pos (by omega)]; rfl
    · rw [if_neg h, if_neg (by omega)]; rfl

end WD.ProofsFd
