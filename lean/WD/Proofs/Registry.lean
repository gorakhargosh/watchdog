/- The observer's registry (`WD.Reg`) simulates the reference map `Spec`: `R` relates the four containers to the map,
   `Inv` says that emitters have distinct watches, each with a key in the handler table and an entry in the list of
   watches; `step` shows that a call returns what the map's call returns and keeps both, `run_sim` lifts it to call
   sequences.  For WD.Props.C13. -/
import WD.Model.Registry
namespace WD.ProofsReg
open WD WD.Reg

theorem emitterOf_some {s : State} {w : Watch} {e : Emitter} (h : s.emitterOf w = some e) :
    e.watch = w ∧ e ∈ s.emitters := by
  unfold State.emitterOf at h
  have h1 := List.find?_some h
  have h2 := List.mem_of_find?_eq_some h
  simp at h1
  exact ⟨h1, h2⟩

theorem emitterOf_none_iff {s : State} {w : Watch} :
    s.emitterOf w = none ↔ w ∉ s.emitters.map Emitter.watch := by
  unfold State.emitterOf
  simp

theorem emitterOf_isSome_iff {s : State} {w : Watch} :
    (s.emitterOf w).isSome ↔ w ∈ s.emitters.map Emitter.watch := by
  cases h : s.emitterOf w with
  | none => simpa using emitterOf_none_iff.mp h
  | some e =>
    have := emitterOf_some h
    simp only [Option.isSome_some, List.mem_map, true_iff]
    exact ⟨e, this.2, this.1⟩

theorem handlersOf_ainsert (s : State) (w x : Watch) (v : List Handler) :
    (alookup x (ainsert w v s.handlers)).getD [] = if x = w then v else s.handlersOf x := by
  by_cases hx : x = w
  · subst hx; simp [alookup_ainsert_self]
  · have : w ≠ x := fun h => hx h.symm
    simp [hx, alookup_ainsert_ne _ _ this, State.handlersOf]

theorem getD_aerase (l : List (Watch × List Handler)) (w x : Watch) :
    (alookup x (aerase w l)).getD [] = if x = w then [] else (alookup x l).getD [] := by
  by_cases hx : x = w
  · subst hx; simp [alookup_aerase_self]
  · have : w ≠ x := fun h => hx h.symm
    simp [hx, alookup_aerase_ne _ this]

theorem handlersOf_aerase (s : State) (w x : Watch) :
    (alookup x (aerase w s.handlers)).getD [] = if x = w then [] else s.handlersOf x :=
  getD_aerase s.handlers w x

theorem mem_addW (l : List Watch) (w x : Watch) (h : x ∈ l) :
    x ∈ (if l.contains w = true then l else l ++ [w]) := by
  split <;> simp [h]

theorem self_mem_addW (l : List Watch) (w : Watch) :
    w ∈ (if l.contains w = true then l else l ++ [w]) := by
  split
  · rename_i h; simpa using h
  · simp

theorem isSome_alookup_ainsert (w x : Watch) (v : List Handler) (l : List (Watch × List Handler))
    (h : (alookup x l).isSome) : (alookup x (ainsert w v l)).isSome := by
  by_cases hx : w = x
  · subst hx; simp [alookup_ainsert_self]
  · rw [alookup_ainsert_ne _ _ hx]; exact h

theorem map_watch_filter (l : List Emitter) (w : Watch) :
    (l.filter (fun e => e.watch != w)).map Emitter.watch = (l.map Emitter.watch).filter (· != w) := by
  induction l with
  | nil => rfl
  | cons a t ih =>
    by_cases h : a.watch = w <;> simp [h, ih]

def R (s : State) (m : Spec) : Prop :=
  (∀ w, s.handlersOf w = m.handlers w) ∧ s.emitters.map Emitter.watch = m.scheduled ∧
  s.alive = m.alive ∧ s.everStarted = m.everStarted

structure Inv (s : State) : Prop where
  nodup : (s.emitters.map Emitter.watch).Nodup
  hkey : ∀ e ∈ s.emitters, (alookup e.watch s.handlers).isSome
  wmem : ∀ e ∈ s.emitters, e.watch ∈ s.watches

theorem contains_iff {s : State} {m : Spec} (hR : R s m) (w : Watch) :
    m.scheduled.contains w = (s.emitterOf w).isSome := by
  rw [Bool.eq_iff_iff, emitterOf_isSome_iff, hR.2.1]; simp

def Sim (s : State) (m : Spec) : Prop := R s m ∧ Inv s

theorem Sim.setHandlers {s : State} {m : Spec} (h : Sim s m) (w : Watch) (v : List Handler) :
    Sim { s with handlers := ainsert w v s.handlers }
      { m with handlers := fun x => if x = w then v else m.handlers x } := by
  obtain ⟨⟨hH, hS, hA, hE⟩, hI⟩ := h
  refine ⟨⟨fun x => ?_, hS, hA, hE⟩, hI.nodup, fun e he => isSome_alookup_ainsert _ _ _ _ (hI.hkey e he), hI.wmem⟩
  show (alookup x (ainsert w v s.handlers)).getD [] = _
  rw [handlersOf_ainsert, hH]

theorem Sim.addWatch {s : State} {m : Spec} (h : Sim s m) (w : Watch) :
    Sim { s with watches := if s.watches.contains w then s.watches else s.watches ++ [w] } m :=
  ⟨h.1, h.2.nodup, h.2.hkey, fun e he => mem_addW _ _ _ (h.2.wmem e he)⟩

theorem Sim.remove {s : State} {m : Spec} (h : Sim s m) (w : Watch) :
    Sim { s with handlers := aerase w s.handlers, emitters := s.emitters.filter (fun e => e.watch != w),
                 watches := s.watches.filter (· != w) }
      { m with handlers := fun x => if x = w then [] else m.handlers x,
               scheduled := m.scheduled.filter (· != w) } := by
  obtain ⟨⟨hH, hS, hA, hE⟩, hI⟩ := h
  refine ⟨⟨fun x => ?_, ?_, hA, hE⟩, ?_, fun e he => ?_, fun e he => ?_⟩
  · show (alookup x (aerase w s.handlers)).getD [] = _
    rw [handlersOf_aerase, hH]
  · show (s.emitters.filter _).map _ = _
    rw [map_watch_filter, hS]
  · show ((s.emitters.filter _).map _).Nodup
    rw [map_watch_filter]
    exact hI.nodup.filter _
  · obtain ⟨he, hne⟩ := List.mem_filter.1 he
    show (alookup e.watch (aerase w s.handlers)).isSome
    rw [alookup_aerase_ne _ (fun hw => by simp [hw] at hne)]
    exact hI.hkey e he
  · obtain ⟨he, hne⟩ := List.mem_filter.1 he
    exact List.mem_filter.2 ⟨hI.wmem e he, hne⟩

theorem step (s : State) (m : Spec) (c : Call) (hR : R s m) (hI : Inv s) :
    (call s c).2 = (specCall m c).2 ∧ R (call s c).1 (specCall m c).1 ∧ Inv (call s c).1 := by
  have hs : Sim s m := ⟨hR, hI⟩
  obtain ⟨hH, hS, hA, hE⟩ := hR
  cases c with
  | schedule h w f =>
    have hc := contains_iff hs.1 w
    simp only [call, specCall]
    rw [← hH w]
    cases he : s.emitterOf w with
    | some e =>
      rw [he, Option.isSome_some] at hc
      simp only [hc, ↓reduceIte]
      exact ⟨trivial, ((hs.setHandlers w _).addWatch w)⟩
    | none =>
      rw [he, Option.isSome_none] at hc
      simp only [hc, Bool.false_eq_true, ↓reduceIte]
      by_cases hf : f = .ctor
      · rw [if_pos hf, if_pos hf]; exact ⟨rfl, hs⟩
      · rw [if_neg hf, if_neg hf]
        by_cases hf2 : s.alive = true ∧ f = .start
        · have hf2m : m.alive = true ∧ f = .start := hA ▸ hf2
          rw [if_pos hf2, if_pos hf2m]; exact ⟨rfl, ⟨hH, hS, hA, hE⟩, ⟨hI.nodup, hI.hkey, hI.wmem⟩⟩
        · have hf2m : ¬(m.alive = true ∧ f = .start) := hA ▸ hf2
          rw [if_neg hf2, if_neg hf2m]
          have hnot := emitterOf_none_iff.mp he
          obtain ⟨⟨hH1, _, _, _⟩, hI1⟩ := (hs.setHandlers w (addH h (s.handlersOf w))).addWatch w
          refine ⟨rfl, ⟨hH1, ?_, hA, hE⟩, ?_, fun e' he' => ?_, fun e' he' => ?_⟩
          · show (s.emitters ++ [_]).map _ = _
            rw [List.map_append, hS]; rfl
          · show ((s.emitters ++ [_]).map _).Nodup
            rw [List.map_append]
            refine List.nodup_append.2 ⟨hI.nodup, by simp, fun a ha b hb => ?_⟩
            rw [List.mem_singleton.1 hb]
            exact fun hab => hnot (by rw [hab] at ha; exact ha)
          · rcases List.mem_append.1 he' with he' | he'
            · exact hI1.hkey e' he'
            · rw [List.mem_singleton.1 he']
              show (alookup w (ainsert w _ s.handlers)).isSome
              rw [alookup_ainsert_self]; rfl
          · rcases List.mem_append.1 he' with he' | he'
            · exact hI1.wmem e' he'
            · rw [List.mem_singleton.1 he']; exact self_mem_addW _ _
  | unschedule w =>
    have hc := contains_iff hs.1 w
    simp only [call, specCall]
    cases he : s.emitterOf w with
    | none =>
      rw [he, Option.isSome_none] at hc
      simp only [hc, Bool.false_eq_true, ↓reduceIte]
      exact ⟨trivial, hs⟩
    | some e =>
      rw [he, Option.isSome_some] at hc
      obtain ⟨hew, hem⟩ := emitterOf_some he
      have hk := hI.hkey e hem
      have hw := hI.wmem e hem
      rw [hew] at hk hw
      have hk' : (alookup w s.handlers).isNone = false := by
        cases hq : alookup w s.handlers <;> simp [hq] at hk ⊢
      have hw' : s.watches.contains w = true := by simpa using hw
      simp only [hc, hk', hw', Bool.false_eq_true, ↓reduceIte]
      exact ⟨trivial, hs.remove w⟩
  | addHandler h w =>
    simp only [call, specCall]
    rw [← hH w]
    exact ⟨trivial, hs.setHandlers w _⟩
  | removeHandler h w =>
    simp only [call, specCall]
    rw [← hH w]
    by_cases hc : (s.handlersOf w).contains h = true
    · rw [if_pos hc, if_pos hc]
      exact ⟨rfl, hs.setHandlers w _⟩
    · rw [if_neg hc, if_neg hc]
      -- `defaultdict` creates the key, with the value it had
      obtain ⟨⟨hH1, h1⟩, hI1⟩ := hs.setHandlers w (s.handlersOf w)
      refine ⟨rfl, ⟨fun x => (hH1 x).trans ?_, h1⟩, hI1⟩
      show (if x = w then s.handlersOf w else m.handlers x) = m.handlers x
      split
      · next hx => rw [hx, hH]
      · rfl
  | unscheduleAll =>
    simp only [call, specCall]
    exact ⟨trivial, ⟨fun _ => rfl, rfl, hA, hE⟩, List.nodup_nil, nofun, nofun⟩
  | start failAt =>
    simp only [call, specCall]
    by_cases hes : s.everStarted = true
    · rw [if_pos hes, if_pos (hE ▸ hes : m.everStarted = true)]; exact ⟨rfl, hs⟩
    · rw [if_neg hes, if_neg (hE ▸ hes : ¬m.everStarted = true)]
      have ok : R { s with emitters := s.emitters.map (fun e => { e with started := true }), alive := true,
                           everStarted := true } { m with alive := true, everStarted := true } ∧
          Inv { s with emitters := s.emitters.map (fun e => { e with started := true }), alive := true,
                       everStarted := true } := by
        refine ⟨⟨hH, ?_, rfl, rfl⟩, ?_, fun e' he' => ?_, fun e' he' => ?_⟩
        · show (s.emitters.map _).map _ = _
          rw [List.map_map, ← hS]; rfl
        · show ((s.emitters.map _).map _).Nodup
          rw [List.map_map]; exact hI.nodup
        · obtain ⟨e0, he0, rfl⟩ := List.mem_map.1 he'
          exact hI.hkey e0 he0
        · obtain ⟨e0, he0, rfl⟩ := List.mem_map.1 he'
          exact hI.wmem e0 he0
      cases failAt with
      | none => exact ⟨rfl, ok⟩
      | some w =>
        have hc := contains_iff hs.1 w
        simp only [Option.bind_some]
        cases he : s.emitterOf w with
        | some bad =>
          rw [he, Option.isSome_some] at hc
          simp only [hc, (emitterOf_some he).1, ↓reduceIte]
          exact ⟨trivial, hs.remove w⟩
        | none =>
          rw [he, Option.isSome_none] at hc
          simp only [hc, Bool.false_eq_true, ↓reduceIte]
          exact ⟨trivial, ok⟩
  | stop =>
    simp only [call, specCall]
    exact ⟨trivial, ⟨fun _ => rfl, rfl, rfl, hE⟩, List.nodup_nil, nofun, nofun⟩
theorem run_sim (calls : List Call) : ∀ (s : State) (m : Spec), R s m → Inv s →
    (run s calls).2 = (specRun m calls).2 ∧ R (run s calls).1 (specRun m calls).1 ∧
    Inv (run s calls).1 := by
  induction calls with
  | nil => intro s m hR hI; exact ⟨by first | trivial | rfl, hR, hI⟩
  | cons c cs ih =>
    intro s m hR hI
    obtain ⟨h1, h2, h3⟩ := step s m c hR hI
    obtain ⟨g1, g2, g3⟩ := ih _ _ h2 h3
    simp only [run, specRun]
    exact ⟨by rw [h1, g1], g2, g3⟩

theorem R_init : R init Spec.init := ⟨fun _ => rfl, rfl, rfl, rfl⟩

theorem Inv_init : Inv init :=
  ⟨by simp [init], by intro e he; simp [init] at he, by intro e he; simp [init] at he⟩

theorem refines_map (calls : List Call) :
    (run init calls).2 = (specRun Spec.init calls).2 ∧
    ((∀ w, (run init calls).1.handlersOf w = (specRun Spec.init calls).1.handlers w) ∧
     (run init calls).1.emitters.map Emitter.watch = (specRun Spec.init calls).1.scheduled ∧
     (run init calls).1.alive = (specRun Spec.init calls).1.alive ∧
     (run init calls).1.everStarted = (specRun Spec.init calls).1.everStarted) := by
  obtain ⟨h1, h2, _⟩ := run_sim calls init Spec.init R_init Inv_init
  exact ⟨h1, h2⟩

theorem one_emitter_per_watch (calls : List Call) :
    ((run init calls).1.emitters.map Emitter.watch).Nodup :=
  (run_sim calls init Spec.init R_init Inv_init).2.2.nodup

theorem emitters_are_scheduled (calls : List Call) (w : Watch) :
    (∃ e ∈ (run init calls).1.emitters, e.watch = w) ↔ w ∈ (specRun Spec.init calls).1.scheduled := by
  rw [← (refines_map calls).2.2.1]
  simp [List.mem_map]

theorem failed_schedule_aux (t : State) (h : Handler) (w : Watch) (f : Fault) (k : String)
    (hr : (call t (.schedule h w f)).2 = .raised k) :
    (call t (.schedule h w f)).1.handlers = t.handlers ∧
    (call t (.schedule h w f)).1.emitters = t.emitters ∧
    (call t (.schedule h w f)).1.watches = t.watches ∧
    (call t (.schedule h w f)).1.alive = t.alive := by
  simp only [call] at hr ⊢
  cases he : t.emitterOf w with
  | some e => simp [he] at hr
  | none =>
    simp only [he] at hr ⊢
    by_cases hf : f = .ctor
    · rw [if_pos hf]; exact ⟨rfl, rfl, rfl, rfl⟩
    · rw [if_neg hf] at hr ⊢
      by_cases hf2 : t.alive = true ∧ f = .start
      · rw [if_pos hf2]; exact ⟨rfl, rfl, rfl, rfl⟩
      · rw [if_neg hf2] at hr
        simp at hr

theorem failed_schedule_no_effect (calls : List Call) (h : Handler) (w : Watch) (f : Fault) (k : String)
    (hr : (call (run init calls).1 (.schedule h w f)).2 = .raised k) :
    let s := (run init calls).1
    let s' := (call s (.schedule h w f)).1
    s'.handlers = s.handlers ∧ s'.emitters = s.emitters ∧ s'.watches = s.watches ∧ s'.alive = s.alive := by
  intro s s'
  exact failed_schedule_aux _ h w f k hr

theorem unschedule_independent (s : State) (w w' : Watch) (hne : w' ≠ w) :
    (call s (.unschedule w)).1.handlersOf w' = s.handlersOf w' ∧
    (call s (.unschedule w)).1.emitterOf w' = s.emitterOf w' := by
  simp only [call]
  cases he : s.emitterOf w with
  | none => exact ⟨rfl, rfl⟩
  | some e =>
    simp only []
    by_cases hk : (alookup w s.handlers).isNone = true
    · rw [if_pos hk]; exact ⟨rfl, rfl⟩
    · rw [if_neg hk]
      constructor
      · simp only [State.handlersOf]
        rw [alookup_aerase_ne _ (fun h => hne h.symm)]
      · simp only [State.emitterOf]
        rw [List.find?_filter]
        congr 1
        funext a
        by_cases ha : a.watch = w'
        · simp [ha, hne]
        · simp [ha]

end WD.ProofsReg
