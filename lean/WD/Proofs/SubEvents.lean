/- The synthetic sub-events of a moved or newly arrived directory: both generators are one relative walk (`walkSuf`)
   mapped under the directory's old and new path (`moved_paths`, `created_paths`); the walk is a permutation of the
   descendants (`walkSuf_perm`), whose relative paths are distinct when sibling names are (`descSuf_nodup`), and it lists
   a directory before what lies in it (`parents_first`).  Paths are strings here, so much of the file is about names
   without `/` decomposing uniquely.  Restated in WD.Props.C14. -/
import WD.Model.SubEvents
namespace WD.Proofs
open WD

theorem pjoin_good (root n : PStr) (h1 : root ≠ []) (h2 : root.getLast? ≠ some '/') :
    pjoin root n = root ++ '/' :: n := by
  simp [pjoin, h1, h2]

theorem good_step (root n : PStr) (hn : n ≠ []) (hs : '/' ∉ n) :
    (root ++ '/' :: n) ≠ [] ∧ (root ++ '/' :: n).getLast? ≠ some '/' := by
  refine ⟨by simp, ?_⟩
  intro h
  cases n with
  | nil => exact hn rfl
  | cons a n =>
    rw [List.getLast?_append, List.getLast?_cons_cons] at h
    cases h' : (a :: n).getLast? with
    | none => simp at h'
    | some c =>
      rw [h'] at h
      simp at h
      subst h
      exact hs (List.mem_of_getLast? h')

/-- induction over a directory's content: the children of a sub-directory and the entries after it are both smaller.
    (A theorem that recurses on `List Node` by itself makes Lean compile a nested recursion every time.) -/
theorem nodes_induction {P : List Node → Prop} (nil : P [])
    (file : ∀ n rest, P rest → P (.file n :: rest))
    (dir : ∀ n ch rest, P ch → P rest → P (.dir n ch :: rest)) : ∀ l, P l :=
  @Node.rec_1 (fun c => ∀ rest, P rest → P (c :: rest)) P (fun n rest h => file n rest h)
    (fun n ch hch rest h => dir n ch rest hch h) nil (fun _ rest h1 h2 => h1 rest h2)

def nameOk (n : PStr) : Prop := n ≠ [] ∧ '/' ∉ n

theorem nameOk_of_bool (n : PStr) (h : (n != [] && !n.contains '/') = true) : nameOk n := by
  simpa [nameOk] using h

theorem namesOk_file {n : PStr} {rest : List Node} (h : namesOk (.file n :: rest) = true) :
    nameOk n ∧ namesOk rest = true := by
  rw [namesOk, Bool.and_eq_true] at h
  exact ⟨nameOk_of_bool n h.1, h.2⟩

theorem namesOk_dir {n : PStr} {ch rest : List Node} (h : namesOk (.dir n ch :: rest) = true) :
    nameOk n ∧ namesOk ch = true ∧ namesOk rest = true := by
  rw [namesOk, Bool.and_eq_true, Bool.and_eq_true] at h
  exact ⟨nameOk_of_bool n h.1.1, h.1.2, h.2⟩

theorem namesOk_mem : ∀ (ch : List Node), namesOk ch = true → ∀ c ∈ ch, nameOk c.name
  | [], _, c, hc => by simp at hc
  | .file n :: rest, h, c, hc => by
    have ⟨h1, h2⟩ := namesOk_file h
    rcases List.mem_cons.1 hc with rfl | hc
    · exact h1
    · exact namesOk_mem rest h2 c hc
  | .dir n ch :: rest, h, c, hc => by
    have ⟨h1, _, h2⟩ := namesOk_dir h
    rcases List.mem_cons.1 hc with rfl | hc
    · exact h1
    · exact namesOk_mem rest h2 c hc

theorem split_append {α} {A B l1 l2 : List α} {x : α} (h : A ++ B = l1 ++ x :: l2) :
    (∃ r, A = l1 ++ x :: r ∧ l2 = r ++ B) ∨ (∃ l, l1 = A ++ l ∧ B = l ++ x :: l2) := by
  rcases List.append_eq_append_iff.1 h with ⟨as, h1, h2⟩ | ⟨bs, h1, h2⟩
  · exact Or.inr ⟨as, h1, h2⟩
  · cases bs with
    | nil =>
      refine Or.inr ⟨[], by simpa using h1.symm, by simpa using h2.symm⟩
    | cons b bs =>
      simp at h2
      obtain ⟨rfl, rfl⟩ := h2
      exact Or.inl ⟨bs, h1, rfl⟩

theorem last_sep_unique {a b s t : PStr} (h : a ++ '/' :: s = b ++ '/' :: t) (hs : '/' ∉ s) (ht : '/' ∉ t) :
    a = b ∧ s = t := by
  rcases List.append_eq_append_iff.1 h with ⟨as, h1, h2⟩ | ⟨bs, h1, h2⟩
  · cases as with
    | nil => simp at h1 h2; exact ⟨h1.symm, h2⟩
    | cons c as =>
      simp at h2
      obtain ⟨rfl, rfl⟩ := h2
      exact absurd (by simp) hs
  · cases bs with
    | nil => simp at h1 h2; exact ⟨h1, h2.symm⟩
    | cons c bs =>
      simp at h2
      obtain ⟨rfl, rfl⟩ := h2
      exact absurd (by simp) ht

theorem first_comp_unique : ∀ (a b s t : PStr), a ++ s = b ++ t → '/' ∉ a → '/' ∉ b →
    (s = [] ∨ ∃ s', s = '/' :: s') → (t = [] ∨ ∃ t', t = '/' :: t') → a = b
  | [], [], _, _, _, _, _, _, _ => rfl
  | [], y :: b, s, t, h, _, hb, hs, _ => by
    rcases hs with rfl | ⟨s', rfl⟩
    · simp at h
    · simp at h
      exact absurd (List.mem_cons.2 (Or.inl h.1)) hb
  | x :: a, [], s, t, h, ha, _, _, ht => by
    rcases ht with rfl | ⟨t', rfl⟩
    · simp at h
    · simp at h
      exact absurd (by simp [h.1]) ha
  | x :: a, y :: b, s, t, h, ha, hb, hs, ht => by
    simp at h
    have := first_comp_unique a b s t h.2 (fun m => ha (List.mem_cons_of_mem _ m))
      (fun m => hb (List.mem_cons_of_mem _ m)) hs ht
    rw [h.1, this]

theorem rekey_under (old new rel : PStr) : rekeyPath old new (old ++ '/' :: rel) = new ++ '/' :: rel := by
  simp [rekeyPath]

theorem walkBelow_gen (mk : Bool → PStr → SubEv) (root : PStr) (ch : List Node) (pre : PStr)
    (hn : namesOk ch = true) (h1 : root ++ pre ≠ []) (h2 : (root ++ pre).getLast? ≠ some '/') :
    walkBelow mk (root ++ pre) ch = (walkSufBelow pre ch).map (fun x => mk x.2 (root ++ x.1)) := by
  induction ch using nodes_induction generalizing pre with
  | nil => simp [walkBelow, walkSufBelow]
  | file n rest ih =>
    rw [walkBelow, walkSufBelow]
    exact ih pre (namesOk_file hn).2 h1 h2
  | dir n ch rest ihc ihr =>
    have ⟨hnm, hch, hrest⟩ := namesOk_dir hn
    rw [walkBelow, walkSufBelow, walkEvents, walkSuf, pjoin_good _ _ h1 h2]
    have hg := good_step (root ++ pre) n hnm.1 hnm.2
    have e : root ++ pre ++ '/' :: n = root ++ (pre ++ '/' :: n) := by simp
    rw [e] at hg ⊢
    rw [ihc (pre ++ '/' :: n) hch hg.1 hg.2, ihr pre hrest h1 h2]
    simp [List.map_append, List.map_map, Function.comp_def, pjoin_good _ _ hg.1 hg.2]

theorem walkEvents_gen (mk : Bool → PStr → SubEv) (root pre : PStr) (ch : List Node)
    (hn : namesOk ch = true) (h1 : root ++ pre ≠ []) (h2 : (root ++ pre).getLast? ≠ some '/') :
    walkEvents mk (root ++ pre) ch = (walkSuf pre ch).map (fun x => mk x.2 (root ++ x.1)) := by
  rw [walkEvents, walkSuf, walkBelow_gen mk root ch pre hn h1 h2]
  simp [List.map_append, List.map_map, Function.comp_def, pjoin_good _ _ h1 h2]

theorem moved_paths (src dst : PStr) (ch : List Node) (h1 : dst ≠ []) (h2 : dst.getLast? ≠ some '/')
    (hn : namesOk ch = true) :
    subMovedEvents src dst ch =
      (walkSuf [] ch).map (fun x => ⟨x.2, if src = [] then [] else src ++ x.1, dst ++ x.1⟩) := by
  have := walkEvents_gen (mkMoved src dst) dst [] ch hn (by simpa using h1) (by simpa using h2)
  rw [List.append_nil] at this
  rw [subMovedEvents, this]
  apply List.map_congr_left
  intro x _
  simp [mkMoved, rewritePrefix]

theorem created_paths (dir : PStr) (ch : List Node) (h1 : dir ≠ []) (h2 : dir.getLast? ≠ some '/')
    (hn : namesOk ch = true) :
    subCreatedEvents dir ch = (walkSuf [] ch).map (fun x => ⟨x.2, dir ++ x.1, []⟩) := by
  have := walkEvents_gen mkCreated dir [] ch hn (by simpa using h1) (by simpa using h2)
  rw [List.append_nil] at this
  rw [subCreatedEvents, this]
  apply List.map_congr_left
  intro x _
  simp [mkCreated]

theorem walkSuf_perm (pre : PStr) (ch : List Node) : (walkSuf pre ch).Perm (descSuf pre ch) := by
  induction ch using nodes_induction generalizing pre with
  | nil => simp [walkSuf, walkSufBelow, descSuf]
  | file n rest ih =>
    have ih := ih pre
    rw [walkSuf] at ih ⊢
    rw [walkSufBelow, descSuf]
    simp only [List.filter_cons, Node.isDir, Node.name, Bool.not_false, Bool.false_eq_true, if_true,
      if_false, List.map_cons, List.append_assoc, List.cons_append] at ih ⊢
    exact List.perm_middle.trans (ih.cons _)
  | dir n ch rest ihc ihr =>
    have ih := ihr pre
    have ihW := ihc (pre ++ '/' :: n)
    rw [walkSuf] at ih ⊢
    rw [walkSufBelow, descSuf]
    simp only [List.filter_cons, Node.isDir, Node.name, Bool.not_true, Bool.false_eq_true, if_true,
      if_false, List.map_cons, List.append_assoc, List.cons_append] at ih ⊢
    refine List.Perm.cons _ ?_
    refine (List.Perm.append_left _ (List.perm_append_comm_assoc _ _ _)).trans ?_
    refine (List.perm_append_comm_assoc _ _ _).trans ?_
    exact List.Perm.append ihW ih

theorem su_file {n : PStr} {rest : List Node} (h : siblingsUnique (.file n :: rest) = true) :
    (∀ c ∈ rest, c.name ≠ n) ∧ siblingsUnique rest = true := by
  simpa [siblingsUnique] using h

theorem su_dir {n : PStr} {ch rest : List Node} (h : siblingsUnique (.dir n ch :: rest) = true) :
    (∀ c ∈ rest, c.name ≠ n) ∧ siblingsUnique ch = true ∧ siblingsUnique rest = true := by
  simpa [siblingsUnique, and_assoc] using h

theorem desc_form (ch : List Node) (pre : PStr) (e : PStr × Bool) (h : e ∈ descSuf pre ch) :
    ∃ c ∈ ch, ∃ t, e.1 = pre ++ '/' :: (c.name ++ t) ∧ (t = [] ∨ ∃ t', t = '/' :: t') := by
  induction ch using nodes_induction generalizing pre with
  | nil => simp [descSuf] at h
  | file n rest ih =>
    rw [descSuf] at h
    rcases List.mem_cons.1 h with rfl | h
    · exact ⟨.file n, List.mem_cons_self, [], by simp [Node.name], Or.inl rfl⟩
    · obtain ⟨c, hc, t, h1, h2⟩ := ih pre h
      exact ⟨c, List.mem_cons_of_mem _ hc, t, h1, h2⟩
  | dir n ch rest ihc ihr =>
    rw [descSuf] at h
    rcases List.mem_cons.1 h with rfl | h
    · exact ⟨.dir n ch, List.mem_cons_self, [], by simp [Node.name], Or.inl rfl⟩
    · rcases List.mem_append.1 h with h | h
      · obtain ⟨c, _, t, h1, _⟩ := ihc (pre ++ '/' :: n) h
        exact ⟨.dir n ch, List.mem_cons_self, '/' :: (c.name ++ t), by simp [Node.name, h1],
          Or.inr ⟨_, rfl⟩⟩
      · obtain ⟨c, hc, t, h1, h2⟩ := ihr pre h
        exact ⟨c, List.mem_cons_of_mem _ hc, t, h1, h2⟩

theorem notin_rest {rest : List Node} {pre n : PStr} (hrest : namesOk rest = true) (hnm : nameOk n)
    (hne : ∀ c ∈ rest, c.name ≠ n) (e : PStr × Bool) (he : e ∈ descSuf pre rest) (s : PStr)
    (hs : s = [] ∨ ∃ s', s = '/' :: s') : e.1 ≠ pre ++ '/' :: (n ++ s) := by
  intro heq
  obtain ⟨c, hc, t, h1, h2⟩ := desc_form rest pre e he
  rw [h1] at heq
  have heq' : c.name ++ t = n ++ s := by simpa using heq
  exact hne c hc (first_comp_unique _ _ _ _ heq' (namesOk_mem rest hrest c hc).2 hnm.2 h2 hs)

theorem descSuf_nodup (pre : PStr) (ch : List Node) (hn : namesOk ch = true) (hu : siblingsUnique ch = true) :
    ((descSuf pre ch).map Prod.fst).Nodup := by
  induction ch using nodes_induction generalizing pre with
  | nil => simp [descSuf]
  | file n rest ih =>
    have ⟨hnm, hrest⟩ := namesOk_file hn
    have ⟨hne, hur⟩ := su_file hu
    rw [descSuf, List.map_cons, List.nodup_cons]
    refine ⟨?_, ih pre hrest hur⟩
    intro hm
    obtain ⟨e, he, heq⟩ := List.mem_map.1 hm
    exact notin_rest hrest hnm hne e he [] (Or.inl rfl) (by simpa using heq)
  | dir n ch rest ihc ihr =>
    have ⟨hnm, hch, hrest⟩ := namesOk_dir hn
    have ⟨hne, huc, hur⟩ := su_dir hu
    rw [descSuf, List.map_cons, List.nodup_cons, List.map_append, List.nodup_append]
    refine ⟨?_, ihc _ hch huc, ihr pre hrest hur, ?_⟩
    · intro hm
      rcases List.mem_append.1 hm with hm | hm
      · obtain ⟨e, he, heq⟩ := List.mem_map.1 hm
        obtain ⟨c, _, t, h1, _⟩ := desc_form ch _ e he
        rw [h1] at heq
        exact absurd (List.append_right_eq_self.1 heq) (by simp)
      · obtain ⟨e, he, heq⟩ := List.mem_map.1 hm
        exact notin_rest hrest hnm hne e he [] (Or.inl rfl) (by simpa using heq)
    · intro a ha b hb hab
      obtain ⟨e1, he1, rfl⟩ := List.mem_map.1 ha
      obtain ⟨e2, he2, rfl⟩ := List.mem_map.1 hb
      obtain ⟨c, _, t, h1, _⟩ := desc_form ch _ e1 he1
      refine notin_rest hrest hnm hne e2 he2 ('/' :: (c.name ++ t)) (Or.inr ⟨_, rfl⟩) ?_
      rw [← hab, h1]
      simp

/-- the entries one `os.walk` level contributes by itself -/
def lvl (pre : PStr) (ch : List Node) : List (PStr × Bool) :=
  (ch.filter Node.isDir).map (fun c => (pre ++ '/' :: c.name, true)) ++
  (ch.filter (fun c => !c.isDir)).map (fun c => (pre ++ '/' :: c.name, false))

theorem walkSuf_lvl (pre : PStr) (ch : List Node) : walkSuf pre ch = lvl pre ch ++ walkSufBelow pre ch := by
  rw [walkSuf, lvl]

theorem lvl_mem {pre : PStr} {ch : List Node} {x : PStr × Bool} (h : x ∈ lvl pre ch) :
    ∃ c ∈ ch, x.1 = pre ++ '/' :: c.name := by
  rcases List.mem_append.1 h with h | h
  · obtain ⟨c, hc, rfl⟩ := List.mem_map.1 h
    exact ⟨c, (List.mem_filter.1 hc).1, rfl⟩
  · obtain ⟨c, hc, rfl⟩ := List.mem_map.1 h
    exact ⟨c, (List.mem_filter.1 hc).1, rfl⟩

theorem dir_mem_lvl {pre m : PStr} {ch ch' : List Node} (h : Node.dir m ch' ∈ ch) :
    (pre ++ '/' :: m, true) ∈ lvl pre ch :=
  List.mem_append_left _ (List.mem_map.2 ⟨.dir m ch', List.mem_filter.2 ⟨h, rfl⟩, rfl⟩)

theorem below_parents (ch : List Node) (pre : PStr) (l1 l2 : List (PStr × Bool)) (x : PStr × Bool)
    (hn : namesOk ch = true) (h : walkSufBelow pre ch = l1 ++ x :: l2)
    (p n : PStr) (hx : x.1 = p ++ '/' :: n) (hnn : '/' ∉ n) :
    (∃ m ch', Node.dir m ch' ∈ ch ∧ p = pre ++ '/' :: m) ∨ (p, true) ∈ l1 := by
  induction ch using nodes_induction generalizing pre l1 l2 with
  | nil =>
    rw [walkSufBelow] at h
    simp at h
  | file k rest ih =>
    rw [walkSufBelow] at h
    rcases ih pre l1 l2 (namesOk_file hn).2 h with ⟨m, ch', hm, hp⟩ | h'
    · exact Or.inl ⟨m, ch', List.mem_cons_of_mem _ hm, hp⟩
    · exact Or.inr h'
  | dir k ch rest ihc ihr =>
    have ⟨_, hch, hrest⟩ := namesOk_dir hn
    rw [walkSufBelow] at h
    rcases split_append h with ⟨r, hA, _⟩ | ⟨l, hl, hB⟩
    · rw [walkSuf_lvl] at hA
      rcases split_append hA with ⟨r', hA', _⟩ | ⟨l', hl', hB'⟩
      · refine Or.inl ⟨k, ch, List.mem_cons_self, ?_⟩
        have hxm : x ∈ lvl (pre ++ '/' :: k) ch := by rw [hA']; simp
        obtain ⟨c, hc, hc'⟩ := lvl_mem hxm
        rw [hx] at hc'
        exact (last_sep_unique hc' hnn (namesOk_mem ch hch c hc).2).1
      · refine Or.inr ?_
        rcases ihc (pre ++ '/' :: k) l' r hch hB' with ⟨m, ch', hm, hp⟩ | h'
        · rw [hl', hp]
          exact List.mem_append_left _ (dir_mem_lvl hm)
        · rw [hl']
          exact List.mem_append_right _ h'
    · rcases ihr pre l l2 hrest hB with ⟨m, ch', hm, hp⟩ | h'
      · exact Or.inl ⟨m, ch', List.mem_cons_of_mem _ hm, hp⟩
      · refine Or.inr ?_
        rw [hl]
        exact List.mem_append_right _ h'

theorem parents_first (ch : List Node) (hn : namesOk ch = true) (l1 l2 : List (PStr × Bool)) (x : PStr × Bool)
    (h : walkSuf [] ch = l1 ++ x :: l2) (p n : PStr) (hx : x.1 = p ++ '/' :: n) (hp : p ≠ [])
    (hnn : '/' ∉ n) : (p, true) ∈ l1 := by
  rw [walkSuf_lvl] at h
  rcases split_append h with ⟨r, hA, _⟩ | ⟨l, hl, hB⟩
  · have hxm : x ∈ lvl [] ch := by rw [hA]; simp
    obtain ⟨c, hc, hc'⟩ := lvl_mem hxm
    rw [hx] at hc'
    exact absurd (last_sep_unique hc' hnn (namesOk_mem ch hn c hc).2).1 hp
  · rcases below_parents ch [] l l2 x hn hB p n hx hnn with ⟨m, ch', hm, hp'⟩ | h'
    · rw [hl, hp']
      exact List.mem_append_left _ (dir_mem_lvl hm)
    · rw [hl]
      exact List.mem_append_right _ h'

end WD.Proofs
