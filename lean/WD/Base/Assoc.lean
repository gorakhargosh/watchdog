/-
  WD.Base.Assoc — hand-rolled association lists (Python `dict` with insertion order),
  core Lean only, and a few plain list lemmas that the proofs about several models share.
  The uniqueness invariant is kept as a separate predicate (`keysNodup`),
  never as a subtype, so that models stay plain computable functions.
-/
namespace WD

variable {α : Type} {β : Type} [DecidableEq α]

/-- `dict.get(k)` -/
def alookup (k : α) : List (α × β) → Option β
  | [] => none
  | (k', v) :: t => if k' = k then some v else alookup k t

/-- `del d[k]` (all occurrences; under `keysNodup` there is at most one) -/
def aerase (k : α) : List (α × β) → List (α × β)
  | [] => []
  | (k', v) :: t => if k' = k then aerase k t else (k', v) :: aerase k t

/-- `d[k] = v` : overwrite in place when present (Python keeps the original position),
    append otherwise. -/
def ainsert (k : α) (v : β) : List (α × β) → List (α × β)
  | [] => [(k, v)]
  | (k', v') :: t => if k' = k then (k, v) :: t else (k', v') :: ainsert k v t

def akeys (l : List (α × β)) : List α := l.map Prod.fst

def keysNodup (l : List (α × β)) : Prop := (akeys l).Nodup

@[simp] theorem alookup_nil (k : α) : alookup k ([] : List (α × β)) = none := rfl

theorem alookup_cons (k k' : α) (v : β) (t : List (α × β)) :
    alookup k ((k', v) :: t) = if k' = k then some v else alookup k t := rfl

theorem alookup_some_mem {k : α} {v : β} {l : List (α × β)} (h : alookup k l = some v) :
    (k, v) ∈ l := by
  induction l with
  | nil => simp at h
  | cons hd t ih =>
    obtain ⟨k', v'⟩ := hd
    rw [alookup_cons] at h
    by_cases hk : k' = k
    · simp [hk] at h; subst hk; subst h; simp
    · simp [hk] at h; exact List.mem_cons_of_mem _ (ih h)

theorem alookup_isSome_iff {k : α} {l : List (α × β)} :
    (alookup k l).isSome ↔ k ∈ akeys l := by
  induction l with
  | nil => simp [akeys]
  | cons hd t ih =>
    obtain ⟨k', v'⟩ := hd
    rw [alookup_cons]
    by_cases hk : k' = k
    · simp [hk, akeys]
    · simp only [hk, if_false, ih, akeys, List.map_cons, List.mem_cons]
      constructor
      · intro h; exact Or.inr h
      · rintro (h | h)
        · exact absurd h.symm hk
        · exact h

theorem alookup_none_iff {k : α} {l : List (α × β)} :
    alookup k l = none ↔ k ∉ akeys l := by
  rw [← alookup_isSome_iff]; cases alookup k l <;> simp

theorem mem_alookup {k : α} {v : β} {l : List (α × β)} (hnd : keysNodup l) (h : (k, v) ∈ l) :
    alookup k l = some v := by
  induction l with
  | nil => simp at h
  | cons hd t ih =>
    obtain ⟨k', v'⟩ := hd
    rw [alookup_cons]
    simp only [keysNodup, akeys, List.map_cons, List.nodup_cons] at hnd
    by_cases hk : k' = k
    · simp only [hk, if_true]
      rcases List.mem_cons.mp h with h | h
      · cases h; rfl
      · exfalso; apply hnd.1; subst hk
        exact List.mem_map.mpr ⟨(k', v), h, rfl⟩
    · simp only [hk, if_false]
      rcases List.mem_cons.mp h with h | h
      · cases h; exact absurd rfl hk
      · exact ih hnd.2 h

theorem alookup_some_iff {k : α} {v : β} {l : List (α × β)} (hnd : keysNodup l) :
    alookup k l = some v ↔ (k, v) ∈ l :=
  ⟨alookup_some_mem, mem_alookup hnd⟩

theorem mem_akeys_of_mem {k : α} {v : β} {l : List (α × β)} (h : (k, v) ∈ l) : k ∈ akeys l :=
  List.mem_map.mpr ⟨(k, v), h, rfl⟩

theorem alookup_ainsert_self (k : α) (v : β) (l : List (α × β)) :
    alookup k (ainsert k v l) = some v := by
  induction l with
  | nil => simp [ainsert, alookup_cons]
  | cons hd t ih =>
    obtain ⟨k', v'⟩ := hd
    by_cases hk : k' = k
    · simp [ainsert, hk, alookup_cons]
    · simp [ainsert, hk, alookup_cons, ih]

theorem alookup_ainsert_ne {k k₂ : α} (v : β) (l : List (α × β)) (hne : k ≠ k₂) :
    alookup k₂ (ainsert k v l) = alookup k₂ l := by
  induction l with
  | nil => simp [ainsert, alookup_cons, hne]
  | cons hd t ih =>
    obtain ⟨k', v'⟩ := hd
    by_cases hk : k' = k
    · subst hk; simp [ainsert, alookup_cons, hne]
    · by_cases hk2 : k' = k₂
      · subst hk2; simp [ainsert, hk, alookup_cons]
      · simp [ainsert, hk, alookup_cons, hk2, ih]

theorem akeys_ainsert (k : α) (v : β) (l : List (α × β)) :
    akeys (ainsert k v l) = if k ∈ akeys l then akeys l else akeys l ++ [k] := by
  induction l with
  | nil => simp [ainsert, akeys]
  | cons hd t ih =>
    obtain ⟨k', v'⟩ := hd
    by_cases hk : k' = k
    · subst hk; simp [ainsert, akeys]
    · have hk' : ¬ k = k' := fun h => hk h.symm
      simp only [ainsert, hk, if_false, akeys, List.map_cons, List.mem_cons, hk', false_or] at ih ⊢
      rw [ih]
      by_cases hc : k ∈ List.map Prod.fst t <;> simp only [hc, if_true, if_false, List.cons_append]

theorem keysNodup_ainsert (k : α) (v : β) {l : List (α × β)} (h : keysNodup l) :
    keysNodup (ainsert k v l) := by
  unfold keysNodup at *
  rw [akeys_ainsert]
  split
  · exact h
  · rename_i hk
    rw [List.nodup_append]
    refine ⟨h, by simp, ?_⟩
    intro a ha b hb
    simp at hb; subst hb
    intro hab; subst hab; exact hk ha

theorem alookup_aerase_self (k : α) (l : List (α × β)) : alookup k (aerase k l) = none := by
  induction l with
  | nil => rfl
  | cons hd t ih =>
    obtain ⟨k', v'⟩ := hd
    by_cases hk : k' = k
    · simp [aerase, hk, ih]
    · simp [aerase, hk, alookup_cons, ih]

theorem alookup_aerase_ne {k k₂ : α} (l : List (α × β)) (hne : k ≠ k₂) :
    alookup k₂ (aerase k l) = alookup k₂ l := by
  induction l with
  | nil => rfl
  | cons hd t ih =>
    obtain ⟨k', v'⟩ := hd
    by_cases hk : k' = k
    · subst hk; simp [aerase, alookup_cons, hne, ih]
    · by_cases hk2 : k' = k₂
      · subst hk2; simp [aerase, hk, alookup_cons]
      · simp [aerase, hk, alookup_cons, hk2, ih]

theorem akeys_aerase_sublist (k : α) (l : List (α × β)) :
    (akeys (aerase k l)).Sublist (akeys l) := by
  induction l with
  | nil => simp [aerase, akeys]
  | cons hd t ih =>
    obtain ⟨k', v'⟩ := hd
    by_cases hk : k' = k
    · simp only [aerase, hk, if_true, akeys, List.map_cons]
      exact List.Sublist.cons _ ih
    · simp only [aerase, hk, if_false, akeys, List.map_cons]
      exact List.Sublist.cons_cons _ ih

theorem keysNodup_aerase (k : α) {l : List (α × β)} (h : keysNodup l) :
    keysNodup (aerase k l) :=
  List.Sublist.nodup (akeys_aerase_sublist k l) h

theorem snoc_split {α : Type} {h p q : List α} {o x : α} (e : h ++ [o] = p ++ x :: q) :
    (q = [] ∧ h = p ∧ o = x) ∨ ∃ q', q = q' ++ [o] ∧ h = p ++ x :: q' := by
  rcases List.eq_nil_or_concat q with rfl | ⟨q', o', rfl⟩
  · left
    have := List.append_inj' e (by simp)
    simp_all
  · right
    rw [List.concat_eq_append] at e ⊢
    have e' : h ++ [o] = (p ++ x :: q') ++ [o'] := by simpa using e
    have := List.append_inj' e' (by simp)
    refine ⟨q', ?_, this.1⟩
    simp_all

theorem getElem?_set_cases {α : Type} {l : List α} {i j : Nat} {a b : α} (h : (l.set i a)[j]? = some b) :
    (j = i ∧ b = a) ∨ (j ≠ i ∧ l[j]? = some b) := by
  rw [List.getElem?_set] at h
  split at h
  · rename_i e
    split at h
    · cases h; exact Or.inl ⟨e.symm, rfl⟩
    · cases h
  · rename_i e; exact Or.inr ⟨fun e' => e e'.symm, h⟩

theorem inj_of_nodup_map {α β : Type} {f : α → β} {l : List α} (h : (l.map f).Nodup) {a b : α} (ha : a ∈ l) (hb : b ∈ l)
    (hab : f a = f b) : a = b := by
  induction l with
  | nil => cases ha
  | cons x l ih =>
    simp only [List.map_cons, List.nodup_cons] at h
    rcases List.mem_cons.mp ha with ha1 | ha1 <;> rcases List.mem_cons.mp hb with hb1 | hb1
    · rw [ha1, hb1]
    · rw [ha1] at hab; exact absurd (List.mem_map.mpr ⟨b, hb1, hab.symm⟩ : f x ∈ l.map f) h.1
    · rw [hb1] at hab; exact absurd (List.mem_map.mpr ⟨a, ha1, hab⟩ : f x ∈ l.map f) h.1
    · exact ih h.2 ha1 hb1

theorem filter_length_le_one_iff {α : Type} (p : α → Bool) (l : List α) :
    (l.filter p).length ≤ 1 ↔
      ∀ (i j : Nat) (a b : α), l[i]? = some a → l[j]? = some b → p a = true → p b = true → i = j := by
  induction l with
  | nil => exact ⟨fun _ i j a b ha => (nomatch ha), fun _ => Nat.zero_le 1⟩
  | cons x xs ih =>
    by_cases hx : p x = true
    · -- `x` counts: no element of `xs` may
      rw [List.filter_cons_of_pos hx]
      have key : xs.filter p = [] ↔ ∀ (k : Nat) (c : α), xs[k]? = some c → p c = true → False := by
        rw [List.eq_nil_iff_forall_not_mem]
        constructor
        · intro h k c hc pc; exact h c (List.mem_filter.mpr ⟨List.mem_of_getElem? hc, pc⟩)
        · intro h c hc
          obtain ⟨hcx, pc⟩ := List.mem_filter.mp hc
          obtain ⟨k, hk⟩ := List.getElem?_of_mem hcx
          exact h k c hk pc
      constructor
      · intro h i j a b ha hb pa pb
        have hn := key.mp (List.eq_nil_of_length_eq_zero (Nat.le_zero.mp (Nat.le_of_succ_le_succ h)))
        cases i <;> cases j
        · rfl
        · exact (hn _ b hb pb).elim
        · exact (hn _ a ha pa).elim
        · exact (hn _ a ha pa).elim
      · intro h
        rw [key.mpr (fun k c hk pc => nomatch h 0 (k + 1) x c rfl hk hx pc)]
        exact Nat.le_refl 1
    · rw [List.filter_cons_of_neg hx, ih]
      constructor
      · intro h i j a b ha hb pa pb
        cases i with
        | zero => cases ha; exact absurd pa hx
        | succ i =>
          cases j with
          | zero => cases hb; exact absurd pb hx
          | succ j => rw [h i j a b ha hb pa pb]
      · intro h i j a b ha hb pa pb
        exact Nat.succ.inj (h (i + 1) (j + 1) a b ha hb pa pb)

end WD
