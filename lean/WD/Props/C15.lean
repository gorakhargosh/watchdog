/-
  C15 — Handlers call exactly the callbacks the event type and match rules dictate.
  `m` (pathlib's PurePath.match), `lower` (str.lower) and `rm` (re.match) are parameters: the
  theorems hold for arbitrary matchers; the correspondence run supplies the real ones.
-/
import WD.Model.Events
import WD.Generated.EventClasses
namespace WD.C15
open WD

/-- the class table regenerated from the source on every run is the hand-written model's table -/
def modelTable : List (String × String × Bool × List String) :=
  [EvClass.DirCreatedEvent, .DirDeletedEvent, .DirModifiedEvent, .DirMovedEvent, .FileClosedEvent,
   .FileClosedNoWriteEvent, .FileCreatedEvent, .FileDeletedEvent, .FileModifiedEvent, .FileMovedEvent,
   .FileOpenedEvent, .FileSystemEvent, .FileSystemMovedEvent].map
    (fun c => (c.name, c.eventType, c.isDirectory,
      ([EvClass.DirCreatedEvent, .DirDeletedEvent, .DirModifiedEvent, .DirMovedEvent, .FileClosedEvent,
        .FileClosedNoWriteEvent, .FileCreatedEvent, .FileDeletedEvent, .FileModifiedEvent, .FileMovedEvent,
        .FileOpenedEvent, .FileSystemEvent, .FileSystemMovedEvent].filter (fun d => c.isSubclass d)).map EvClass.name))

theorem class_table : WD.Generated.eventClasses = modelTable := by decide +kernel

/-- base handler: on_any_event, then exactly the one on_<type> callback, once each, for every
    concrete event class (every class whose event_type is not the abstract base's "") -/
theorem base_dispatch (c : EvClass) (h : c ≠ .FileSystemEvent) :
    baseDispatch c = .calls ["on_any_event", "on_" ++ c.eventType] ∧
    ("on_" ++ c.eventType) ∈ callbacksOfType.map ("on_" ++ ·) := by
  have all : ∀ c ∈ EvClass.all, c ≠ .FileSystemEvent →
      baseDispatch c = .calls ["on_any_event", "on_" ++ c.eventType] ∧
      ("on_" ++ c.eventType) ∈ callbacksOfType.map ("on_" ++ ·) := by decide +kernel
  exact all c (by cases c <;> decide) h

/-- the abstract base class has no callback of its own: dispatching it raises (after on_any_event) -/
theorem base_dispatch_abstract : baseDispatch .FileSystemEvent = .error "AttributeError" := by decide +kernel

variable (m : String → String → Bool) (lower : String → String)

theorem matchPath_iff (inc exc : List String) (p : String) :
    matchPath m inc exc p = true ↔ (∃ i ∈ inc, m p i = true) ∧ ∀ x ∈ exc, m p x = false := by
  simp [matchPath]

/-- the pattern rule, stated outright -/
theorem pattern_iff (cfg : PatCfg) (e : Event)
    (hnc : ¬ ∃ p, p ∈ effInc lower cfg.caseSensitive cfg.patterns ∧ p ∈ effExc lower cfg.caseSensitive cfg.ignorePatterns) :
    patternDispatch m lower cfg e =
      if ¬ (cfg.ignoreDirectories = true ∧ e.cls.isDirectory = true) ∧
         ∃ p ∈ e.matchPaths, (∃ i ∈ effInc lower cfg.caseSensitive cfg.patterns, m p i = true) ∧
                             (∀ x ∈ effExc lower cfg.caseSensitive cfg.ignorePatterns, m p x = false)
      then baseDispatch e.cls else .calls [] := by
  -- no conflict, so `filterPaths` answers, and it answers a non-empty list exactly when some path matches
  have hconf : ¬ (e.matchPaths ≠ [] ∧ (effInc lower cfg.caseSensitive cfg.patterns).any
      (fun p => (effExc lower cfg.caseSensitive cfg.ignorePatterns).contains p) = true) := by
    rintro ⟨_, h⟩
    obtain ⟨p, hp1, hp2⟩ := List.any_eq_true.1 h
    exact hnc ⟨p, hp1, List.contains_iff_mem.1 hp2⟩
  simp only [patternDispatch, matchAnyPaths, filterPaths, hconf, if_false, Option.map_some, Bool.and_eq_true]
  split
  · next hd => rw [if_neg (fun h => h.1 hd)]
  · next hd =>
    by_cases hex : ∃ p ∈ e.matchPaths, (∃ i ∈ effInc lower cfg.caseSensitive cfg.patterns, m p i = true) ∧
        (∀ x ∈ effExc lower cfg.caseSensitive cfg.ignorePatterns, m p x = false)
    · have : (e.matchPaths.filter (matchPath m (effInc lower cfg.caseSensitive cfg.patterns)
          (effExc lower cfg.caseSensitive cfg.ignorePatterns))).isEmpty = false := by
        obtain ⟨p, hp, hm⟩ := hex
        cases hl : e.matchPaths.filter _ with
        | nil => exact absurd (List.mem_filter.2 ⟨hp, (matchPath_iff m _ _ p).2 hm⟩) (by rw [hl]; exact List.not_mem_nil)
        | cons _ _ => rfl
      rw [this, if_pos ⟨hd, hex⟩]; rfl
    · have : (e.matchPaths.filter (matchPath m (effInc lower cfg.caseSensitive cfg.patterns)
          (effExc lower cfg.caseSensitive cfg.ignorePatterns))).isEmpty = true := by
        rw [List.isEmpty_iff, List.filter_eq_nil_iff]
        exact fun p hp hm => hex ⟨p, hp, (matchPath_iff m _ _ p).1 hm⟩
      rw [this, if_neg (fun h => hex h.2)]; rfl

/-- a pattern that is both included and excluded is rejected as soon as a path is examined -/
theorem conflict_rejected (cs : Bool) (inc exc : Option (List String)) (paths : List String)
    (hp : paths ≠ []) (p : String) (h1 : p ∈ effInc lower cs inc) (h2 : p ∈ effExc lower cs exc) :
    filterPaths m lower cs inc exc paths = none := by
  unfold filterPaths
  have : (effInc lower cs inc).any (fun p => (effExc lower cs exc).contains p) = true :=
    List.any_eq_true.mpr ⟨p, h1, by simpa using h2⟩
  simp only [hp, this, ne_eq, not_false_eq_true, and_self, if_true]

/-- the path filter returns a sub-sequence of its input, consisting of exactly the matching paths -/
theorem filter_subsequence (cs : Bool) (inc exc : Option (List String)) (paths l : List String)
    (h : filterPaths m lower cs inc exc paths = some l) :
    l.Sublist paths ∧ ∀ p, p ∈ l ↔ p ∈ paths ∧ matchPath m (effInc lower cs inc) (effExc lower cs exc) p = true := by
  simp only [filterPaths] at h
  split at h
  · simp at h
  · simp only [Option.some.injEq] at h
    subst h
    exact ⟨List.filter_sublist, fun p => List.mem_filter⟩

/-- defaults: no include list means `*` (include all that pathlib matches with `*`), no exclude list
    means exclude none -/
theorem defaults (cs : Bool) (paths : List String) :
    filterPaths m lower cs none none paths = some (paths.filter (fun p => m p (if cs then "*" else lower "*"))) := by
  unfold filterPaths effInc effExc
  have : ∀ x : String, matchPath m [x] [] = fun p => m p x := by
    intro x; funext p; simp [matchPath]
  cases cs <;> simp [this]

variable (rm : String → String → Bool)

/-- the regex rule, stated outright -/
theorem regex_iff (cfg : ReCfg) (e : Event) :
    regexDispatch rm cfg e =
      if ¬ (cfg.ignoreDirectories = true ∧ e.cls.isDirectory = true) ∧
         (∀ r ∈ cfg.ignoreRegexes, ∀ p ∈ e.matchPaths, rm r p = false) ∧
         (∃ r ∈ cfg.regexes, ∃ p ∈ e.matchPaths, rm r p = true)
      then baseDispatch e.cls else .calls [] := by
  have hi : cfg.ignoreRegexes.any (fun r => e.matchPaths.any (rm r)) = false ↔
      ∀ r ∈ cfg.ignoreRegexes, ∀ p ∈ e.matchPaths, rm r p = false := by
    simp only [List.any_eq_false, Bool.not_eq_true]
  have hr : cfg.regexes.any (fun r => e.matchPaths.any (rm r)) = true ↔
      ∃ r ∈ cfg.regexes, ∃ p ∈ e.matchPaths, rm r p = true := by
    simp only [List.any_eq_true]
  simp only [regexDispatch, Bool.and_eq_true]
  split
  · next hd => rw [if_neg (fun h => h.1 hd)]
  · next hd =>
    split
    · next hig => rw [if_neg (fun h => by rw [hi.2 h.2.1] at hig; cases hig)]
    · next hig =>
      split
      · next hre => rw [if_pos ⟨hd, hi.1 (Bool.eq_false_iff.2 hig), hr.1 hre⟩]
      · next hre => rw [if_neg (fun h => hre (hr.2 h.2.2))]

/-- the paths that take part in matching are exactly the event's non-empty paths -/
theorem match_paths (e : Event) (p : String) :
    p ∈ e.matchPaths ↔ p ≠ "" ∧ (p = e.dest ∨ p = e.src) := by
  unfold Event.matchPaths
  by_cases h1 : e.dest = "" <;> by_cases h2 : e.src = "" <;> simp [h1, h2] <;> grind

/-- non-vacuity: a moved event whose source matches an include pattern and no exclude pattern is
    dispatched to on_any_event + on_moved; the same event is ignored when it is a directory event and
    directories are ignored -/
example :
    patternDispatch (fun p q => p == "a.py" && q == "*.py") id
      ⟨some ["*.py"], some ["*.txt"], false, true⟩ ⟨.FileMovedEvent, "a.py", "b.txt", false⟩
      = .calls ["on_any_event", "on_moved"] := by decide
example :
    patternDispatch (fun p q => p == "a.py" && q == "*.py") id
      ⟨some ["*.py"], some ["*.txt"], true, true⟩ ⟨.DirMovedEvent, "a.py", "b.txt", false⟩
      = .calls [] := by decide

end WD.C15
