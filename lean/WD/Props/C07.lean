/-
  C07 — Monitoring never silently dies while the observer runs and the root exists (native pipeline, recursive
  watch, every operation drained before the next).  For every well-formed initial tree and EVERY sequence of
  operations the file system accepts — inside the tree or on entries that have left it.
-/
import WD.Proofs.Pipeline.Theorems
import WD.Proofs.Pipeline.FlatSpec
import WD.Proofs.Pipeline.BurstFiles
import WD.Proofs.Pipeline.BurstFlat
import WD.Proofs.Pipeline.BurstGrow
import WD.Proofs.Pipeline.Paced
/-
  `_partial`: all initial trees, all histories of valid operations, recursive watch, in the regime "the stream
  drains after every operation"; library threads other than the inotify reader (their interplay is C04–C06, C12)
  and API call sequences are not part of this model.
-/
namespace WD.C07
open WD WD.Pipe

/-- the reader never meets a watch descriptor it does not know (no KeyError: the thread lives on) -/
theorem no_crash_partial (fs0 : FS) (hwf : fs0.WF) (full : Bool) (ops : List Op)
    (hv : allValid (Sys.start fs0 true full) ops = true) :
    ((Sys.start fs0 true full).run ops).1.crashed = false :=
  (history_rec fs0 hwf full ops hv).2.1

/-- the same for a non-recursive watch -/
theorem no_crash_nonrecursive_partial (fs0 : FS) (hwf : fs0.WF) (full : Bool) (ops : List Op)
    (hv : allValid (Sys.start fs0 false full) ops = true) :
    ((Sys.start fs0 false full).run ops).1.crashed = false :=
  (history_flat fs0 hwf full ops hv).2.1

theorem stops_iff_root_removed_nonrecursive_partial (fs0 : FS) (hwf : fs0.WF) (full : Bool) (ops : List Op)
    (hv : allValid (Sys.start fs0 false full) ops = true) :
    ((Sys.start fs0 false full).run ops).1.stopped = true ↔ Op.rmdir ["W"] ∈ ops :=
  (history_flat fs0 hwf full ops hv).2.2.1

/-- the emitter stops exactly when the watched root itself is removed -/
theorem stops_iff_root_removed_partial (fs0 : FS) (hwf : fs0.WF) (full : Bool) (ops : List Op)
    (hv : allValid (Sys.start fs0 true full) ops = true) :
    ((Sys.start fs0 true full).run ops).1.stopped = true ↔ Op.rmdir ["W"] ∈ ops :=
  (history_rec fs0 hwf full ops hv).2.2.1

/-- while it runs, later changes in the tree are reported: the state after any history still satisfies what
    the per-operation contract needs (C03.contract_refined applies to every continuation), in particular
    every directory is still covered (C02.coverage_inv) -/
theorem still_reporting_partial (fs0 : FS) (hwf : fs0.WF) (full : Bool) (ops more : List Op)
    (hv : allValid (Sys.start fs0 true full) (ops ++ more) = true) :
    ((Sys.start fs0 true full).run (ops ++ more)).2 = contractRun fs0 true full (ops ++ more) :=
  (history_rec fs0 hwf full (ops ++ more) hv).1

/-- when the root itself is deleted, exactly one directory-deleted event for the root is delivered for that
    operation, and the emitter stops (nothing is delivered afterwards: `contractRun`) -/
theorem root_deleted (fs : FS) (full recursive : Bool) :
    contract fs recursive full (.rmdir ["W"]) = ([⟨.DirDeletedEvent, ["W"], [], false⟩], true) := by
  simp [contract, mkEv]

/-- back to back: a burst of file operations read as one batch does not kill the reader either (recursive watch), … -/
theorem no_crash_file_burst_partial (fs0 : FS) (hwf : fs0.WF) (full : Bool) (pre burst : List Op)
    (hv : allValid (Sys.start fs0 true full) pre = true) (hroot : Op.rmdir ["W"] ∉ pre)
    (hb : allFile ((Sys.start fs0 true full).run pre).1 burst = true) :
    (((Sys.start fs0 true full).run pre).1.burst burst).1.crashed = false ∧
    (((Sys.start fs0 true full).run pre).1.burst burst).1.stopped = false := by
  obtain ⟨inv, hs, hc⟩ := after_history fs0 hwf full pre hv hroot
  obtain ⟨_, _, _, _, _, _, hrun, _⟩ := kernelOps_files burst _ inv hs hc hb
  rw [burst_files _ burst inv hs hc hb, hrun]
  exact ⟨hc, hs⟩

/-- … and under a non-recursive watch no burst of valid operations whatsoever does (root not removed) -/
theorem no_crash_burst_nonrecursive_partial (fs0 : FS) (hwf : fs0.WF) (full : Bool) (pre burst : List Op)
    (hv : allValid (Sys.start fs0 false full) pre = true) (hroot : Op.rmdir ["W"] ∉ pre)
    (hb : allValidNoRoot ((Sys.start fs0 false full).run pre).1 burst = true) :
    (((Sys.start fs0 false full).run pre).1.burst burst).1.crashed = false ∧
    (((Sys.start fs0 false full).run pre).1.burst burst).1.stopped = false := by
  obtain ⟨inv, hs, hc⟩ := after_history_flat fs0 hwf full pre hv hroot
  obtain ⟨_, _, _, _, _, hrun, _⟩ := kernelOps_flat burst _ inv hs hc hb
  rw [burst_flat _ burst inv hs hc hb, hrun]
  exact ⟨hc, hs⟩

/-- non-vacuity: the history that used to kill the reader thread (move a watched directory out, re-create
    and remove its name, remove the moved directory), then the root goes away -/
example :
    let fs0 := (kernelOp FS.init ⟨[], 1, 1⟩ (.mkdir ["W", "d"])).1
    let ops := [Op.rename ["W", "d"] ["O", "x"], .mkdir ["W", "d"], .rmdir ["W", "d"], .rmdir ["O", "x"], .create ["W", "a"],
                .unlink ["W", "a"], .rmdir ["W"], .create ["O", "b"]]
    allValid (Sys.start fs0 true false) ops = true ∧ ((Sys.start fs0 true false).run ops).1.crashed = false ∧
    ((Sys.start fs0 true false).run ops).1.stopped = true ∧
    (((Sys.start fs0 true false).run ops).2.map (·.map PEv.toEvent)).drop 6 = [[⟨.DirDeletedEvent, "W", "", false⟩], []] := by
  decide +kernel


/-- a nested burst (`mkdir`s and file creations at any depth, read as one batch) neither kills the reader nor stops
    the emitter -/
theorem no_crash_growth_burst_partial (fs0 : FS) (hwf : fs0.WF) (full : Bool) (pre burst : List Op)
    (hv : allValid (Sys.start fs0 true full) pre = true) (hroot : Op.rmdir ["W"] ∉ pre)
    (hb : allFill ((Sys.start fs0 true full).run pre).1.fs burst = true) :
    (((Sys.start fs0 true full).run pre).1.burst burst).1.crashed = false ∧
    (((Sys.start fs0 true full).run pre).1.burst burst).1.stopped = false := by
  obtain ⟨inv, hs, hc⟩ := after_history fs0 hwf full pre hv hroot
  obtain ⟨_, h2, h3, _⟩ := burst_grow _ burst inv hs hc hb
  exact ⟨h3, h2⟩


/-- over PACED histories (single operations of any kind other than removing the root, bursts of file operations, nested
    creation bursts, each burst read as one batch) the reader never crashes and the emitter never stops -/
theorem no_crash_paced_partial (fs0 : FS) (hwf : fs0.WF) (full : Bool) (bs : List (List Op))
    (hb : pacedOK (Sys.start fs0 true full) bs) :
    ((Sys.start fs0 true full).runBursts bs).1.crashed = false ∧ ((Sys.start fs0 true full).runBursts bs).1.stopped = false := by
  obtain ⟨inv, hs, hc, _, _⟩ := start_rec fs0 hwf full
  obtain ⟨_, h2, h3, _⟩ := paced_run bs _ inv hs hc hb
  exact ⟨h3, h2⟩

end WD.C07
