/-
  C17 — Delay queue: FIFO, never early, loses or duplicates nothing; close() unblocks.
  All statements are for every set of thread scripts (any number of threads, any length) and every
  sequence of scheduling steps and clock advances (`Action`), i.e. for all interleavings and timings.
-/
import WD.Proofs.DelayQueue
namespace WD.C17
open WD.DQ

variable (delay : Nat) (scripts : List (List Op)) (as : List Action)

/-- FIFO + nothing lost + nothing duplicated, in one equation: the elements put so far and not
    taken out by `remove()`, in put order, are exactly the elements returned by `get()` so far (in
    return order) followed by the current queue content -/
theorem accounting (h : distinctPuts scripts) :
    live (run (init delay scripts) as).hist =
      gots (run (init delay scripts) as).hist ++ (run (init delay scripts) as).queue.map Entry.elem :=
  ProofsDQ.accounting delay scripts as h

/-- every element is handed out at most once, by `get()` xor `remove()` -/
theorem exactly_once (h : distinctPuts scripts) :
    (gots (run (init delay scripts) as).hist ++ removeds (run (init delay scripts) as).hist).Nodup := by
  have H := (ProofsDQ.reach_inv delay scripts as h).H
  refine List.nodup_append.2 ⟨H.live_nodup.sublist H.gots_sub_live, H.remNodup, ?_⟩
  rintro a ha _ hb rfl
  exact ProofsDQ.not_removed_of_live (H.gots_sub_live.subset ha) hb

/-- elements leave through `get()` in the order they were put in -/
theorem fifo (h : distinctPuts scripts) :
    (gots (run (init delay scripts) as).hist).Sublist (puts (run (init delay scripts) as).hist) :=
  (ProofsDQ.reach_inv delay scripts as h).H.gots_sub_live.trans List.filter_sublist

/-- an element removed by `remove()` is never returned by `get()` (not even to a consumer that
    was already waiting on it) -/
theorem removed_not_returned (h : distinctPuts scripts) (e : Elem)
    (hr : e ∈ removeds (run (init delay scripts) as).hist) : e ∉ gots (run (init delay scripts) as).hist :=
  fun hg => ProofsDQ.not_removed_of_live ((ProofsDQ.reach_inv delay scripts as h).H.gots_sub_live.subset hg) hr

/-- a delayed element is never returned before its delay has elapsed since insertion -/
theorem never_early (h : distinctPuts scripts) (tid tid' : Nat) (e : Elem) (t t0 : Nat)
    (hg : Obs.got tid e t ∈ (run (init delay scripts) as).hist)
    (hp : Obs.put tid' e true t0 ∈ (run (init delay scripts) as).hist) : t0 + delay ≤ t :=
  (ProofsDQ.reach_inv delay scripts as h).H.ne _ _ _ _ _ hg hp

/-- an element put without delay is available immediately once it is at the head: a `get()` that
    finds it there goes straight to the pop (no sleep, clock unchanged) and the pop returns it -/
theorem immediate (s : State) (tid : Nat) (t : Thread) (head : Entry) (rest : List Entry)
    (ht : s.thread? tid = some t) (hpc : t.pc = .getAcq ∨ (t.pc = .getWait ∧ t.notified = true))
    (hq : s.queue = head :: rest) (hnd : head.delayed = false) (hc : s.closed = false) :
    ∃ s1, step s tid = some s1 ∧ s1.clock = s.clock ∧ s1.queue = s.queue ∧
      (∃ t1, s1.thread? tid = some t1 ∧ t1.pc = .getPop head) ∧
      ∃ s2, step s1 tid = some s2 ∧ Obs.got tid head.elem s.clock ∈ s2.hist ∧ s2.queue = rest :=
  ProofsDQ.immediate s tid t head rest ht hpc hq hnd hc

/-- after `close()` has completed, no consumer is left blocked un-notified in `wait()` (single
    consumer, as in the library) ... -/
theorem close_unblocks (h : singleConsumer scripts) (ctid t0 : Nat)
    (hc : Obs.closed ctid t0 ∈ (run (init delay scripts) as).hist) (tid : Nat) (t : Thread)
    (ht : (run (init delay scripts) as).thread? tid = some t) (hw : t.pc = .getWait) : t.notified = true := by
  have I := ProofsDQ.reach_invW delay scripts as h
  -- a completed `close()` leaves no waiter, and an un-notified thread in `wait()` is one
  cases hn : t.notified with
  | true => rfl
  | false =>
    have hin : tid ∈ (run (init delay scripts) as).waiters := (I.wIff tid).2 ⟨t, ht, hw, hn⟩
    rw [(I.closedHist ctid t0 hc).2] at hin
    cases hin

/-- ... and a `get()` that runs once the queue is closed returns the end marker instead of blocking -/
theorem closed_get_returns_none (s : State) (tid : Nat) (t : Thread)
    (ht : s.thread? tid = some t) (hpc : t.pc = .getAcq ∨ (t.pc = .getWait ∧ t.notified = true))
    (hc : s.closed = true) :
    ∃ s1, step s tid = some s1 ∧ Obs.gotNone tid s.clock ∈ s1.hist := by
  obtain ⟨t', hs⟩ := ProofsDQ.step_get ht hpc
  refine ⟨_, hs, ?_⟩
  rw [ProofsDQ.getLocked_closed _ _ _ hc, ProofsDQ.arrive_eq]; simp [State.setThread]

/-- non-vacuity: a producer puts a delayed and a plain element, a remover takes the first out while
    the consumer sleeps on it; the consumer then gets only the second one, at the removal's time -/
example :
    let s := run (init 4 [[.get], [.put ⟨1, 7⟩ true, .put ⟨2, 8⟩ false], [.remove 7]])
      [.step 0, .step 1, .step 1, .step 1, .step 0, .step 2, .step 2, .tick 4, .step 0, .step 0, .step 0, .step 0]
    gots s.hist = [⟨2, 8⟩] ∧ removeds s.hist = [⟨1, 7⟩] ∧ s.queue = [] := by decide

end WD.C17
