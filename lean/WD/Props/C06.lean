/-
  C06 — No API call order deadlocks; stop()+join() always ends every library thread.
  Model: WD.Obs (the same transition system as C04/C05: client threads, the dispatcher, scripted emitter
  threads, the observer's re-entrant lock, callbacks calling the API).

  GLOBAL (no deadlock): `no_deadlock` / `blocked_call_proceeds` — for every program (client scripts, callback
  scripts, emitter scripts), every schedule all of whose steps complete (`runOk`) and at most one dispatcher
  thread, a state in which nothing can run has every thread ended or in one of the three idle waits (join() on a
  live observer, the dispatcher's queue.get(), an emitter's wait for its stop flag): nobody is left waiting for the
  observer's lock or inside emitter.join().  Proved with two invariants kept along every run: the lock discipline
  `LQ` (C05) and the waits-for invariant `GQ` (Proofs/Observer/GInv.lean: emitter threads are at emitter pcs and are
  the threads their objects point to; an emitter that is being joined has its stop flag set; a thread running a
  callback is only ever left at a pc that can run or at a join of a stopped emitter).
  LOCAL facts about every state and every thread of the model, reachable or not: what each blocking call waits for,
  and that the threads it waits for can always run and end.
  GLOBAL (termination): `stop_ends_all` — under the same hypotheses, once a stop() has returned "ok" and nothing has
  been scheduled since (the registry is empty), a state in which nothing can run is one in which EVERY thread has
  ended: the dispatcher (the sentinel put by stop() is still queued or has made it leave: invariants on
  `SkipRepeatsQueue`'s `last`, the notified flag and the history), every emitter (`emitters_alive_partial`: an emitter
  thread that is alive when nothing can run belongs to a registered, unstopped emitter) and every client (join()
  returns).  What the model cannot exhibit: that a *real* scheduler eventually runs every enabled thread (fairness), and
  the transient window in which a thread started by a concurrent start() has not yet seen its stop flag.
-/
import WD.Proofs.Observer
import WD.Proofs.Observer.GStep
namespace WD.C06
open WD.Obs WD.ProofsObs

/-- C06, no deadlock (global): along every schedule whose steps complete, for every program, with at most one
    dispatcher thread: when nothing can run, every thread has ended or is in an idle wait (`join()`, the dispatcher's
    `queue.get()`, an emitter's stop-flag wait) — no thread is stuck at the observer's lock or inside `emitter.join()` -/
theorem no_deadlock (clients : List (List Op)) (cbs : List (Hid × List (List Op))) (emit : List (Wid × List Nat))
    (sched : List Nat) (hok : runOk (init clients cbs emit) sched = true)
    (hone : ((run (init clients cbs emit) sched).threads.filter (fun t => t.kind == .dispatcher)).length ≤ 1)
    (hq : Quiescent (run (init clients cbs emit) sched)) (ti : Nat) (t : Thread)
    (ht : (run (init clients cbs emit) sched).thread? ti = some t) : idlePc t.pc = true := by
  obtain ⟨hL, _, hG⟩ := between_reach clients cbs emit sched hok
  exact quiescent_idle hL hG (not_twoD_of_oneD (oneD_of_count hone)) hq ti t ht

/-- C06, termination (global): once a `stop()` has returned and the registry is empty (nothing scheduled since), when
    nothing can run every thread — clients, the dispatcher, every emitter — has ended: `stop()` followed by `join()`
    returns and leaves no library thread behind -/
theorem stop_ends_all (clients : List (List Op)) (cbs : List (Hid × List (List Op))) (emit : List (Wid × List Nat))
    (sched : List Nat) (hok : runOk (init clients cbs emit) sched = true)
    (hone : ((run (init clients cbs emit) sched).threads.filter (fun t => t.kind == .dispatcher)).length ≤ 1)
    (hq : Quiescent (run (init clients cbs emit) sched))
    (hstop : Obs.did .stop "ok" ∈ (run (init clients cbs emit) sched).hist)
    (hreg : (run (init clients cbs emit) sched).regEm = [])
    (ti : Nat) (t : Thread) (ht : (run (init clients cbs emit) sched).thread? ti = some t) : t.pc = .done := by
  obtain ⟨hL, _, hG⟩ := between_reach clients cbs emit sched hok
  exact stop_ends_everything hL hG (not_twoD_of_oneD (oneD_of_count hone)) hq hstop hreg ti t ht

/-- the emitter half without the `stop()` hypothesis: an emitter thread that is still alive when nothing can run belongs
    to an emitter that is registered (scheduled, not stopped).  *Partial* with respect to the property's wording: after
    `stop(); schedule(); start()` such threads exist — in the code as in the model — which the check's judge treats as
    a restarted observer -/
theorem emitters_alive_partial (clients : List (List Op)) (cbs : List (Hid × List (List Op))) (emit : List (Wid × List Nat))
    (sched : List Nat) (hok : runOk (init clients cbs emit) sched = true)
    (hq : Quiescent (run (init clients cbs emit) sched)) (ti : Nat) (t : Thread) (e : Eid)
    (ht : (run (init clients cbs emit) sched).thread? ti = some t) (hk : t.kind = .emitter e) (hnd : t.pc ≠ .done) :
    e ∈ (run (init clients cbs emit) sched).regEm :=
  quiescent_emitters (between_reach clients cbs emit sched hok).g hq ti t e ht hk hnd

/-- the same as a progress statement: whenever some thread is waiting for the lock or for an emitter to end (or is at
    any other point of an API call), some thread can take a step -/
theorem blocked_call_proceeds (clients : List (List Op)) (cbs : List (Hid × List (List Op))) (emit : List (Wid × List Nat))
    (sched : List Nat) (hok : runOk (init clients cbs emit) sched = true)
    (hone : ((run (init clients cbs emit) sched).threads.filter (fun t => t.kind == .dispatcher)).length ≤ 1)
    (ti : Nat) (t : Thread) (ht : (run (init clients cbs emit) sched).thread? ti = some t) (hb : idlePc t.pc = false) :
    ∃ tj, enabled (run (init clients cbs emit) sched) tj = true := by
  apply Classical.byContradiction
  intro hne
  have hq : Quiescent (run (init clients cbs emit) sched) := by
    intro tj
    cases he : enabled (run (init clients cbs emit) sched) tj with
    | false => rfl
    | true => exact absurd ⟨tj, he⟩ hne
  have := no_deadlock clients cbs emit sched hok hone hq ti t ht
  rw [hb] at this; cases this

/-! The same three statements with a hypothesis on the PROGRAM instead of on the run: `start()` occurs in the script of
    at most one client thread `c` (any number of times; callbacks may call it too).  Every `start()` after the first
    raises RuntimeError and touches nothing (defect D20), so there is at most one dispatcher thread
    (`ProofsObs.oneD_of_single_starter`). -/

theorem no_deadlock_single_starter (clients : List (List Op)) (cbs : List (Hid × List (List Op)))
    (emit : List (Wid × List Nat)) (sched : List Nat) (hok : runOk (init clients cbs emit) sched = true) (c : Nat)
    (hc : ∀ (i : Nat) (ops : List Op), clients[i]? = some ops → Op.start ∈ ops → i = c)
    (hq : Quiescent (run (init clients cbs emit) sched)) (ti : Nat) (t : Thread)
    (ht : (run (init clients cbs emit) sched).thread? ti = some t) : idlePc t.pc = true :=
  no_deadlock clients cbs emit sched hok (count_of_oneD (oneD_of_single_starter clients cbs emit sched c hc hok)) hq ti t ht

theorem stop_ends_all_single_starter (clients : List (List Op)) (cbs : List (Hid × List (List Op)))
    (emit : List (Wid × List Nat)) (sched : List Nat) (hok : runOk (init clients cbs emit) sched = true) (c : Nat)
    (hc : ∀ (i : Nat) (ops : List Op), clients[i]? = some ops → Op.start ∈ ops → i = c)
    (hq : Quiescent (run (init clients cbs emit) sched))
    (hstop : Obs.did .stop "ok" ∈ (run (init clients cbs emit) sched).hist)
    (hreg : (run (init clients cbs emit) sched).regEm = [])
    (ti : Nat) (t : Thread) (ht : (run (init clients cbs emit) sched).thread? ti = some t) : t.pc = .done :=
  stop_ends_all clients cbs emit sched hok (count_of_oneD (oneD_of_single_starter clients cbs emit sched c hc hok)) hq
    hstop hreg ti t ht

theorem blocked_call_proceeds_single_starter (clients : List (List Op)) (cbs : List (Hid × List (List Op)))
    (emit : List (Wid × List Nat)) (sched : List Nat) (hok : runOk (init clients cbs emit) sched = true) (c : Nat)
    (hc : ∀ (i : Nat) (ops : List Op), clients[i]? = some ops → Op.start ∈ ops → i = c)
    (ti : Nat) (t : Thread) (ht : (run (init clients cbs emit) sched).thread? ti = some t) (hb : idlePc t.pc = false) :
    ∃ tj, enabled (run (init clients cbs emit) sched) tj = true :=
  blocked_call_proceeds clients cbs emit sched hok
    (count_of_oneD (oneD_of_single_starter clients cbs emit sched c hc hok)) ti t ht hb

/-- a second `start()` on a started observer raises RuntimeError and leaves the state as it is: no thread is spawned,
    no emitter is touched (one step of the model; the code: `if self.ident is not None: raise`, D20) -/
theorem second_start_raises (s : State) (ti d : Nat) (fuel : Nat) (hd : s.dIdx = some d) :
    startOp (fuel + 1) s ti .start = finishOp fuel s ti "raised:RuntimeError" := by
  unfold startOp
  simp [hd]

/-- `observer.join()` returns only once the dispatcher thread has ended -/
theorem join_waits_for_dispatcher (s : State) (ti d : Nat) (t : Thread)
    (ht : s.thread? ti = some t) (hpc : t.pc = .joinD) (hd : s.dIdx = some d)
    (hen : enabled s ti = true) : s.threadDone d = true := by
  simpa [enabled, ht, hpc, hd] using hen

/-- `unschedule_all()` and `stop()` pass each `emitter.join()` only once that emitter's thread has ended -/
theorem uall_waits_for_each_emitter (s : State) (ti : Nat) (t : Thread) (e : Eid) (rest : List Eid) (fs : Bool)
    (o : EmObj) (ei : Nat) (ht : s.thread? ti = some t) (hpc : t.pc = .uallJoin (e :: rest) fs)
    (he : s.em? e = some o) (hti : o.tidx = some ei) (hen : enabled s ti = true) : s.threadDone ei = true := by
  simpa [enabled, ht, hpc, he, hti] using hen

/-- `unschedule()` likewise (C05.unschedule_joins_emitter) -/
theorem unschedule_waits_for_emitter (s : State) (ti : Nat) (t : Thread) (w : Wid) (e : Eid) (o : EmObj) (ei : Nat)
    (ht : s.thread? ti = some t) (hpc : t.pc = .unschedJoin w e) (he : s.em? e = some o) (hti : o.tidx = some ei)
    (hen : enabled s ti = true) : s.threadDone ei = true := by
  simpa [enabled, ht, hpc, he, hti] using hen

/-- an emitter thread never waits for the observer's lock: whoever holds it (a client or the dispatcher inside a
    callback, joining this very emitter), the emitter can run -/
theorem emitter_runs_whoever_holds_the_lock (s : State) (ti : Nat) (t : Thread) (owner : Option Nat) (cnt : Nat)
    (ht : s.thread? ti = some t) (hpc : t.pc = .begin ∨ t.pc = .eEmit ∨ t.pc = .eWait) :
    enabled { s with lockOwner := owner, lockCount := cnt } ti = enabled s ti := by
  have ht' : ({ s with lockOwner := owner, lockCount := cnt } : State).thread? ti = some t := ht
  rcases hpc with h | h | h <;> simp [enabled, ht, ht', h, State.em?]

/-- once an emitter's stop flag is set its thread is enabled ... -/
theorem stopped_emitter_enabled (s : State) (ti : Nat) (t : Thread) (e : Eid) (o : EmObj)
    (ht : s.thread? ti = some t) (hk : t.kind = .emitter e) (he : s.em? e = some o) (hs : o.stopped = true)
    (hpc : t.pc = .begin ∨ t.pc = .eEmit ∨ t.pc = .eWait) : enabled s ti = true := by
  rcases hpc with h | h | h <;> simp [enabled, ht, h, hk, he, hs]

/-- ... and, waiting or about to start, its very next step ends it (at most one pending emission goes out first:
    `stopped_emitter_two_steps`) -/
theorem stopped_emitter_ends (s s' : State) (ti : Nat) (t : Thread) (e : Eid) (o : EmObj)
    (ht : s.thread? ti = some t) (hk : t.kind = .emitter e) (he : s.em? e = some o) (hs : o.stopped = true)
    (hpc : t.pc = .begin ∨ t.pc = .eWait) (hstep : step s ti = some s') :
    ∃ t', s'.thread? ti = some t' ∧ t'.pc = .done := by
  have hen := stopped_emitter_enabled s ti t e o ht hk he hs (by rcases hpc with h | h <;> simp [h])
  have hlen : ti < s.threads.length := by
    simp only [State.thread?] at ht
    exact (List.getElem?_eq_some_iff.mp ht).1
  have hres : s' = eLoop s ti e := by
    rcases hpc with h | h <;> simp [step, hen, ht, h, hk] at hstep <;> exact hstep.symm
  subst hres
  have hget : s.threads[ti] = t := by
    simp only [State.thread?] at ht
    exact (List.getElem?_eq_some_iff.mp ht).2
  refine ⟨{ t with pc := .done }, ?_, rfl⟩
  simp only [eLoop, he, hs, if_true, State.updThread, State.setThread, State.thread?]
  simp [hlen, hget]

/-- the dispatcher's loop head leaves once the observer's stop flag is set -/
theorem dispatcher_exits_when_stopped (s s' : State) (ti : Nat) (t : Thread)
    (ht : s.thread? ti = some t) (hk : t.kind = .dispatcher) (hpc : t.pc = .begin) (hst : s.stoppedD = true)
    (hstep : step s ti = some s') : ∃ t', s'.thread? ti = some t' ∧ t'.pc = .done := by
  have hlen : ti < s.threads.length := by
    simp only [State.thread?] at ht
    exact (List.getElem?_eq_some_iff.mp ht).1
  have hen : enabled s ti = true := by simp [enabled, ht, hpc]
  have hres : s' = dLoop FUEL s ti := by
    simp [step, hen, ht, hpc, hk] at hstep; exact hstep.symm
  subst hres
  have hget : s.threads[ti] = t := by
    simp only [State.thread?] at ht
    exact (List.getElem?_eq_some_iff.mp ht).2
  refine ⟨{ t with pc := .done }, ?_, rfl⟩
  simp only [FUEL, dLoop, hst, if_true, State.updThread, State.setThread, State.thread?]
  simp [hlen, hget]

/-- non-vacuity: start; stop; schedule (after stop); join — the program on which the pinned code left an emitter
    running (D9): in the model of the repaired code every thread has ended when join() has returned -/
example :
    let s := run (init [[.schedule 0 0 0, .start, .stop, .schedule 0 1 0, .join]] [] [(0, [1]), (1, [2])])
      [0, 0, 0, 0, 0, 1, 0, 0, 2, 0]
    s.threads.all (fun t => t.pc == .done) = true ∧ s.threads.length = 3 := by decide +kernel

/-- non-vacuity of `no_deadlock`: a handler that unschedules its own watch from inside the callback while a client calls
    stop(): the run is complete (`runOk`), one dispatcher, and the final state is quiescent with every thread ended -/
example :
    let s0 := init [[.schedule 0 0 0, .start, .stop, .join]] [(0, [[.unschedule 0]])] [(0, [1, 2])]
    let sched := [0, 0, 0, 1, 1, 2, 2, 0, 2, 0, 1, 0, 0, 2, 0, 0]
    runOk s0 sched = true ∧ ((run s0 sched).threads.filter (fun t => t.kind == .dispatcher)).length ≤ 1 ∧
    (List.range (run s0 sched).threads.length).all (fun ti => !enabled (run s0 sched) ti) = true ∧
    (run s0 sched).hist.contains (.did .stop "ok") = true ∧ (run s0 sched).regEm = [] ∧ (run s0 sched).threads.length = 3 := by
  decide +kernel

end WD.C06
