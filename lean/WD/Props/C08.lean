/-
  C08 — A rename arrives as one paired move; no native event is lost or duplicated.
  The buffer = the delay queue (same steps as C17's model) + the reader's grouping.  Statements are
  for all thread scripts / schedules / clock advances (queue part) and all batches (grouping part).
-/
import WD.Proofs.InoBuffer
namespace WD.C08
open WD.IB

variable (delay : Nat) (scripts : List (List Op)) (as : List Action)

/-- nothing lost, nothing duplicated, kernel order: what was put and not pulled back out by a pairing
    look-up is, in order, what the consumer got followed by what still waits -/
theorem accounting (h : distinctPuts scripts) :
    live (run (init delay scripts) as).hist =
      gots (run (init delay scripts) as).hist ++ (run (init delay scripts) as).queue.map Entry.elem :=
  ProofsIB.accounting delay scripts as h

/-- never both alone and in a pair: an element is handed to the consumer or taken by a pairing
    look-up, never both, never twice -/
theorem never_both (h : distinctPuts scripts) :
    (gots (run (init delay scripts) as).hist ++ removeds (run (init delay scripts) as).hist).Nodup := by
  have H := (ProofsIB.reach_inv delay scripts as h).H
  refine List.nodup_append.2 ⟨H.live_nodup.sublist H.gots_sub_live, H.remNodup, ?_⟩
  rintro a ha _ hb rfl
  exact ProofsIB.not_removed_of_live (H.gots_sub_live.subset ha) hb

/-- in kernel order -/
theorem order (h : distinctPuts scripts) :
    (gots (run (init delay scripts) as).hist).Sublist (puts (run (init delay scripts) as).hist) :=
  (ProofsIB.reach_inv delay scripts as h).H.gots_sub_live.trans List.filter_sublist

/-- an unmatched first half is delivered alone no earlier than the pairing delay -/
theorem alone_not_early (h : distinctPuts scripts) (tid tid' : Nat) (e : Elem) (t t0 : Nat)
    (hg : Obs.got tid e t ∈ (run (init delay scripts) as).hist)
    (hp : Obs.put tid' e true t0 ∈ (run (init delay scripts) as).hist) : t0 + delay ≤ t :=
  (ProofsIB.reach_inv delay scripts as h).H.ne _ _ _ _ _ hg hp

/-- until its delay has elapsed a first half is still in the queue (unless a look-up took it) ... -/
theorem pending_until_delay (h : distinctPuts scripts) (tid : Nat) (e : Elem) (t0 : Nat)
    (hp : Obs.put tid e true t0 ∈ (run (init delay scripts) as).hist)
    (hr : e ∉ removeds (run (init delay scripts) as).hist)
    (hc : (run (init delay scripts) as).clock < t0 + delay) :
    e ∈ (run (init delay scripts) as).queue.map Entry.elem :=
  ProofsIB.pending_until_delay delay scripts as h tid e t0 hp hr hc

/-- ... so a second half whose look-up happens before that finds a first half with its cookie:
    the two halves are delivered as one pair whenever the second arrives in time, however the
    buffer was cut into reads and however the threads interleave -/
theorem pairs_when_in_time (h : distinctPuts scripts) (tid tid' : Nat) (t : Thread) (e : Elem) (t0 v : Nat)
    (hp : Obs.put tid' e true t0 ∈ (run (init delay scripts) as).hist)
    (hr : e ∉ removeds (run (init delay scripts) as).hist)
    (hc : (run (init delay scripts) as).clock < t0 + delay)
    (ht : (run (init delay scripts) as).thread? tid = some t) (hpc : t.pc = .remAcq v) (hv : e.val = v) :
    ∃ s1 e', step (run (init delay scripts) as) tid = some s1 ∧ e'.val = v ∧
      s1.hist = (run (init delay scripts) as).hist ++ [.removed tid e' (run (init delay scripts) as).clock] :=
  ProofsIB.pairs_when_in_time delay scripts as h tid tid' t e t0 v hp hr hc ht hpc hv

/-- grouping loses and invents nothing: the records of the grouped items are a permutation of the batch -/
theorem group_covers (batch : List Rec) (slot0 : Nat) :
    ((groupBatch batch slot0).1.flatMap itemRecs).Perm batch := by
  refine ProofsIB.groupBatch_ind slot0 (fun b l => (l.flatMap itemRecs).Perm b) (by simp) ?_ ?_ ?_ batch
  · intro b l ev h _
    simpa [List.flatMap_append, itemRecs] using h.append_right [ev]
  · intro b l ev n h _
    simpa [List.flatMap_append, itemRecs] using h.append_right [ev]
  · intro b l ev g h _ hg
    obtain ⟨l1, r, l2, rfl, rfl, _, _⟩ := ProofsIB.pairInBatch_spec hg
    refine List.Perm.trans ?_ (h.append_right [ev])
    simp only [List.flatMap_append, List.flatMap_cons, itemRecs, List.append_assoc, List.cons_append,
      List.nil_append]
    refine List.Perm.append_left _ (List.Perm.cons _ ?_)
    exact (List.perm_append_singleton ev _).symm

/-- an in-batch pair is the two halves of one rename -/
theorem group_pairs (batch : List Rec) (slot0 : Nat) (f t : Rec)
    (h : Item.pair f t ∈ (groupBatch batch slot0).1) :
    f.movedFrom = true ∧ t.movedTo = true ∧ f.cookie = t.cookie ∧ f ∈ batch ∧ t ∈ batch := by
  have hmem : ∀ x ∈ itemRecs (Item.pair f t), x ∈ batch := by
    intro x hx
    exact (group_covers batch slot0).subset (List.mem_flatMap.2 ⟨_, h, hx⟩)
  have key : ∀ f t, Item.pair f t ∈ (groupBatch batch slot0).1 →
      f.movedFrom = true ∧ t.movedTo = true ∧ f.cookie = t.cookie := by
    refine ProofsIB.groupBatch_ind slot0 (fun _ l => ∀ f t, Item.pair f t ∈ l →
      f.movedFrom = true ∧ t.movedTo = true ∧ f.cookie = t.cookie) (by simp) ?_ ?_ ?_ batch
    · intro b l ev ih _ f t hft
      simp at hft; exact ih f t hft
    · intro b l ev n ih _ f t hft
      simp at hft; exact ih f t hft
    · intro b l ev g ih hm hg f t hft
      obtain ⟨l1, r, l2, rfl, rfl, h3, h4⟩ := ProofsIB.pairInBatch_spec hg
      simp only [List.mem_append, List.mem_cons] at hft
      rcases hft with h1 | h1 | h1
      · exact ih f t (by simp [h1])
      · injection h1 with hf ht; subst hf ht; exact ⟨h3, hm, h4⟩
      · exact ih f t (by simp [h1])
  obtain ⟨h1, h2, h3⟩ := key f t h
  exact ⟨h1, h2, h3, hmem f (by simp [itemRecs]), hmem t (by simp [itemRecs])⟩

/-- singles keep their kernel order -/
theorem group_singles_order (batch : List Rec) (slot0 : Nat) :
    ((groupBatch batch slot0).1.filterMap (fun it => match it with | .single r => some r | _ => none)).Sublist batch := by
  refine ProofsIB.groupBatch_ind slot0 (fun b l =>
    (l.filterMap (fun it => match it with | .single r => some r | _ => none)).Sublist b) (by simp) ?_ ?_ ?_ batch
  · intro b l ev h _
    simpa [List.filterMap_append] using h.append (List.Sublist.refl [ev])
  · intro b l ev n h _
    simpa [List.filterMap_append] using h.trans (List.sublist_append_left b [ev])
  · intro b l ev g h _ hg
    obtain ⟨l1, r, l2, rfl, rfl, _, _⟩ := ProofsIB.pairInBatch_spec hg
    refine List.Sublist.trans ?_ (h.trans (List.sublist_append_left b [ev]))
    simp only [List.filterMap_append, List.filterMap_cons]
    exact List.Sublist.append_left (List.sublist_cons_self _ _) _

/-- non-vacuity: a rename cut across two reads, the second within the delay: delivered as one pair -/
example :
    let c := compile [(0, [⟨1, 7, true, false, false, false, false⟩]), (3, [⟨2, 7, false, true, false, false, false⟩])]
    let s := run (init 4 [c.ops, [.get, .get], [.sleep 9, .setStop, .close, .join 0]])
      [.step 0, .step 1, .step 2, .step 0, .step 0, .step 1, .step 1, .tick 3, .step 0, .step 0, .step 0, .tick 1,
       .step 1, .step 1, .step 1, .step 1, .step 1]
    interpret c 0 s.hist = [.two 1 2 4] := by decide +kernel

end WD.C08
