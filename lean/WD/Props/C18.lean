/-
  C18 — Tricks: debounced batches complete and ordered; stop ends all.
  Theorems for the event debouncer (all producer/stopper scripts, all schedules, all clock advances)
  and for the auto-restart trick (`WD.Rst`: all client scripts of start()/event/stop()/sleep, all
  child lifetimes, kill delays, debounce intervals, all schedules, all clock advances).
  The shell-command trick (`WD.Shell`) driven by one dispatching thread: all event/sleep scripts, all
  command lifetimes, all schedules and clock advances.
-/
import WD.Proofs.Debouncer
import WD.Proofs.Restart
import WD.Proofs.Restart.Spawns
import WD.Proofs.Restart.NoDeadlock
import WD.Proofs.Shell
namespace WD.C18
open WD.Deb WD.ProofsDeb

variable (interval : Nat) (scripts : List (List Op)) (as : List Action)




/-- exactly once, in arrival order: what the callback has received so far (batches concatenated),
    followed by what is still pending, is exactly what was handed in, in order -/
theorem batches_in_order :
    handedVals (run (init interval scripts) as).hist =
      batchVals (run (init interval scripts) as).hist ++ (run (init interval scripts) as).events :=
  ProofsDeb.batches_in_order interval scripts as

/-- nothing is delivered after stop() has returned -/
theorem nothing_after_stop (p q : List Obs) (tid t : Nat) (vs : List Nat) (t' : Nat)
    (h : (run (init interval scripts) as).hist = p ++ .stopped tid t :: q) : Obs.batch vs t' ∉ q :=
  ProofsDeb.nothing_after_stop interval scripts as p q tid t vs t' h

/-- a batch is delivered only once no further event has arrived for the debounce interval: every
    event of the batch was handed in at least `interval` before the delivery -/
theorem batch_after_silence (p q : List Obs) (vs : List Nat) (t : Nat) (tid v t0 : Nat)
    (h : (run (init interval scripts) as).hist = p ++ .batch vs t :: q)
    (hv : Obs.handed tid v t0 ∈ p) (hin : v ∈ vs) (hd : ((handedVals p).filter (· == v)).length = 1) :
    t0 + interval ≤ t :=
  ProofsDeb.batch_after_silence interval scripts as p q vs t tid v t0 h hv hin hd

/-- the thread always exits on stop(): once stop() has returned the debouncer is finished or able
    to take a step (it is never left blocked in wait()), and its next steps lead to `done` without
    delivering anything -/
theorem exits_on_stop (tid t : Nat) (h : Obs.stopped tid t ∈ (run (init interval scripts) as).hist) :
    (run (init interval scripts) as).deb = .done ∨ debEnabled (run (init interval scripts) as) = true :=
  ProofsDeb.exits_on_stop interval scripts as tid t h

/-- non-vacuity: two events within the interval form one batch, delivered `interval` after the second -/
example :
    let s := run (init 4 [[.event 1, .sleep 2, .event 2]])
      [.step 0, .step 0, .step 1, .step 1, .step 0, .step 1, .tick 2, .step 1, .step 1, .step 0, .tick 4, .step 0]
    s.hist.filterMap (fun o => match o with | .batch vs t => some (vs, t) | _ => none) = [([1, 2], 6)] := by
  decide +kernel

section restart
open WD.Rst
variable (cfg : Cfg) (lifetimes : List (Option Nat)) (rscripts : List (List Rst.Op)) (ras : List Rst.Action)

/-- never more than one child process alive at a time: in every reachable state (any scripts of start() / events /
    stop() calls on any number of threads, any child lifetimes, any time a child takes to die of a signal, with or
    without debouncer and restart-on-exit, any schedule, any advance of the clock) two live children are the same
    child -/
theorem one_child_at_a_time (p q : Nat)
    (hp : (Rst.run (Rst.init cfg lifetimes rscripts) ras).aliveP p = true)
    (hq : (Rst.run (Rst.init cfg lifetimes rscripts) ras).aliveP q = true) : p = q :=
  (ProofsRst.reach_run cfg lifetimes rscripts ras).one_child p q hp hq

/-- after the stop() that does the work has returned no child is alive (a stop() that finds the trick already
    stopping returns at once and is logged as `stopNoop`: "the body of the function is only run once") -/
theorem no_child_after_stop (tid t : Nat)
    (h : Rst.Obs.stopRet tid t ∈ (Rst.run (Rst.init cfg lifetimes rscripts) ras).hist) (pid : Nat) :
    (Rst.run (Rst.init cfg lifetimes rscripts) ras).aliveP pid = false :=
  ProofsRst.no_child_after_stop cfg lifetimes rscripts ras tid t h pid

/-- one scheduler action (a thread step or an advance of the clock) starts at most one child, in every state -/
theorem one_spawn_per_action (s : Rst.State) (a : Rst.Action) : (Rst.act s a).procs.length ≤ s.procs.length + 1 := by
  cases a with
  | tick d => simp [Rst.act]
  | step i =>
    simp only [Rst.act, Rst.step]
    cases hi : s.threads[i]? with
    | none => simp
    | some t =>
      simp only
      split
      · exact ProofsRst.stepT_spawns_le_one s i t
      · simp

/-- children are started only by the locked part of `start()` and by the step that completes `_stop_process` inside
    `_restart_process` (directly or at the end of the kill loop): a step of `stop()`, of a process watcher or of the
    debouncer loop itself never starts one, and the restarting thread has left `_stop_process` when it has -/
theorem spawn_only_in_start_or_restart (s : Rst.State) (i : Nat)
    (h : s.procs.length < (Rst.act s (.step i)).procs.length) :
    ∃ t, s.threads[i]? = some t ∧ ProofsRst.spawnSite t.pc = true := by
  simp only [Rst.act, Rst.step] at h
  cases hi : s.threads[i]? with
  | none => simp [hi] at h
  | some t =>
    refine ⟨t, rfl, ?_⟩
    simp only [hi] at h
    split at h
    · exact ProofsRst.stepT_spawn_site s i t h
    · simp at h

/-- … and none is started later -/
theorem no_spawn_after_stop (p q : List Rst.Obs) (tid t pid t' : Nat)
    (h : (Rst.run (Rst.init cfg lifetimes rscripts) ras).hist = p ++ Rst.Obs.stopRet tid t :: q) :
    Rst.Obs.spawn pid t' ∉ q :=
  ProofsRst.no_spawn_after_stop cfg lifetimes rscripts ras p q tid t pid t' h

/-- restarts are serialised: two threads inside the region guarded by `_restart_lock` are the same thread -/
theorem restart_lock_exclusive (i j : Nat) (ti tj : Rst.Thread)
    (hi : (Rst.run (Rst.init cfg lifetimes rscripts) ras).threads[i]? = some ti) (hhi : ProofsRst.holds ti.pc = true)
    (hj : (Rst.run (Rst.init cfg lifetimes rscripts) ras).threads[j]? = some tj) (hhj : ProofsRst.holds tj.pc = true) :
    i = j :=
  (ProofsRst.reach_run cfg lifetimes rscripts ras).lock_exclusive i j ti tj hi hhi hj hhj

/-- the kill loop always has a child to poll (`self.process.poll()` never meets `None`: the totalised branch of
    `Rst.killLoop` is unreachable) -/
theorem kill_loop_has_child (i : Nat) (ti : Rst.Thread)
    (hi : (Rst.run (Rst.init cfg lifetimes rscripts) ras).threads[i]? = some ti) (hs : ProofsRst.isSleep ti.pc = true) :
    (Rst.run (Rst.init cfg lifetimes rscripts) ras).process ≠ none :=
  (ProofsRst.reach_run cfg lifetimes rscripts ras).sleeping_has_process i ti hi hs

/-- the watcher threads, their stop flags: once the working stop() has returned the trick references no watcher and no
    child, and EVERY watcher thread ever started has been told to stop (a watcher is told to stop when its child is
    replaced or stopped).  That they have also ENDED by then is `watchers_gone_after_stop`. -/
theorem watchers_stopped_after_stop (tid t : Nat)
    (h : Rst.Obs.stopRet tid t ∈ (Rst.run (Rst.init cfg lifetimes rscripts) ras).hist) :
    (Rst.run (Rst.init cfg lifetimes rscripts) ras).watcher = none ∧
    (Rst.run (Rst.init cfg lifetimes rscripts) ras).process = none ∧
    ∀ (j : Nat) (th : Rst.Thread), (Rst.run (Rst.init cfg lifetimes rscripts) ras).threads[j]? = some th →
      ProofsRst.isWatcher th.kind = true → th.stopFlag = true :=
  (ProofsRst.reach_run cfg lifetimes rscripts ras).watchers_stopped tid t h

/-- all helper threads gone, the debouncer: once the working stop() has returned, every EventDebouncer thread the trick
    ever started has ENDED (stop() joined it) - for every script of start() / event / stop() calls on any number of
    threads, start() after stop(), racing it, or called twice included: start() creates its debouncer under the stopping
    lock, never while the trick is stopping and never a second one (repaired defect D16); and at any time there is at
    most one debouncer thread, the one the trick refers to -/
theorem debouncer_gone_after_stop (tid t : Nat)
    (h : Rst.Obs.stopRet tid t ∈ (Rst.run (Rst.init cfg lifetimes rscripts) ras).hist)
    (j : Nat) (th : Rst.Thread) (hth : (Rst.run (Rst.init cfg lifetimes rscripts) ras).threads[j]? = some th)
    (hk : th.kind = .deb) : th.pc = .done :=
  (ProofsRst.reach_run cfg lifetimes rscripts ras).debouncer_gone tid t h j th hth (by rw [hk]; rfl)

theorem one_debouncer (j : Nat) (th : Rst.Thread)
    (hth : (Rst.run (Rst.init cfg lifetimes rscripts) ras).threads[j]? = some th) (hk : th.kind = .deb) :
    (Rst.run (Rst.init cfg lifetimes rscripts) ras).debTid = some j :=
  (ProofsRst.reach_run cfg lifetimes rscripts ras).one_debouncer j th hth (by rw [hk]; rfl)

/-- non-vacuity: start() with a debouncer, stop(), then start() again: the second start() creates nothing -/
example :
    let s := Rst.run (Rst.init { interval := 200, killAfter := 1000, killDelay := 0, restartOnExit := false } [none, none]
        [[.start, .stop, .start]])
      [.step 0, .step 0, .step 0, .step 0, .step 0, .step 0, .step 0, .step 1, .step 1, .step 0, .step 0, .step 0, .step 0, .step 0, .step 0]
    (s.hist.any fun o => match o with | .stopRet _ _ => true | _ => false) = true ∧ s.threads.length = 2 ∧
    (s.threads.map (·.pc)) = [.done, .done] := by
  decide +kernel

/-- no deadlock on the two locks: in every reachable state, whenever a thread is waiting for `_restart_lock` (start(), a
    restart, stop()) or for `_stopping_lock` (start(), stop(), `_stop_process`), some thread can take a step, or the
    holder of `_restart_lock` is asleep in the kill loop with its 0.25 s deadline pending - nobody waits for a lock whose
    holder is itself blocked for good -/
theorem no_deadlock_on_locks (j : Nat) (t : Rst.Thread)
    (ht : (Rst.run (Rst.init cfg lifetimes rscripts) ras).threads[j]? = some t)
    (hw : ProofsRst.waitsS t.pc = true ∨ ProofsRst.waitsR t.pc = true) :
    ProofsRst.CanMove (Rst.run (Rst.init cfg lifetimes rscripts) ras) :=
  (ProofsRst.reach_run cfg lifetimes rscripts ras).lock_wait_progress j t ht hw

/-- **no call blocks for ever** (global): in every reachable state of the trick in which nothing can run and no timed wait
    is pending (`Stuck`: the state would never change again), every thread - application threads inside `start()`,
    `dispatch()` or `stop()`, process watchers, the debouncer - has ended, except that the debouncer may be waiting for a
    first event while nobody has stopped it.  No thread is left at a lock, at the debouncer's condition, or in a `join()`.
    (Proof: the lock discipline of `no_deadlock_on_locks`, plus: the condition lock is held across visible operations only
    by the debouncer inside its callback; what `stop()` joins are the debouncer and a watcher thread, whose pcs are those
    of their loops and of a restart; once the trick is stopping the debouncer's flag is up or the stopping thread is on
    its way to raise it, and a flagged debouncer is never left un-notified - `Proofs/Restart/Cond.lean`, `Joins.lean`,
    `StopFlag.lean`, `NoDeadlock.lean`.)  What the model cannot exhibit: that a real scheduler runs every enabled thread. -/
theorem no_call_blocks_forever (hs : ProofsRst.Stuck (Rst.run (Rst.init cfg lifetimes rscripts) ras))
    (i : Nat) (t : Rst.Thread) (ht : (Rst.run (Rst.init cfg lifetimes rscripts) ras).threads[i]? = some t) :
    t.pc = .done ∨ (t.pc = .dWaitFirst ∧ t.kind = .deb ∧ t.stopFlag = false) :=
  ProofsRst.stuck_idle (ProofsRst.reach_run cfg lifetimes rscripts ras) hs i t ht

/-- **stop ends all** (global): once the working `stop()` has returned, a state in which nothing can run and no timed wait
    is pending is one in which every thread of the trick has ended - the application threads, every process watcher, the
    debouncer -/
theorem stop_ends_all_threads (hs : ProofsRst.Stuck (Rst.run (Rst.init cfg lifetimes rscripts) ras)) (tid tm : Nat)
    (h : Rst.Obs.stopRet tid tm ∈ (Rst.run (Rst.init cfg lifetimes rscripts) ras).hist)
    (i : Nat) (t : Rst.Thread) (ht : (Rst.run (Rst.init cfg lifetimes rscripts) ras).threads[i]? = some t) : t.pc = .done :=
  ProofsRst.stuck_all_done_after_stop (ProofsRst.reach_run cfg lifetimes rscripts ras) hs ⟨_, h, rfl⟩ i t ht

/-- the debouncer's condition lock is never waited for in vain: whenever a thread waits for it (`handle_event`,
    `event_debouncer.stop()`, the debouncer's loop head), some thread can take a step or sleeps in the kill loop -/
theorem no_deadlock_on_condition (j : Nat) (t : Rst.Thread)
    (ht : (Rst.run (Rst.init cfg lifetimes rscripts) ras).threads[j]? = some t) (hw : ProofsRst.waitsC t.pc = true) :
    ProofsRst.CanMove (Rst.run (Rst.init cfg lifetimes rscripts) ras) :=
  ProofsRst.waitC_progress (ProofsRst.reach_run cfg lifetimes rscripts ras).inv (ProofsRst.reach_run cfg lifetimes rscripts ras).ch j t ht hw

/-- non-vacuity: a run with a debouncer and a watcher that ends in a stuck state after `stop()` returned -/
example :
    let s := Rst.run (Rst.init { interval := 200, killAfter := 1000, killDelay := 0, restartOnExit := true } [none, none]
        [[.start, .event, .stop]])
      ([.step 0, .step 0, .step 0, .step 0, .step 0, .step 0, .step 1, .step 1, .step 2, .step 0, .step 0, .step 0, .step 0,
        .tick 300, .step 1, .step 1, .step 2, .step 0, .step 0, .step 0, .step 0, .step 0, .tick 300] ++
       [.step 1, .step 1, .step 1, .step 2, .step 2, .step 3, .step 3, .step 0, .step 0, .step 0, .step 0, .tick 300, .step 1,
        .step 2, .step 3, .step 0, .step 0, .step 0])
    ProofsRst.stuckB s = true ∧ (s.hist.any fun o => match o with | .stopRet _ _ => true | _ => false) = true := by
  decide +kernel

/-- **"with all its helper threads gone", the process watchers** (repaired defect D29): once the working `stop()` has
    returned, every watcher thread the trick ever started has ENDED - the current one and every one that an earlier
    restart replaced: `stop()` joins the whole list `_process_watchers`, which holds every watcher that has not ended
    (`stop_joins_every_live_watcher`).  For every script of start() / event / stop() calls on any number of threads, all
    child lifetimes, schedules and clock advances. -/
theorem watchers_gone_after_stop (tid t : Nat)
    (h : Rst.Obs.stopRet tid t ∈ (Rst.run (Rst.init cfg lifetimes rscripts) ras).hist)
    (j : Nat) (th : Rst.Thread) (hth : (Rst.run (Rst.init cfg lifetimes rscripts) ras).threads[j]? = some th)
    (hk : ProofsRst.isWatcher th.kind = true) : th.pc = .done :=
  (ProofsRst.reach_run cfg lifetimes rscripts ras).watchers_gone tid t h j th hth hk

/-- **all helper threads gone**: once the working `stop()` has returned, every thread of the trick that is not an
    application thread - the debouncer, every process watcher - has ended -/
theorem helpers_gone_after_stop (tid t : Nat)
    (h : Rst.Obs.stopRet tid t ∈ (Rst.run (Rst.init cfg lifetimes rscripts) ras).hist)
    (j : Nat) (th : Rst.Thread) (hth : (Rst.run (Rst.init cfg lifetimes rscripts) ras).threads[j]? = some th)
    (hk : th.kind ≠ .client) : th.pc = .done := by
  cases hkk : th.kind with
  | client => exact absurd hkk hk
  | deb => exact (ProofsRst.reach_run cfg lifetimes rscripts ras).debouncer_gone tid t h j th hth (by rw [hkk]; rfl)
  | watcher pid => exact (ProofsRst.reach_run cfg lifetimes rscripts ras).watchers_gone tid t h j th hth (by rw [hkk]; rfl)

/-- a `stop()` past the restart lock carries, in the list of watchers it is going to join, every watcher thread that has
    not ended -/
theorem stop_joins_every_live_watcher (i : Nat) (ti : Rst.Thread)
    (hi : (Rst.run (Rst.init cfg lifetimes rscripts) ras).threads[i]? = some ti) (hc : ProofsRst.carries ti.pc = true)
    (u : Nat) (tu : Rst.Thread) (hu : (Rst.run (Rst.init cfg lifetimes rscripts) ras).threads[u]? = some tu)
    (hk : ProofsRst.isWatcher tu.kind = true) (hnd : tu.pc ≠ .done) : u ∈ ProofsRst.carried ti.pc :=
  (ProofsRst.reach_run cfg lifetimes rscripts ras).stop_carries_all_live_watchers i ti hi hc u tu hu hk hnd

def joinAllPrefix : List Rst.Action :=
  [.step 0, .step 0, .step 0, .step 0, .step 0, .step 0, .tick 250, .step 0, .tick 250, .step 0, .step 0,
   .step 0, .step 0, .step 0, .tick 250, .step 0, .tick 250, .step 0, .step 0]

/-- non-vacuity: start, an event (the child is replaced, and so is its watcher, thread 1, which has not run yet), stop:
    `stop()` waits for the REPLACED watcher first (it is not enabled until thread 1 has ended), then for the current one;
    when it has returned both watcher threads have ended -/
example :
    let s0 := Rst.init { interval := 0, killAfter := 1000, killDelay := 300, restartOnExit := true } [none, none]
        [[.start, .event, .stop]]
    let s := Rst.run s0 joinAllPrefix
    let s' := Rst.run s [.step 1, .step 0, .step 2, .step 0]
    (s.threads.map (·.pc) = [.stJoinW 1 [2], .begin, .begin]) ∧ Rst.enabled s 0 = false ∧
    (s'.hist.any fun o => match o with | .stopRet _ _ => true | _ => false) = true ∧
    s'.threads.map (·.pc) = [.done, .done, .done] := by
  decide +kernel

/-- a watcher that has been told to stop is not blocked in its poll loop: it can take its next step, and that step ends it -/
theorem stopped_watcher_ends (s : Rst.State) (j : Nat) (th : Rst.Thread) (hth : s.threads[j]? = some th)
    (hf : th.stopFlag = true) (dl : Nat) (hpc : th.pc = .wWait dl) :
    Rst.enabled s j = true ∧ ∃ s', Rst.step s j = some s' ∧ ProofsRst.pcOf s' j = some .done :=
  ProofsRst.stopped_watcher_ends s j th hth hf dl hpc

/-- non-vacuity: start, an event while the child runs (the child takes 300 ms to die of SIGINT), stop: two children
    were spawned, the working stop() returned, nobody is alive -/
example :
    let s := Rst.run (Rst.init { interval := 0, killAfter := 1000, killDelay := 300, restartOnExit := true } [none, none]
        [[.start, .event, .stop]])
      [.step 0, .step 0, .step 0, .step 0, .step 0, .step 0, .tick 250, .step 0, .tick 250, .step 0, .step 0,
       .step 0, .step 0, .step 0, .tick 250, .step 0, .tick 250, .step 0, .step 1, .step 2, .step 0, .step 0]
    s.procs.length = 2 ∧ s.aliveList = [] ∧ (s.hist.any fun o => match o with | .stopRet _ _ => true | _ => false) = true := by
  decide +kernel

end restart

/-- with `wait_for_process` or `drop_during_process` commands never overlap: in every reachable state (any script of
    events and pauses of the one dispatching thread, any command lifetimes, any schedule of the dispatcher and the
    watcher threads, any advance of the clock) two running commands are the same command -/
theorem shell_no_overlap (wait drop : Bool) (lifetimes : List (Option Nat)) (script : List Shell.Op)
    (sas : List Shell.Action) (hwd : wait = true ∨ drop = true) (p q : Nat)
    (hp : (Shell.run (Shell.init wait drop lifetimes script) sas).aliveP p = true)
    (hq : (Shell.run (Shell.init wait drop lifetimes script) sas).aliveP q = true) : p = q :=
  ProofsShell.no_overlap wait drop lifetimes script sas hwd p q hp hq

/-- non-vacuity: drop mode, three events 0.1 s apart, commands last 0.25 s: the second event is dropped, the third
    runs after the first command's watcher has seen it end -/
example :
    let s := Shell.run (Shell.init false true [some 250, some 250] [.event, .sleep 100, .event, .sleep 300, .event])
      [.step 0, .step 0, .step 1, .tick 100, .step 0, .step 1, .tick 100, .step 1, .tick 100, .step 1, .tick 100, .step 0, .step 0]
    s.procs.length = 2 ∧ s.aliveList = [1] := by
  decide +kernel

/-- … and without either option they do overlap (the hypothesis is needed) -/
example :
    let s := Shell.run (Shell.init false false [some 250, some 250] [.event, .event]) [.step 0, .step 0]
    s.aliveList = [0, 1] := by
  decide +kernel

end WD.C18
