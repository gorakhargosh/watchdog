/-
  C02 — A recursive watch covers every directory that exists, under its current name (native pipeline, every
  operation drained before the next).  For every well-formed initial tree and EVERY history of operations the
  file system accepts — inside the watched tree, outside it, moves out of it and (back) into it.
-/
import WD.Proofs.Pipeline.Theorems
import WD.Proofs.Pipeline.FlatSpec
import WD.Proofs.Pipeline.BurstFiles
import WD.Proofs.Pipeline.BurstGrow
import WD.Proofs.Pipeline.Paced
import WD.Proofs.Pipeline.BurstMkRename
/-
  `_partial`: the theorems quantify over all initial trees and all histories of valid operations, but in the
  regime "the stream drains after every operation" (`Sys.op`), plus bursts of FILE operations issued back to back and
  read as one batch (`coverage_after_file_burst_partial`).  Bursts that create, rename or move directories under the
  property's pacing condition are exercised on the real observer and compared with the burst model (harness/pipe_check.py).
-/
namespace WD.C02
open WD WD.Pipe

/-- coverage is an invariant: whatever way a directory came to be in the tree (present at start, created
    later, renamed together with its ancestors any number of times, moved in from outside, moved out and back
    in), the kernel watches it and the library knows that watch under the directory's real current path -/
theorem coverage_inv_partial (fs0 : FS) (hwf : fs0.WF) (full : Bool) (ops : List Op)
    (hv : allValid (Sys.start fs0 true full) ops = true)
    (hns : ((Sys.start fs0 true full).run ops).1.stopped = false) :
    Covered ((Sys.start fs0 true full).run ops).1 := by
  exact covered_of_inv ((history_rec fs0 hwf full ops hv).2.2.2 hns) _ rfl rfl rfl

/-- ... and nothing else is watched: every kernel watch is on a directory of the tree (nothing that has left
    the tree keeps reporting under a name it no longer has) -/
theorem nothing_stale_partial (fs0 : FS) (hwf : fs0.WF) (full : Bool) (ops : List Op)
    (hv : allValid (Sys.start fs0 true full) ops = true)
    (hns : ((Sys.start fs0 true full).run ops).1.stopped = false) :
    let s := ((Sys.start fs0 true full).run ops).1
    ∀ w ∈ s.k.watches, ∃ e ∈ s.fs.ents, e.ino = w.2 ∧ e.isDir = true ∧ (e.path = ["W"] ∨ isUnder ["W"] e.path = true) ∧
      lookupW s.lib.pathForWd w.1 = some e.path := by
  intro s w hw
  obtain ⟨e, he, h1, h2, h4, _⟩ := ((history_rec fs0 hwf full ops hv).2.2.2 hns).good w hw
  exact ⟨e, he, h1, (inTreeDir_iff.mp h2).1, (inTreeDir_iff.mp h2).2, h4⟩

/-- hence a change made inside any directory that exists in the tree is reported, under the entry's real path -/
theorem probe_reported_partial (fs0 : FS) (hwf : fs0.WF) (full : Bool) (ops : List Op)
    (hv : allValid (Sys.start fs0 true full) ops = true)
    (hns : ((Sys.start fs0 true full).run ops).1.stopped = false)
    (d : P) (name : String) (hd : ((Sys.start fs0 true full).run ops).1.fs.isDir d = true)
    (hu : d = ["W"] ∨ isUnder ["W"] d = true)
    (hfree : ((Sys.start fs0 true full).run ops).1.fs.exists (d ++ [name]) = false) :
    (⟨.FileCreatedEvent, d ++ [name], [], false⟩ : PEv) ∈
      ((((Sys.start fs0 true full).run ops).1).op (.create (d ++ [name]))).2 := by
  obtain ⟨_, h2, _, h3⟩ := history_rec fs0 hwf full ops hv
  have hlen : 2 ≤ (d ++ [name]).length := by
    rcases hu with h | h
    · subst h; simp
    · have := isUnder_length h; simp at this ⊢; omega
  have hv1 : validOp ((Sys.start fs0 true full).run ops).1.fs (.create (d ++ [name])) = true := by
    simp [validOp, hfree, parentOf_snoc, hd]; simpa using hlen
  have st := step_create _ (d ++ [name]) (h3 hns) hns h2 hv1
  rw [st.events]
  have hw : watchedDir ((Sys.start fs0 true full).run ops).1.fs true (parentOf (d ++ [name])) = true := by
    rw [parentOf_snoc]; simp only [watchedDir, hd, Bool.true_and, Bool.or_eq_true, beq_iff_eq]
    rcases hu with h | h
    · exact Or.inl h
    · exact Or.inr h
  simp [contract, hw, mkEv]

/-- a non-recursive watch never reports anything deeper than the root's direct children: every path of every
    delivered event is the root or one of its direct children -/
theorem nonrecursive_depth_partial (fs0 : FS) (hwf : fs0.WF) (full : Bool) (ops : List Op)
    (hv : allValid (Sys.start fs0 false full) ops = true) (e : PEv)
    (he : e ∈ allEvents ((Sys.start fs0 false full).run ops)) : e.src.length ≤ 2 ∧ e.dest.length ≤ 2 := by
  have hrun := (history_flat fs0 hwf full ops hv).1
  rw [allValid_eq_fsValid, (start_flat fs0 hwf full).2.2.2.1] at hv
  simp only [allEvents, hrun, List.mem_flatten] at he
  obtain ⟨evs, hevs, hee⟩ := he
  have := contractRun_flat_shallow fs0 hwf full ops hv evs hevs e hee
  exact ⟨shallow_len this.1, shallow_len this.2⟩

/-- ... and does report changes to the root's direct children -/
theorem nonrecursive_children_partial (fs0 : FS) (hwf : fs0.WF) (full : Bool) (ops : List Op)
    (hv : allValid (Sys.start fs0 false full) ops = true)
    (hns : ((Sys.start fs0 false full).run ops).1.stopped = false) (name : String)
    (hfree : ((Sys.start fs0 false full).run ops).1.fs.exists ["W", name] = false) :
    (⟨.FileCreatedEvent, ["W", name], [], false⟩ : PEv) ∈
      ((((Sys.start fs0 false full).run ops).1).op (.create ["W", name])).2 := by
  obtain ⟨_, h2, _, h3⟩ := history_flat fs0 hwf full ops hv
  have invF := h3 hns
  have hW : ((Sys.start fs0 false full).run ops).1.fs.isDir ["W"] = true := invF.wf.rootW
  have hv1 : validOp ((Sys.start fs0 false full).run ops).1.fs (.create ["W", name]) = true := by
    simp [validOp, hfree, parentOf, hW]
  have st := flat_create _ ["W", name] invF hns h2 hv1
  rw [st.events]
  have hw : watchedDir ((Sys.start fs0 false full).run ops).1.fs false (parentOf ["W", name]) = true := by
    simp [watchedDir_flat, parentOf, hW]
  simp [contract, hw, mkEv]

/-- non-vacuity: a directory that leaves the tree, comes back under another name, and whose former parent is
    then renamed (the history on which the stale path map used to mislead the observer) -/
example :
    let k0 : Kern := ⟨[], 1, 1⟩
    let fs0 := [Op.mkdir ["W", "p"], .mkdir ["W", "p", "a"]].foldl (fun fs op => (kernelOp fs k0 op).1) FS.init
    let ops := [Op.rename ["W", "p", "a"] ["O", "a"], .create ["O", "a", "z"], .rename ["O", "a"] ["W", "b"], .rename ["W", "p"] ["W", "q"]]
    allValid (Sys.start fs0 true false) ops = true ∧ ((Sys.start fs0 true false).run ops).1.stopped = false ∧
    ((((Sys.start fs0 true false).run ops).1).op (.create ["W", "b", "x"])).2.map PEv.toEvent =
      [⟨.FileCreatedEvent, "W/b/x", "", false⟩, ⟨.DirModifiedEvent, "W/b", "", false⟩, ⟨.FileOpenedEvent, "W/b/x", "", false⟩,
       ⟨.FileClosedEvent, "W/b/x", "", false⟩, ⟨.DirModifiedEvent, "W/b", "", false⟩] := by decide +kernel

/-- coverage survives file operations issued back to back: after any drained history and a burst of file operations
    read as one batch (`Sys.burst`), every directory of the tree is still watched under its real current path -/
theorem coverage_after_file_burst_partial (fs0 : FS) (hwf : fs0.WF) (full : Bool) (pre burst : List Op)
    (hv : allValid (Sys.start fs0 true full) pre = true) (hroot : Op.rmdir ["W"] ∉ pre)
    (hb : allFile ((Sys.start fs0 true full).run pre).1 burst = true) :
    Covered (((Sys.start fs0 true full).run pre).1.burst burst).1 := by
  obtain ⟨inv, hs, hc⟩ := after_history fs0 hwf full pre hv hroot
  obtain ⟨_, _, _, _, _, _, hrun, _⟩ := kernelOps_files burst _ inv hs hc hb
  rw [burst_files _ burst inv hs hc hb]
  have hst : (((Sys.start fs0 true full).run pre).1.run burst).1.stopped = false := by rw [hrun]; exact hs
  exact covered_of_inv ((run_rec _ burst inv hs hc (allValid_of_allFile burst _ hb)).2.2 hst) _ rfl rfl rfl


/-- coverage of a NESTED BURST: after any drained history, `mkdir`s and file creations at any depth issued back to back
    and read as one batch (directories created inside directories the burst itself created, before any of them had a
    watch): afterwards every directory of the tree - those the kernel never reported included - is watched under its
    real current path, and nothing else is -/
theorem coverage_after_growth_burst_partial (fs0 : FS) (hwf : fs0.WF) (full : Bool) (pre burst : List Op)
    (hv : allValid (Sys.start fs0 true full) pre = true) (hroot : Op.rmdir ["W"] ∉ pre)
    (hb : allFill ((Sys.start fs0 true full).run pre).1.fs burst = true) :
    Covered (((Sys.start fs0 true full).run pre).1.burst burst).1 ∧
    ∀ w ∈ (((Sys.start fs0 true full).run pre).1.burst burst).1.k.watches,
      ∃ e ∈ (((Sys.start fs0 true full).run pre).1.burst burst).1.fs.ents, e.ino = w.2 ∧ inTreeDir e = true := by
  obtain ⟨inv, hs, hc⟩ := after_history fs0 hwf full pre hv hroot
  obtain ⟨_, _, _, h4, _⟩ := burst_grow _ burst inv hs hc hb
  refine ⟨covered_of_inv h4 _ rfl rfl rfl, ?_⟩
  intro w hw
  obtain ⟨e, he, h1, h2, _⟩ := h4.good w hw
  exact ⟨e, he, h1, h2⟩


/-- coverage over PACED histories: any sequence of bursts, each read as one batch - single operations of any kind, bursts
    of file operations, nested creation bursts: after every such history every directory of the tree is watched under
    its real current path -/
theorem coverage_paced_partial (fs0 : FS) (hwf : fs0.WF) (full : Bool) (bs : List (List Op))
    (hb : pacedOK (Sys.start fs0 true full) bs) : Covered ((Sys.start fs0 true full).runBursts bs).1 := by
  obtain ⟨inv, hs, hc, _, _⟩ := start_rec fs0 hwf full
  exact covered_of_inv (paced_run bs _ inv hs hc hb).1 _ rfl rfl rfl


/-- coverage of a directory that was CREATED AND IMMEDIATELY RENAMED (`mkdir p; rename p q` in one batch): afterwards
    every directory of the tree - the renamed one under its new name - is watched under its real current path -/
theorem coverage_created_and_renamed_partial (fs0 : FS) (hwf : fs0.WF) (full : Bool) (pre : List Op) (p q : P)
    (hv : allValid (Sys.start fs0 true full) pre = true) (hroot : Op.rmdir ["W"] ∉ pre)
    (hb : mkRenameB ((Sys.start fs0 true full).run pre).1 [.mkdir p, .rename p q] = true) :
    Covered (((Sys.start fs0 true full).run pre).1.burst [.mkdir p, .rename p q]).1 := by
  obtain ⟨inv, hs, hc⟩ := after_history fs0 hwf full pre hv hroot
  simp only [mkRenameB, Bool.and_eq_true, beq_iff_eq, decide_eq_true_eq, Bool.not_eq_true', bne_iff_ne, ne_eq] at hb
  obtain ⟨⟨⟨⟨⟨⟨⟨_, a1⟩, a2⟩, a3⟩, a4⟩, a5⟩, a6⟩, a7⟩ := hb
  exact covered_of_inv (burst_mkdir_rename _ p q inv hs hc a1 a2 a3 a4 a5 a6 a7).2.2.2.2 _ rfl rfl rfl


/-- coverage of a directory tree that ARRIVED FROM OUTSIDE AND WAS RENAMED AT ONCE (`rename o q1; rename q1 q2` in one
    batch): afterwards every directory of the tree - the arrived ones under their final names - is watched under its real
    current path -/
theorem coverage_arrived_and_renamed_partial (fs0 : FS) (hwf : fs0.WF) (full : Bool) (pre : List Op) (o q1 q2 : P)
    (hv : allValid (Sys.start fs0 true full) pre = true) (hroot : Op.rmdir ["W"] ∉ pre)
    (hb : moveInRenameB ((Sys.start fs0 true full).run pre).1 [.rename o q1, .rename q1 q2] = true) :
    Covered (((Sys.start fs0 true full).run pre).1.burst [.rename o q1, .rename q1 q2]).1 := by
  obtain ⟨inv, hs, hc⟩ := after_history fs0 hwf full pre hv hroot
  exact covered_of_inv (paced_step _ _ inv hs hc (okBurst_of_check _ _ (by simp [okBurstB, hb]))).1 _ rfl rfl rfl


/-- coverage of a directory tree RENAMED TWICE IN A ROW (`rename a b; rename b c` in one batch): afterwards every
    directory of the tree - the moved ones under their final names - is watched under its real current path -/
theorem coverage_renamed_twice_partial (fs0 : FS) (hwf : fs0.WF) (full : Bool) (pre : List Op) (a b c : P)
    (hv : allValid (Sys.start fs0 true full) pre = true) (hroot : Op.rmdir ["W"] ∉ pre)
    (hb : renameChainB ((Sys.start fs0 true full).run pre).1 [.rename a b, .rename b c] = true) :
    Covered (((Sys.start fs0 true full).run pre).1.burst [.rename a b, .rename b c]).1 := by
  obtain ⟨inv, hs, hc⟩ := after_history fs0 hwf full pre hv hroot
  exact covered_of_inv (paced_step _ _ inv hs hc (okBurst_of_check _ _ (by simp [okBurstB, hb]))).1 _ rfl rfl rfl

end WD.C02
