/-
  C12 — Every descriptor is released exactly once, also on failure.
  For every plan of kernel batches and every interleaving of close() with the reader at every step
  of its read loop (all schedules, any length).
-/
import WD.Proofs.FdProto
namespace WD.C12
open WD.Fd

/-- no descriptor is polled, read, written, passed to inotify_rm_watch / inotify_add_watch after it
    was closed, and none is closed twice -/
theorem no_use_after_close (plan : List (List Rec)) (sched : List Nat) (e : Ev)
    (h : e ∈ (run (init plan) sched).log) :
    (∀ fd w, e ≠ .useAfterClose fd w) ∧ (∀ fd, e ≠ .secondClose fd) := by
  have hg : ProofsFd.good e = true := List.all_eq_true.1 (ProofsFd.inv_reach plan sched).lgood e h
  constructor
  · rintro fd w rfl; cases hg
  · rintro fd rfl; cases hg

/-- each descriptor is closed at most once -/
theorem closed_at_most_once (plan : List (List Rec)) (sched : List Nat) (fd : Fd) :
    ((run (init plan) sched).log.filter (· == .close fd)).length ≤ 1 := by
  have := (ProofsFd.inv_reach plan sched).lcnt fd
  unfold ProofsFd.cnt at this
  rw [this]
  split <;> omega

/-- when close() has completed and the reader thread has ended, all three descriptors are closed -/
theorem released_when_done (plan : List (List Rec)) (sched : List Nat)
    (h : allDone (run (init plan) sched) = true) :
    (run (init plan) sched).inoOpen = false ∧ (run (init plan) sched).killROpen = false ∧
    (run (init plan) sched).killWOpen = false := by
  have hi := ProofsFd.inv_reach plan sched
  generalize run (init plan) sched = s at h hi
  simp only [allDone, Bool.and_eq_true, beq_iff_eq] at h
  -- `_closed` is set; open descriptors would mean a reader inside `poll`/`read`, but the reader is done
  have ho : s.inoOpen = false := by
    cases hio : s.inoOpen with
    | false => rfl
    | true =>
      have hr := hi.reads_eq.trans (hi.hand (hi.past (.inr (.inr h.2))) hio)
      rw [h.1] at hr
      cases hr
  exact ⟨ho, hi.same1.trans ho, hi.same2.trans ho⟩

/-- close() never leaves the reader blocked: once the closer is past the protocol step, a reader in
    poll() has something to wake it (the wake-up byte or the kernel's answer to rm_watch) -/
theorem reader_woken (plan : List (List Rec)) (sched : List Nat)
    (hc : (run (init plan) sched).closed = true) (hr : (run (init plan) sched).reader = .rPoll) :
    readerEnabled (run (init plan) sched) = true := by
  have hk := (ProofsFd.inv_reach plan sched).wake hc hr
  simp [readerEnabled, hr, hk]

/-- a failure at any kernel call of the constructor - `inotify_init`, the `pipe()` of the wake-up channel, any of the
    `inotify_add_watch` calls - leaves no descriptor open: what had been opened is exactly what the failing step closes -/
theorem ctor_failure_releases (n k : Nat) (h : (ctor n (some k)).2 = true) : (ctor n (some k)).1 = 0 := by
  rw [ProofsFd.ctor_some] at h ⊢
  split
  · rfl
  · next hk => rw [if_neg hk] at h; cases h

/-- no call fails: nothing is raised, the three descriptors stay open for the reader -/
theorem ctor_ok (n : Nat) : ctor n none = (3, false) :=
  ProofsFd.ctorRun_watches_ok n 2 3

/-- an entry that has vanished (ENOENT / ENOTDIR): whether the constructor raises (calls 0-2) or skips the entry (a
    sub-directory's add-watch), a raise leaves no descriptor open -/
theorem ctor_vanished_releases (n k : Nat) (h : (ctorTol n k).2 = true) : (ctorTol n k).1 = 0 := by
  unfold ctorTol at *
  split
  · next h3 => simp [h3, ctor_ok] at h
  · next h3 => simp only [h3, if_false] at h; exact ctor_failure_releases n k h

/-- the constructor raises exactly when one of its calls fails -/
theorem ctor_raises_iff (n k : Nat) : (ctor n (some k)).2 = true ↔ k < n + 2 := by
  rw [ProofsFd.ctor_some]
  split <;> simp [*]

/-- non-vacuity: close() lands while the reader sits in poll(); the reader wakes, closes all three -/
example :
    let s := run (init [[.dirCreate]]) [0, 0, 1, 1, 0, 0, 1, 1]
    allDone s = true ∧ s.inoOpen = false ∧ s.log.filter (fun e => match e with | .close _ => true | _ => false) =
      [.close .ino, .close .killR, .close .killW] := by decide

end WD.C12
