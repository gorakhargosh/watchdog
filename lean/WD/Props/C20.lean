/-
  C20 (decoders) — the raw Windows notification buffer and the raw inotify buffer are decoded into
  exactly the records that were encoded, for every record count, name length and padding.
  C20 (translation layers) — the ReadDirectoryChangesW and FSEvents emitters (WD.Win, WD.Mac: models of
  `WindowsApiEmitter.queue_events` / `FSEventsEmitter.queue_events`, tied to the real classes on every run)
  turn the native notifications that documented-semantics simulators (`winRecs`, `macEvents`: ASSUMPTIONS
  about operating systems that cannot be observed here) render for any valid history, every operation
  drained, into the per-operation contract of the layer; replaying that stream reproduces the tree.
-/
import WD.Proofs.Decoders
import WD.Proofs.Mac.Sticky
import WD.Proofs.Win.Burst
import WD.Proofs.Win.BurstGrow
namespace WD.C20
open WD.Dec

/-- well-formed inotify record: 32-bit fields, name bytes are bytes and the name does not end in NUL
    (the kernel's names never contain NUL; `rstrip` would eat trailing ones) -/
def InoOk (r : InoRec) (pad : Nat) : Prop :=
  r.wd < 2 ^ 32 ∧ r.mask < 2 ^ 32 ∧ r.cookie < 2 ^ 32 ∧ r.name.length + pad < 2 ^ 32 ∧
  (∀ b ∈ r.name, b < 256) ∧ r.name.getLast? ≠ some 0

theorem inotify_decode_encode (rs : List (InoRec × Nat)) (h : ∀ x ∈ rs, InoOk x.1 x.2) :
    decodeIno (encodeIno rs) = rs.map Prod.fst :=
  ProofsDec.inotify_decode_encode rs h

/-- well-formed FILE_NOTIFY_INFORMATION: 32-bit fields, UTF-16 code units -/
def WinOk (r : WinRec) (pad : Nat) : Prop :=
  r.action < 2 ^ 32 ∧ 12 + 2 * r.name.length + pad < 2 ^ 32 ∧ (∀ u ∈ r.name, u < 65536)

theorem win_decode_encode (rs : List (WinRec × Nat)) (hne : rs ≠ []) (h : ∀ x ∈ rs, WinOk x.1 x.2) :
    decodeWin (encodeWin rs) (encodeWin rs).length = rs.map Prod.fst :=
  ProofsDec.win_decode_encode rs hne h

/-- an empty read decodes to nothing -/
theorem win_empty (buf : Bytes) : decodeWin buf 0 = [] := by
  simp [decodeWin, parseWin]

/-- non-vacuity -/
example : decodeIno (encodeIno [(⟨1, 256, 0, [97, 98]⟩, 14), (⟨2, 1024, 0, []⟩, 0)]) = [⟨1, 256, 0, [97, 98]⟩, ⟨2, 1024, 0, []⟩] := by
  decide +kernel
example : decodeWin (encodeWin [(⟨1, [0xFEFF, 120]⟩, 0), (⟨3, [97]⟩, 2)]) 34 = [⟨1, [0xFEFF, 120]⟩, ⟨3, [97]⟩] := by
  decide +kernel


open WD.Pipe

/-- Windows: for every history Windows accepts (`winFsValid`: the syscalls' guards, no rename onto an existing
    name), every operation drained, however each operation's records are cut into reads, the delivered stream is
    the Windows contract's, operation by operation: a rename inside the watched tree is one moved event with both
    paths plus synthetic events for the descendants, a move in / out is a created / deleted event, the removal of
    the root stops the emitter (`Win.winContract`) -/
theorem win_contract_refined (fs : FS) (hwf : fs.WF) (recursive : Bool) (ops : List (Op × List Nat))
    (hv : Win.winFsValid fs (ops.map Prod.fst) = true) :
    ((Win.WSys.mk fs {} recursive).runCuts ops).2 = Win.winContractRun fs recursive (ops.map Prod.fst) := by
  rw [Win.runCuts_eq_run]
  exact Win.run_contract ⟨fs, {}, recursive⟩ _ hwf rfl hv

/-- Windows, C01: replaying the delivered created / deleted / moved events on the tree as it stood at the start gives
    the tree that exists afterwards (recursive watch: the whole tree; non-recursive: the root's direct children) -/
theorem win_replay (fs : FS) (hwf : fs.WF) (ops : List Op) (hv : Win.winFsValid fs ops = true) (hroot : Op.rmdir ["W"] ∉ ops) :
    sameTree (replay (treeW fs) ((Win.WSys.mk fs {} true).run ops).2.flatten) (treeW (fsRun fs ops)) ∧
    sameTree (replay (treeW1 fs) ((Win.WSys.mk fs {} false).run ops).2.flatten) (treeW1 (fsRun fs ops)) := by
  rw [Win.run_contract ⟨fs, {}, true⟩ _ hwf rfl hv, Win.run_contract ⟨fs, {}, false⟩ _ hwf rfl hv]
  exact ⟨Win.win_replay_run true hwf ops hv hroot, Win.win_replay_run false hwf ops hv hroot⟩

/-- Windows: extra MODIFIED records anywhere in a read (LAST_WRITE / ATTRIBUTES notifications of parents) change
    neither the emitter's state nor the replayed tree -/
theorem win_noise (fs : FS) (recursive : Bool) (st : Win.EmSt) (recs recs' : List Win.WRec) (h : Win.Noisy recs recs') :
    (Win.emitBatch fs recursive st recs').1 = (Win.emitBatch fs recursive st recs).1 ∧
    ∀ t, replay t (Win.emitBatch fs recursive st recs').2 = replay t (Win.emitBatch fs recursive st recs).2 :=
  Win.noise_irrelevant fs recursive st h

/-- Windows: a buffer cut between the two records of a rename (or anywhere else) changes nothing -/
theorem win_cut (fs : FS) (recursive : Bool) (st : Win.EmSt) (a b : List Win.WRec) :
    Win.emitBatches fs recursive st [a, b] = Win.emitBatch fs recursive st (a ++ b) := by
  rw [Win.emitBatches_flatten]; simp

/-- Windows, several operations per read: a burst of FILE operations (creations, writes, attribute changes, removals,
    renames and moves of files) whose records reach `queue_events` in ONE read after the last of them - the emitter then
    looks at the file system as it is at that moment - leaves the emitter in the same state and delivers the same events,
    in the same order, as one read per operation (so contract and replay carry over: `win_contract_refined`, `win_replay`).
    Bursts that create, rename or remove directories are not covered: the emitter's `os.path.isdir` / directory walk then
    sees a later file system (explored on the real emitter, judged by the replay predicate). -/
theorem win_burst_files_partial (s : Win.WSys) (ops : List Op) (hwf : s.fs.WF) (hs : s.st.stopped = false)
    (hv : Win.winAllFile s.fs ops = true) :
    s.burst ops = ((s.run ops).1, (s.run ops).2.flatten) :=
  Win.burst_files ops s hwf hs hv

/-- non-vacuity: create, write, rename, remove, re-create the old name - five operations in one read -/
example :
    let s : Win.WSys := ⟨fsRun FS.init [.mkdir ["W", "d"]], {}, true⟩
    let ops := [Op.create ["W", "d", "a"], .write ["W", "d", "a"], .rename ["W", "d", "a"] ["W", "b"], .unlink ["W", "b"],
                .create ["W", "d", "a"]]
    Win.winAllFile s.fs ops = true ∧
    (s.burst ops).2.map PEv.toEvent =
      [⟨.FileCreatedEvent, "W/d/a", "", false⟩, ⟨.FileModifiedEvent, "W/d/a", "", false⟩,
       ⟨.FileMovedEvent, "W/d/a", "W/b", false⟩, ⟨.FileDeletedEvent, "W/b", "", false⟩,
       ⟨.FileCreatedEvent, "W/d/a", "", false⟩] := by
  decide +kernel

/-- Windows, several operations per read, GROWTH: a burst of mkdirs and file creations at any depth (`mkdir -p` + populate)
    whose records reach `queue_events` in ONE read after the last of them, recursive watch or not.  One read per operation
    and one read per burst do NOT deliver the same list here: the emitter asks `os.path.isdir` and walks a new directory
    when it gets to its record, i.e. it sees what the later operations of the burst put inside, and those entries have
    records of their own - they are announced twice.  What holds: the emitter's state is untouched and replaying the
    delivered stream on the tree before the burst gives the tree after it (recursive: the whole tree; non-recursive: the
    root's direct children). -/
theorem win_burst_grow_partial (s : Win.WSys) (ops : List Op) (hwf : s.fs.WF) (hs : s.st.stopped = false)
    (hv : allGrow s.fs ops = true) :
    (s.burst ops).1 = { s with fs := fsRun s.fs ops } ∧
    sameTree (replay (Win.treeOf s.recursive s.fs) (s.burst ops).2) (Win.treeOf s.recursive (fsRun s.fs ops)) :=
  Win.burst_grow s ops hwf hs hv

/-- non-vacuity: a directory, a directory and a file inside it, all in one read: `W/a/b` and `W/a/f` are announced twice -/
example :
    let s : Win.WSys := ⟨FS.init, {}, true⟩
    let ops := [Op.mkdir ["W", "a"], .mkdir ["W", "a", "b"], .create ["W", "a", "f"]]
    allGrow s.fs ops = true ∧
    (s.burst ops).2.map PEv.toEvent =
      [⟨.DirCreatedEvent, "W/a", "", false⟩, ⟨.DirCreatedEvent, "W/a/b", "", true⟩, ⟨.FileCreatedEvent, "W/a/f", "", true⟩,
       ⟨.DirCreatedEvent, "W/a/b", "", false⟩, ⟨.FileCreatedEvent, "W/a/f", "", false⟩] := by
  decide +kernel

/-- FSEvents: for every such history, every operation drained, the delivered stream is the FSEvents contract's
    (`Mac.macContract`), operation by operation; a non-recursive watch delivers the part of it that its filter lets
    through -/
theorem mac_contract_refined (fs : FS) (hwf : fs.WF) (recursive : Bool) (ops : List Op) (hv : Win.winFsValid fs ops = true) :
    ((Mac.MSys.mk fs {} recursive).run ops).2 = Mac.filterRun recursive (Mac.macContractRun fs ops) :=
  Mac.run_contract ⟨fs, {}, recursive⟩ ops hwf rfl (fun _ h => by cases h) hv

/-- FSEvents, C01 (recursive watch): replaying the delivered stream reproduces the tree -/
theorem mac_replay (fs : FS) (hwf : fs.WF) (ops : List Op) (hv : Win.winFsValid fs ops = true) (hroot : Op.rmdir ["W"] ∉ ops) :
    sameTree (replay (treeW fs) ((Mac.MSys.mk fs {} true).run ops).2.flatten) (treeW (fsRun fs ops)) := by
  rw [mac_contract_refined fs hwf true ops hv]
  exact Mac.mac_replay_run hwf ops hv hroot

/-- FSEvents, flags sticking to an item (recursive watch): whatever created / modified / inode-meta flags re-appear
    on the native events of each operation of a valid history (one arbitrary choice per event: `stickyLens`), the
    delivered stream still replays to the final tree — a spurious created flag is either suppressed by the set of
    inodes already announced or harmless (the item exists, or its removal / move follows in the same event) -/
theorem mac_sticky_replay (fs : FS) (hwf : fs.WF) (oss : List (Op × List Mac.Sticky))
    (hv : Win.winFsValid fs (oss.map Prod.fst) = true) (hroot : Op.rmdir ["W"] ∉ oss.map Prod.fst) (hl : Mac.stickyLens fs oss) :
    sameTree (replay (treeW fs) ((Mac.MSys.mk fs {} true).runSticky oss).2.flatten) (treeW (fsRun fs (oss.map Prod.fst))) :=
  Mac.sticky_run ⟨fs, {}, true⟩ rfl oss hwf rfl (fun _ h => by cases h) hv hroot hl

/-- FSEvents, a callback boundary between the two native events of a rename inside the tree: the emitter falls back
    to a deleted event, a created event and synthetic created events (`Mac.cutStream`: exactly what the two
    callbacks deliver, `Mac.cut_rename_emits`), and that stream still replays to the tree after the rename -/
theorem mac_cut_partial (fs : FS) (hwf : fs.WF) (st : Mac.MSt) (p q : P) (x : Ent) (hx : fs.find? p = some x)
    (hv : Win.winValid fs (.rename p q) = true) (hp : Mac.inW p = true) (hq : Mac.inW q = true) :
    (∃ e1 e2, Mac.macEvents fs (.rename p q) = [e1] ++ [e2] ∧
      (Mac.emitBatch (fsAfter fs (.rename p q)) true st [e1]).2 ++
      (Mac.emitBatch (fsAfter fs (.rename p q)) true (Mac.emitBatch (fsAfter fs (.rename p q)) true st [e1]).1 [e2]).2 =
        Mac.cutStream fs p q (fs.isDir p)) ∧
    sameTree (replay (treeW fs) (Mac.cutStream fs p q (fs.isDir p))) (treeW (fsAfter fs (.rename p q))) := by
  obtain ⟨h1, h2, h3⟩ := Mac.cut_rename_emits hwf st p q hv hp hq x hx
  have hd : fs.isDir p = x.isDir := by simp [FS.isDir, hx]
  exact ⟨⟨_, _, h1, by rw [h2, h3, hd]; rfl⟩, Mac.cut_rename_replay hwf p q hv hp hq⟩

/-- FSEvents, non-recursive watch: whatever the callback carries, nothing below the root's direct children is
    reported -/
theorem mac_nonrecursive_shallow (fs : FS) (st : Mac.MSt) (evs : List Mac.MEv) :
    ∀ e ∈ (Mac.emitBatch fs false st evs).2, e.src = ["W"] ∨ parentOf e.src = ["W"] ∨ parentOf e.dest = ["W"] :=
  Mac.flat_shallow fs st evs

/-- non-vacuity: a populated directory moves in, is renamed inside and moves out again; a rename cut in two reads -/
example : Win.winFsValid (fsRun FS.init [.mkdir ["O", "d"], .create ["O", "d", "x"]])
    [.rename ["O", "d"] ["W", "d"], .rename ["W", "d"] ["W", "e"], .rename ["W", "e"] ["O", "e"]] = true := by decide +kernel
example : ((Win.WSys.mk (fsRun FS.init [.mkdir ["W", "d"], .create ["W", "d", "x"]]) {} true).op (.rename ["W", "d"] ["W", "e"]) [0]).2 =
    [mkEv .DirMovedEvent ["W", "d"] ["W", "e"], mkEv .FileMovedEvent ["W", "d", "x"] ["W", "e", "x"] true] := by decide +kernel
example : ((Mac.MSys.mk (fsRun FS.init [.mkdir ["W", "d"], .create ["W", "d", "x"]]) {} true).op (.rename ["W", "d"] ["W", "e"])).2 =
    [mkEv .DirMovedEvent ["W", "d"] ["W", "e"], dirMod ["W", "d"], dirMod ["W", "e"],
     mkEv .FileMovedEvent ["W", "d", "x"] ["W", "e", "x"] true] := by decide +kernel

/-- non-vacuity of the sticky theorem: created, then removed with the created flag still attached (announced: only the
    deletion goes out) -/
example : ((Mac.MSys.mk FS.init {} true).runSticky
    [(.create ["W", "a"], [{}]), (.unlink ["W", "a"], [{ created := true, modified := true }])]).2 =
    [[mkEv .FileCreatedEvent ["W", "a"], dirMod ["W", "a"]],
     [mkEv .FileModifiedEvent ["W", "a"], mkEv .FileDeletedEvent ["W", "a"], dirMod ["W", "a"]]] := by decide +kernel

end WD.C20
