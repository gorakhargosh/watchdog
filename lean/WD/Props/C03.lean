/-
  C03 — single operations meet their contract; every delivered event is correctly typed (native pipeline,
  recursive watch, every operation drained before the next).  The contract (`WD.Pipe.contract`) is a function of
  the file system and the operation ALONE — no kernel, no library state: create → created + parent modified
  (+ opened, closed, parent modified); rename inside the tree → one moved event with both paths + both parents
  modified + one synthetic moved event per descendant; move out → deleted (or a source-only moved event for the
  full emitter); move in → created + one synthetic created event per descendant; nothing for anything outside.
-/
import WD.Proofs.Pipeline.Theorems
import WD.Proofs.Pipeline.FlatSpec
import WD.Proofs.Pipeline.Sound
import WD.Proofs.Pipeline.BurstFiles
import WD.Proofs.Pipeline.BurstGrow
namespace WD.C03
open WD WD.Pipe

/-- REFINEMENT: for every well-formed initial tree and every history of operations the file system accepts,
    the whole pipeline (kernel records → `read_events` with its two watch maps → grouping → `queue_events`)
    delivers, operation by operation, exactly the contract's events — nothing required missing, nothing outside
    the contract added -/
theorem contract_refined (fs0 : FS) (hwf : fs0.WF) (full : Bool) (ops : List Op)
    (hv : allValid (Sys.start fs0 true full) ops = true) :
    ((Sys.start fs0 true full).run ops).2 = contractRun fs0 true full ops :=
  (history_rec fs0 hwf full ops hv).1

/-- the same for a non-recursive watch (the contract then only ever concerns the root and its direct children) -/
theorem contract_refined_nonrecursive (fs0 : FS) (hwf : fs0.WF) (full : Bool) (ops : List Op)
    (hv : allValid (Sys.start fs0 false full) ops = true) :
    ((Sys.start fs0 false full).run ops).2 = contractRun fs0 false full ops :=
  (history_flat fs0 hwf full ops hv).1

/-- the same, stated for one more operation after any history -/
theorem contract_step (fs0 : FS) (hwf : fs0.WF) (full : Bool) (ops : List Op) (op : Op)
    (hv : allValid (Sys.start fs0 true full) (ops ++ [op]) = true)
    (hns : ((Sys.start fs0 true full).run ops).1.stopped = false) :
    ((((Sys.start fs0 true full).run ops).1).op op).2 = (contract (fsRun fs0 ops) true full op).1 := by
  obtain ⟨_, _, _, h4, h5⟩ := start_rec fs0 hwf full
  rw [allValid_append] at hv
  simp only [Bool.and_eq_true, allValid] at hv
  obtain ⟨_, r2, _, r3⟩ := history_rec fs0 hwf full ops hv.1
  have st := step_rec _ op (r3 hns) hns r2 hv.2.1
  rw [st.events, run_fs, h4, run_full, h5]

/-- JUSTIFIED: every event delivered for an operation is explained by that operation — `Justified` spells the
    property's clauses out: a created event names an entry (of that flavour) that exists in the tree afterwards; a
    deleted event one that existed before and is gone; a moved event's source and destination are the old and the new
    name of ONE AND THE SAME entry (same inode); a modified / opened / closed event an entry that exists; an event is
    synthetic only below a moved or newly arrived directory of the same operation, its source the same relative path
    under the old name.  (`_partial`: drained regime, recursive watch.) -/
theorem sound_partial (fs0 : FS) (hwf : fs0.WF) (full : Bool) (ops : List Op) (op : Op)
    (hv : allValid (Sys.start fs0 true full) (ops ++ [op]) = true)
    (hns : ((Sys.start fs0 true full).run ops).1.stopped = false) :
    ∀ e ∈ ((((Sys.start fs0 true full).run ops).1).op op).2,
      Justified (fsRun fs0 ops) (fsAfter (fsRun fs0 ops) op) ((((Sys.start fs0 true full).run ops).1).op op).2 e := by
  have hstep := contract_step fs0 hwf full ops op hv hns
  obtain ⟨_, _, _, h4, _⟩ := start_rec fs0 hwf full
  rw [allValid_append] at hv
  simp only [Bool.and_eq_true, allValid] at hv
  have r3 := (history_rec fs0 hwf full ops hv.1).2.2.2
  have hwf' : (fsRun fs0 ops).WF := by
    have := (r3 hns).wf; rwa [run_fs, h4] at this
  have hvop : validOp (fsRun fs0 ops) op = true := by
    have := hv.2.1; rwa [run_fs, h4] at this
  rw [hstep]
  exact contract_sound hwf' full op hvop

/-- the flavour of every event is what the native record said (IN_ISDIR) -/
theorem typing (fs : FS) (recursive full : Bool) (ev : LEv) (e : PEv)
    (he : e ∈ (emit fs recursive full (.one ev)).1) (hns : e.syn = false)
    (hnp : e.cls ≠ .DirModifiedEvent ∨ ev.flag = .attrib ∨ ev.flag = .modify) :
    e.cls.isDirectory = ev.isDir ∨ (ev.flag = .deleteSelf ∧ e.cls = .DirDeletedEvent) := by
  obtain ⟨wd, flag, isDir, ck, name, src⟩ := ev
  have hsub : ∀ x ∈ subCreated fs src, x.syn = true := by
    intro x hx; simp only [subCreated, List.mem_map] at hx; obtain ⟨_, _, rfl⟩ := hx; rfl
  cases flag <;> cases isDir <;> cases full <;> simp [emit, mkEv] at he
  all_goals first
    | (subst he; simp [EvClass.isDirectory] at hnp ⊢; done)
    | (rcases he with rfl | rfl <;> simp [EvClass.isDirectory] at hnp ⊢; done)
    | (obtain ⟨_, rfl⟩ := he; simp [EvClass.isDirectory] at hnp ⊢; done)
    | (rcases he with rfl | rfl | he
       · simp [EvClass.isDirectory]
       · simp at hnp
       · have := hsub e he.2; rw [hns] at this; cases this)
    | (split at he
       · simp at he; subst he; simp
       · simp at he)

/-- file operations issued back to back: what a burst of file operations delivers when it is read as one batch is
    the concatenation of the contracts of its operations, in order - nothing missing, nothing added, nothing reordered -/
theorem contract_refined_file_burst_partial (fs0 : FS) (hwf : fs0.WF) (full : Bool) (pre burst : List Op)
    (hv : allValid (Sys.start fs0 true full) pre = true) (hroot : Op.rmdir ["W"] ∉ pre)
    (hb : allFile ((Sys.start fs0 true full).run pre).1 burst = true) :
    (((Sys.start fs0 true full).run pre).1.burst burst).2 =
      (contractRun ((Sys.start fs0 true full).run pre).1.fs true full burst).flatten := by
  obtain ⟨inv, hs, hc⟩ := after_history fs0 hwf full pre hv hroot
  rw [burst_files _ burst inv hs hc hb]
  have := (run_rec _ burst inv hs hc (allValid_of_allFile burst _ hb)).1
  rw [run_full, (start_rec fs0 hwf full).2.2.2.2] at this
  simp only
  rw [this]


/-- a NESTED BURST announces every new entry exactly once, with the right kind: after any drained history, for `mkdir`s
    and file creations at any depth read as one batch, the created events of the delivered stream name pairwise
    different paths, and (path, kind) is announced iff an entry of that path and kind exists in the tree now and did not
    before the burst - nothing is announced twice (by the kernel AND by the walk), nothing that does not exist, nothing
    is left out -/
theorem created_once_growth_burst_partial (fs0 : FS) (hwf : fs0.WF) (full : Bool) (pre burst : List Op)
    (hv : allValid (Sys.start fs0 true full) pre = true) (hroot : Op.rmdir ["W"] ∉ pre)
    (hb : allFill ((Sys.start fs0 true full).run pre).1.fs burst = true) :
    ((createdOf (((Sys.start fs0 true full).run pre).1.burst burst).2).map (·.1)).Nodup ∧
    ∀ x, x ∈ createdOf (((Sys.start fs0 true full).run pre).1.burst burst).2 ↔
      ∃ e ∈ (((Sys.start fs0 true full).run pre).1.burst burst).1.fs.ents,
        e ∉ ((Sys.start fs0 true full).run pre).1.fs.ents ∧ isUnder ["W"] e.path = true ∧ x = (e.path, e.isDir) := by
  obtain ⟨inv, hs, hc⟩ := after_history fs0 hwf full pre hv hroot
  obtain ⟨h1, _, _, _, _, h6, h7⟩ := burst_grow _ burst inv hs hc hb
  rw [h1]; exact ⟨h6, h7⟩

end WD.C03
