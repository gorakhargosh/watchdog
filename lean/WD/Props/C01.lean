/-
  C01 — Replaying the native event stream reproduces the real directory tree (recursive watch, every operation
  drained before the next).  For every well-formed initial tree and EVERY history of operations the file system
  accepts — create, write, chmod, delete, recursive delete, rename or replace of files and directories at any
  depth, moves out of the tree, moves of files or whole directory trees into it (and back), operations outside.

  `_partial`: of the regime "file operations back to back, directory operations paced" the model has the bursts of
  file creations / writes / attribute changes / file removals (`burst_simple_partial`: the reader sees the whole burst
  as one batch and looks at the file system as it is after the last operation); bursts with renames and nested
  directory creation are exercised on the real observer only.  The history does not remove the watched root itself
  (that case is C07.root_deleted: one DirDeletedEvent, stop).
-/
import WD.Proofs.Pipeline.ReplayRun
import WD.Proofs.Pipeline.ReplayFlat
import WD.Proofs.Pipeline.Burst
import WD.Proofs.Pipeline.BurstFiles
import WD.Proofs.Pipeline.BurstFlat
import WD.Proofs.Pipeline.BurstGrow
import WD.Proofs.Pipeline.Paced
import WD.Proofs.Pipeline.PacedFlat
import WD.Proofs.Pipeline.BurstMkRename
import WD.Proofs.Pipeline.Theorems
namespace WD.C01
open WD WD.Pipe

/-- applying the delivered created / deleted / moved events, in delivery order, to the tree as it stood when
    the watch started yields exactly the tree that exists afterwards -/
theorem replay_partial (fs0 : FS) (hwf : fs0.WF) (full : Bool) (ops : List Op)
    (hv : allValid (Sys.start fs0 true full) ops = true) (hroot : Op.rmdir ["W"] ∉ ops) :
    sameTree (replay (treeW fs0) (allEvents ((Sys.start fs0 true full).run ops)))
             (treeW ((Sys.start fs0 true full).run ops).1.fs) := by
  have h4 := (start_rec fs0 hwf full).2.2.2.1
  simp only [allEvents]
  rw [(history_rec fs0 hwf full ops hv).1, run_fs, h4]
  rw [allValid_eq_fsValid, h4] at hv
  exact replay_run hwf full ops hv hroot

/-- non-recursive watch: the same for exactly the root's direct children -/
theorem replay_nonrecursive_partial (fs0 : FS) (hwf : fs0.WF) (full : Bool) (ops : List Op)
    (hv : allValid (Sys.start fs0 false full) ops = true) (hroot : Op.rmdir ["W"] ∉ ops) :
    sameTree (replay (treeW1 fs0) (allEvents ((Sys.start fs0 false full).run ops)))
             (treeW1 ((Sys.start fs0 false full).run ops).1.fs) := by
  have h4 := (start_flat fs0 hwf full).2.2.2.1
  simp only [allEvents]
  rw [(history_flat fs0 hwf full ops hv).1, run_fs, h4]
  rw [allValid_eq_fsValid, h4] at hv
  exact replayFlat_run hwf full ops hv hroot

/-- the statement about the contract alone (no pipeline): one operation -/
theorem replay_contract_step (fs : FS) (hwf : fs.WF) (full : Bool) (op : Op) (hv : validOp fs op = true) :
    sameTree (replay (treeW fs) (contract fs true full op).1) (treeW (fsAfter fs op)) :=
  replay_contract hwf full op hv

/-- non-vacuity: a tree moved in from outside, changed inside, renamed, partly moved out again, a replace -/
example :
    let k0 : Kern := ⟨[], 1, 1⟩
    let fs0 := [Op.mkdir ["O", "d"], .create ["O", "d", "b"], .mkdir ["O", "d", "dd"], .create ["W", "b"]].foldl (fun fs op => (kernelOp fs k0 op).1) FS.init
    let ops := [Op.rename ["O", "d"] ["W", "dd"], .create ["W", "dd", "dd", "a"], .rename ["W", "dd"] ["W", "e"],
                .rename ["W", "e", "dd"] ["O", "x"], .rename ["W", "e", "b"] ["W", "b"], .rmtree ["W", "e"]]
    allValid (Sys.start fs0 true false) ops = true ∧ Op.rmdir ["W"] ∉ ops ∧
    treeW ((Sys.start fs0 true false).run ops).1.fs = [(["W", "b"], false)] ∧
    replay (treeW fs0) (allEvents ((Sys.start fs0 true false).run ops)) = [(["W", "b"], false)] := by decide +kernel

/-- **back to back**: after any drained history, a burst of file creations, writes, attribute changes and file removals
    ("file operations may follow each other without limit") that the reader only gets to see as ONE batch after the
    last of them - looking at the file system as it is then - leaves the observer in the same state and delivers the
    same events in the same order as the same operations drained one by one.  Every statement about drained
    histories (the replay above, coverage, the per-operation contract) therefore also holds with such bursts in them. -/
theorem burst_simple_partial (fs0 : FS) (hwf : fs0.WF) (full : Bool) (pre burst : List Op)
    (hv : allValid (Sys.start fs0 true full) pre = true) (hroot : Op.rmdir ["W"] ∉ pre)
    (hb : allSimple ((Sys.start fs0 true full).run pre).1 burst = true) :
    ((Sys.start fs0 true full).run pre).1.burst burst =
      ((((Sys.start fs0 true full).run pre).1.run burst).1, (((Sys.start fs0 true full).run pre).1.run burst).2.flatten) := by
  obtain ⟨inv, hs, hc⟩ := after_history fs0 hwf full pre hv hroot
  exact burst_simple _ burst inv hs hc hb

/-- **back to back, all file operations**: the same for bursts that also rename files, replace files by renaming onto
    them, and move files out of and into the tree - the whole "file operations may follow each other without limit" clause
    of the property.  (The cookies of the kernel pair each MOVED_TO with its own MOVED_FROM however many renames the batch
    holds; a file's old name is never a key of the watch map; what the emitter makes of a file's records does not depend
    on the file system it looks at.) -/
theorem burst_files_partial (fs0 : FS) (hwf : fs0.WF) (full : Bool) (pre burst : List Op)
    (hv : allValid (Sys.start fs0 true full) pre = true) (hroot : Op.rmdir ["W"] ∉ pre)
    (hb : allFile ((Sys.start fs0 true full).run pre).1 burst = true) :
    ((Sys.start fs0 true full).run pre).1.burst burst =
      ((((Sys.start fs0 true full).run pre).1.run burst).1, (((Sys.start fs0 true full).run pre).1.run burst).2.flatten) := by
  obtain ⟨inv, hs, hc⟩ := after_history fs0 hwf full pre hv hroot
  exact burst_files _ burst inv hs hc hb

/-- **back to back, non-recursive watch**: after any drained history, ANY burst of valid operations that does not remove
    the watched root - files and directories created, removed, renamed, moved in and out, at any depth - read as ONE batch
    after the last of them leaves the observer in the same state and delivers the same events in the same order as the same
    operations drained one by one.  (One kernel watch, maps that never change, no synthetic events: the non-recursive
    observer never looks at the file system; the kernel's cookies are fresh per rename, so pairing does not depend on the
    batching either.)  With `replay_nonrecursive_partial`: the replay of the root's direct children holds for bursts too. -/
theorem burst_nonrecursive_partial (fs0 : FS) (hwf : fs0.WF) (full : Bool) (pre burst : List Op)
    (hv : allValid (Sys.start fs0 false full) pre = true) (hroot : Op.rmdir ["W"] ∉ pre)
    (hb : allValidNoRoot ((Sys.start fs0 false full).run pre).1 burst = true) :
    ((Sys.start fs0 false full).run pre).1.burst burst =
      ((((Sys.start fs0 false full).run pre).1.run burst).1, (((Sys.start fs0 false full).run pre).1.run burst).2.flatten) := by
  obtain ⟨inv, hs, hc⟩ := after_history_flat fs0 hwf full pre hv hroot
  exact burst_flat _ burst inv hs hc hb

/-- non-vacuity: `mkdir -p` with a file, a directory rename, a move out and a file rename in one batch -/
example :
    let s := ((Sys.start FS.init false false).run [.create ["W", "a"]]).1
    let ops := [Op.mkdir ["W", "d"], .mkdir ["W", "d", "dd"], .create ["W", "d", "x"], .rename ["W", "d"] ["W", "e"],
                .rename ["W", "a"] ["W", "b"], .rename ["W", "e"] ["O", "e"]]
    allValidNoRoot s ops = true ∧
    (s.burst ops).2.map PEv.toEvent =
      [⟨.DirCreatedEvent, "W/d", "", false⟩, ⟨.DirModifiedEvent, "W", "", false⟩,
       ⟨.DirMovedEvent, "W/d", "W/e", false⟩, ⟨.DirModifiedEvent, "W", "", false⟩, ⟨.DirModifiedEvent, "W", "", false⟩,
       ⟨.FileMovedEvent, "W/a", "W/b", false⟩, ⟨.DirModifiedEvent, "W", "", false⟩, ⟨.DirModifiedEvent, "W", "", false⟩,
       ⟨.DirDeletedEvent, "W/e", "", false⟩, ⟨.DirModifiedEvent, "W", "", false⟩] := by
  decide +kernel

/-- non-vacuity: create, rename twice, replace another file by renaming onto it, move out, move a file in - one batch -/
example :
    let s := ((Sys.start FS.init true false).run [.mkdir ["W", "d"], .create ["W", "b"], .create ["O", "x"]]).1
    let ops := [Op.create ["W", "d", "a"], .rename ["W", "d", "a"] ["W", "a"], .rename ["W", "a"] ["W", "b"],
                .rename ["W", "b"] ["O", "b"], .rename ["O", "x"] ["W", "d", "x"]]
    allFile s ops = true ∧
    (s.burst ops).2.map PEv.toEvent =
      [⟨.FileCreatedEvent, "W/d/a", "", false⟩, ⟨.DirModifiedEvent, "W/d", "", false⟩, ⟨.FileOpenedEvent, "W/d/a", "", false⟩,
       ⟨.FileClosedEvent, "W/d/a", "", false⟩, ⟨.DirModifiedEvent, "W/d", "", false⟩,
       ⟨.FileMovedEvent, "W/d/a", "W/a", false⟩, ⟨.DirModifiedEvent, "W/d", "", false⟩, ⟨.DirModifiedEvent, "W", "", false⟩,
       ⟨.FileMovedEvent, "W/a", "W/b", false⟩, ⟨.DirModifiedEvent, "W", "", false⟩, ⟨.DirModifiedEvent, "W", "", false⟩,
       ⟨.FileDeletedEvent, "W/b", "", false⟩, ⟨.DirModifiedEvent, "W", "", false⟩,
       ⟨.FileCreatedEvent, "W/d/x", "", false⟩, ⟨.DirModifiedEvent, "W/d", "", false⟩] := by
  decide +kernel

/-- non-vacuity: a storm on one name inside a directory created before, read as one batch -/
example :
    let s := ((Sys.start FS.init true false).run [.mkdir ["W", "d"]]).1
    let ops := [Op.create ["W", "d", "a"], .write ["W", "d", "a"], .chmod ["W", "d"], .unlink ["W", "d", "a"], .create ["W", "d", "a"]]
    allSimple s ops = true ∧
    (s.burst ops).2.map PEv.toEvent =
      [⟨.FileCreatedEvent, "W/d/a", "", false⟩, ⟨.DirModifiedEvent, "W/d", "", false⟩, ⟨.FileOpenedEvent, "W/d/a", "", false⟩,
       ⟨.FileClosedEvent, "W/d/a", "", false⟩, ⟨.DirModifiedEvent, "W/d", "", false⟩,
       ⟨.FileOpenedEvent, "W/d/a", "", false⟩, ⟨.FileModifiedEvent, "W/d/a", "", false⟩, ⟨.FileClosedEvent, "W/d/a", "", false⟩,
       ⟨.DirModifiedEvent, "W/d", "", false⟩,
       ⟨.DirModifiedEvent, "W/d", "", false⟩, ⟨.DirModifiedEvent, "W/d", "", false⟩,
       ⟨.FileDeletedEvent, "W/d/a", "", false⟩, ⟨.DirModifiedEvent, "W/d", "", false⟩,
       ⟨.FileCreatedEvent, "W/d/a", "", false⟩, ⟨.DirModifiedEvent, "W/d", "", false⟩, ⟨.FileOpenedEvent, "W/d/a", "", false⟩,
       ⟨.FileClosedEvent, "W/d/a", "", false⟩, ⟨.DirModifiedEvent, "W/d", "", false⟩] := by
  decide +kernel


/-- **back-to-back regime, growth**: after any drained history, a burst of `mkdir`s and file creations at any depth
    (`mkdir -p` + populate: directories created inside directories of the same burst, filled before the reader wakes
    up), read as ONE batch after its last operation: replaying the delivered events on the tree as it was before the
    burst gives the tree as it is after it.  (Here burst and drained run do NOT deliver the same list: what was created
    inside a directory before its watch existed is announced by the walk of `_recursive_simulate`, not by the kernel.) -/
theorem replay_growth_burst_partial (fs0 : FS) (hwf : fs0.WF) (full : Bool) (pre burst : List Op)
    (hv : allValid (Sys.start fs0 true full) pre = true) (hroot : Op.rmdir ["W"] ∉ pre)
    (hb : allFill ((Sys.start fs0 true full).run pre).1.fs burst = true) :
    sameTree (replay (treeW ((Sys.start fs0 true full).run pre).1.fs) (((Sys.start fs0 true full).run pre).1.burst burst).2)
             (treeW (((Sys.start fs0 true full).run pre).1.burst burst).1.fs) := by
  obtain ⟨inv, hs, hc⟩ := after_history fs0 hwf full pre hv hroot
  obtain ⟨h1, _, _, _, h5, _⟩ := burst_grow _ burst inv hs hc hb
  rw [h1]; exact h5

/-- non-vacuity: a three-level `mkdir -p` with files, all issued before the reader wakes up -/
example :
    let s := ((Sys.start FS.init true false).run [.mkdir ["W", "a"]]).1
    let ops := [Op.mkdir ["W", "a", "b"], .mkdir ["W", "a", "b", "c"], .create ["W", "a", "b", "c", "f"], .create ["W", "a", "g"],
                .mkdir ["W", "x"], .mkdir ["W", "x", "y"], .create ["W", "x", "y", "z"]]
    allFillB s ops = true ∧
    (s.burst ops).2.map PEv.toEvent =
      [⟨.DirCreatedEvent, "W/a/b", "", false⟩, ⟨.DirModifiedEvent, "W/a", "", false⟩,
       ⟨.DirCreatedEvent, "W/a/b/c", "", false⟩, ⟨.DirModifiedEvent, "W/a/b", "", false⟩,
       ⟨.FileCreatedEvent, "W/a/b/c/f", "", false⟩, ⟨.DirModifiedEvent, "W/a/b/c", "", false⟩,
       ⟨.FileCreatedEvent, "W/a/g", "", false⟩, ⟨.DirModifiedEvent, "W/a", "", false⟩,
       ⟨.FileOpenedEvent, "W/a/g", "", false⟩, ⟨.FileClosedEvent, "W/a/g", "", false⟩, ⟨.DirModifiedEvent, "W/a", "", false⟩,
       ⟨.DirCreatedEvent, "W/x", "", false⟩, ⟨.DirModifiedEvent, "W", "", false⟩,
       ⟨.DirCreatedEvent, "W/x/y", "", false⟩, ⟨.DirModifiedEvent, "W/x", "", false⟩,
       ⟨.FileCreatedEvent, "W/x/y/z", "", false⟩, ⟨.DirModifiedEvent, "W/x/y", "", false⟩] := by decide +kernel


/-- **paced histories**: the history is ANY sequence of bursts, each issued back to back and read as one batch after its
    last operation, where a burst is (a) one operation of any kind - i.e. a drained operation: renames and moves of whole
    directory trees, recursive deletes, replacements -, (b) file operations without limit (creations, writes, attribute
    changes, removals, renames / replacements / moves of files), or (c) a nested creation burst (mkdirs and file
    creations at any depth).  Replaying everything delivered, in order, on the initial tree gives the final tree.
    Not covered: bursts of several operations that rename, move or remove DIRECTORIES. -/
theorem replay_paced_partial (fs0 : FS) (hwf : fs0.WF) (full : Bool) (bs : List (List Op))
    (hb : pacedOK (Sys.start fs0 true full) bs) :
    sameTree (replay (treeW fs0) ((Sys.start fs0 true full).runBursts bs).2.flatten)
             (treeW ((Sys.start fs0 true full).runBursts bs).1.fs) := by
  obtain ⟨inv, hs, hc, h4, _⟩ := start_rec fs0 hwf full
  have := (paced_run bs _ inv hs hc hb).2.2.2
  rw [h4] at this; exact this

/-- non-vacuity: a directory moved in from outside, a nested creation burst inside it, a file storm, the directory
    renamed, another nested burst under the new name -/
example :
    let k0 : Kern := ⟨[], 1, 1⟩
    let fs0 := [Op.mkdir ["O", "d"], .create ["O", "d", "b"]].foldl (fun fs op => (kernelOp fs k0 op).1) FS.init
    let bs := [[Op.rename ["O", "d"] ["W", "d"]],
               [.mkdir ["W", "d", "x"], .mkdir ["W", "d", "x", "y"], .create ["W", "d", "x", "y", "f"]],
               [.create ["W", "a"], .rename ["W", "a"] ["W", "d", "x", "a"], .write ["W", "d", "b"], .unlink ["W", "d", "x", "y", "f"]],
               [.rename ["W", "d"] ["W", "e"]],
               [.mkdir ["W", "e", "x", "z"], .create ["W", "e", "x", "z", "g"], .mkdir ["W", "n"], .mkdir ["W", "n", "m"]]]
    pacedOKB (Sys.start fs0 true false) bs = true ∧
    ((Sys.start fs0 true false).runBursts bs).2.flatten.length = 38 := by decide +kernel


/-- "created and immediately renamed": `mkdir p; rename p q` issued back to back and read as one batch (both parents
    directories of the tree, `q` a free name) delivers exactly what the two operations deliver one at a time - a created
    event for the old name, one moved event with both names, the parents' modified events - although the reader never sees
    the directory under its old name (the CREATE record finds nothing to watch, the MOVED_TO finds no watch to re-key);
    this kind of burst is also admitted by `pacedOK` / `replay_paced_partial` -/
theorem burst_created_and_renamed_partial (fs0 : FS) (hwf : fs0.WF) (full : Bool) (pre : List Op) (p q : P)
    (hv : allValid (Sys.start fs0 true full) pre = true) (hroot : Op.rmdir ["W"] ∉ pre)
    (hb : mkRenameB ((Sys.start fs0 true full).run pre).1 [.mkdir p, .rename p q] = true) :
    (((Sys.start fs0 true full).run pre).1.burst [.mkdir p, .rename p q]).2 =
      (contractRun ((Sys.start fs0 true full).run pre).1.fs true full [.mkdir p, .rename p q]).flatten := by
  obtain ⟨inv, hs, hc⟩ := after_history fs0 hwf full pre hv hroot
  simp only [mkRenameB, Bool.and_eq_true, beq_iff_eq, decide_eq_true_eq, Bool.not_eq_true', bne_iff_ne, ne_eq] at hb
  obtain ⟨⟨⟨⟨⟨⟨⟨_, a1⟩, a2⟩, a3⟩, a4⟩, a5⟩, a6⟩, a7⟩ := hb
  have := (burst_mkdir_rename_replay _ p q inv hs hc a1 a2 a3 a4 a5 a6 a7).1
  rw [this, run_full, (start_rec fs0 hwf full).2.2.2.2]


/-- non-recursive watch, PACED histories: ANY sequence of bursts of valid operations (files and directories created,
    removed, renamed, moved in and out - anything but the removal of the root), each burst read as one batch: replaying
    everything delivered on the root's direct children as they were at the start gives the root's direct children as they
    are at the end (under a non-recursive watch the batching is invisible: `runBursts_flat`) -/
theorem replay_paced_nonrecursive_partial (fs0 : FS) (hwf : fs0.WF) (full : Bool) (bs : List (List Op))
    (hb : flatOK (Sys.start fs0 false full) bs = true) :
    sameTree (replay (treeW1 fs0) ((Sys.start fs0 false full).runBursts bs).2.flatten)
             (treeW1 ((Sys.start fs0 false full).runBursts bs).1.fs) := by
  obtain ⟨inv, hs, hc, _, _⟩ := start_flat fs0 hwf full
  obtain ⟨h1, h2, h3, h4⟩ := runBursts_flat bs _ inv hs hc hb
  rw [h1, h2]
  exact replay_nonrecursive_partial fs0 hwf full bs.flatten h3 h4


/-- "a directory may be renamed again right after it arrived": `rename o q1; rename q1 q2` read as one batch, `o` a
    directory TREE outside the watched tree, `q1`, `q2` free names in directories of the tree.  The reader never sees the
    tree under `q1` (the first MOVED_TO finds nothing there any more); it is watched, with all it holds, under `q2`.  The
    stream differs from the two drained operations' (no synthetic created events for the stay at `q1`; the descendants are
    announced by synthetic moved events `q1/.. -> q2/..`) but replays to the same tree.  Also a burst kind of `pacedOK`. -/
theorem burst_arrived_and_renamed_partial (fs0 : FS) (hwf : fs0.WF) (full : Bool) (pre : List Op) (o q1 q2 : P)
    (hv : allValid (Sys.start fs0 true full) pre = true) (hroot : Op.rmdir ["W"] ∉ pre)
    (hb : moveInRenameB ((Sys.start fs0 true full).run pre).1 [.rename o q1, .rename q1 q2] = true) :
    sameTree (replay (treeW ((Sys.start fs0 true full).run pre).1.fs)
               (((Sys.start fs0 true full).run pre).1.burst [.rename o q1, .rename q1 q2]).2)
             (treeW (((Sys.start fs0 true full).run pre).1.burst [.rename o q1, .rename q1 q2]).1.fs) := by
  obtain ⟨inv, hs, hc⟩ := after_history fs0 hwf full pre hv hroot
  exact (paced_step _ _ inv hs hc (okBurst_of_check _ _ (by simp [okBurstB, hb]))).2.2.2

/-- non-vacuity: a populated tree moved in and renamed at once -/
example :
    let k0 : Kern := ⟨[], 1, 1⟩
    let fs0 := [Op.mkdir ["O", "d"], .create ["O", "d", "b"], .mkdir ["O", "d", "dd"], .create ["O", "d", "dd", "a"], .mkdir ["W", "x"]].foldl
      (fun fs op => (kernelOp fs k0 op).1) FS.init
    let s := Sys.start fs0 true false
    moveInRenameB s [.rename ["O", "d"] ["W", "d"], .rename ["W", "d"] ["W", "x", "e"]] = true ∧
    (s.burst [.rename ["O", "d"] ["W", "d"], .rename ["W", "d"] ["W", "x", "e"]]).2.map PEv.toEvent =
      [⟨.DirCreatedEvent, "W/d", "", false⟩, ⟨.DirModifiedEvent, "W", "", false⟩,
       ⟨.DirMovedEvent, "W/d", "W/x/e", false⟩, ⟨.DirModifiedEvent, "W", "", false⟩, ⟨.DirModifiedEvent, "W/x", "", false⟩,
       ⟨.FileMovedEvent, "W/d/b", "W/x/e/b", true⟩, ⟨.DirMovedEvent, "W/d/dd", "W/x/e/dd", true⟩,
       ⟨.FileMovedEvent, "W/d/dd/a", "W/x/e/dd/a", true⟩] := by decide +kernel


/-- "renamed twice in a row": `rename a b; rename b c` read as one batch, `a` a directory TREE of the watched tree, `b`, `c`
    free names.  Both halves are re-keyings of the watch maps that never look at the file system, so the observer ends in
    the state of the drained run; the stream lacks the synthetic moved events of the first move (nothing lies at `b` when
    the emitter looks) but replays to the same tree: the descendants are announced once, as moved from `b/..` to `c/..`.
    Also a burst kind of `pacedOK`. -/
theorem burst_renamed_twice_partial (fs0 : FS) (hwf : fs0.WF) (full : Bool) (pre : List Op) (a b c : P)
    (hv : allValid (Sys.start fs0 true full) pre = true) (hroot : Op.rmdir ["W"] ∉ pre)
    (hb : renameChainB ((Sys.start fs0 true full).run pre).1 [.rename a b, .rename b c] = true) :
    sameTree (replay (treeW ((Sys.start fs0 true full).run pre).1.fs)
               (((Sys.start fs0 true full).run pre).1.burst [.rename a b, .rename b c]).2)
             (treeW (((Sys.start fs0 true full).run pre).1.burst [.rename a b, .rename b c]).1.fs) := by
  obtain ⟨inv, hs, hc⟩ := after_history fs0 hwf full pre hv hroot
  exact (paced_step _ _ inv hs hc (okBurst_of_check _ _ (by simp [okBurstB, hb]))).2.2.2

/-- non-vacuity: a populated directory renamed twice before the reader wakes up, the second time into another directory -/
example :
    let k0 : Kern := ⟨[], 1, 1⟩
    let fs0 := [Op.mkdir ["W", "d"], .create ["W", "d", "b"], .mkdir ["W", "d", "dd"], .mkdir ["W", "x"]].foldl
      (fun fs op => (kernelOp fs k0 op).1) FS.init
    let s := Sys.start fs0 true false
    renameChainB s [.rename ["W", "d"] ["W", "e"], .rename ["W", "e"] ["W", "x", "f"]] = true ∧
    (s.burst [.rename ["W", "d"] ["W", "e"], .rename ["W", "e"] ["W", "x", "f"]]).2.map PEv.toEvent =
      [⟨.DirMovedEvent, "W/d", "W/e", false⟩, ⟨.DirModifiedEvent, "W", "", false⟩, ⟨.DirModifiedEvent, "W", "", false⟩,
       ⟨.DirMovedEvent, "W/e", "W/x/f", false⟩, ⟨.DirModifiedEvent, "W", "", false⟩, ⟨.DirModifiedEvent, "W/x", "", false⟩,
       ⟨.FileMovedEvent, "W/e/b", "W/x/f/b", true⟩, ⟨.DirMovedEvent, "W/e/dd", "W/x/f/dd", true⟩] := by decide +kernel

end WD.C01
