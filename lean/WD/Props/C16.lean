/-
  C16 — The event queue drops only true consecutive duplicates and never anything else.
  For every set of producer/consumer scripts (any number of threads) and every schedule.
-/
import WD.Proofs.SkipQueue
import WD.Model.Events
namespace WD.C16
open WD.SQ

variable (scripts : List (List Op)) (sched : List Nat)

/-- FIFO, nothing lost, nothing duplicated: what the consumers obtained so far, followed by the
    queue content, is exactly the sequence of items enqueued, in order -/
theorem fifo_no_loss :
    enqs (run (init scripts) sched).hist =
      gots (run (init scripts) sched).hist ++ (run (init scripts) sched).queue :=
  (ProofsSQ.reach_inv scripts sched).fifo

/-- the unlocked `_last_item` always denotes the most recently enqueued item while it is still
    waiting in the queue, and nothing otherwise -/
theorem last_is_pending_tail (h : distinctPuts scripts) :
    (run (init scripts) sched).last = (run (init scripts) sched).queue.getLast? :=
  (ProofsSQ.reach_inv scripts sched).last h

/-- an offered item is dropped only if, at the moment of its check, it is equal to the item enqueued
    immediately before — the tail of the queue — and that one is still waiting to be consumed -/
theorem only_duplicates_dropped (h : distinctPuts scripts) (tid : Nat) (s' : State) (x y : Item)
    (hs : step (run (init scripts) sched) tid = some s')
    (hd : s'.hist = (run (init scripts) sched).hist ++ [.dropped tid x y]) :
    x.val = y.val ∧ (run (init scripts) sched).queue.getLast? = some y ∧
      (enqs (run (init scripts) sched).hist).getLast? = some y := by
  have hi := ProofsSQ.reach_inv scripts sched
  generalize run (init scripts) sched = s at *
  have key := ProofsSQ.step_dropped hs hd
  have hq : s.queue.getLast? = some y := by rw [← hi.last h]; exact key.2
  refine ⟨key.1, hq, ?_⟩
  rw [hi.fifo]
  simp [List.getLast?_append, hq]

/-- every recorded drop was against an equal item that had really been enqueued -/
theorem dropped_equal (h : distinctPuts scripts) (tid : Nat) (x y : Item)
    (hd : Obs.dropped tid x y ∈ (run (init scripts) sched).hist) :
    x.val = y.val ∧ y ∈ enqs (run (init scripts) sched).hist :=
  (ProofsSQ.reach_inv scripts sched).dropped h tid x y hd

/-- once the equal item has been taken out (here: the queue is empty), an equal item is accepted
    again: a `put` that starts now goes to the locked append, whatever it equals -/
theorem accepted_after_get (h : distinctPuts scripts) (tid : Nat) (t : Thread) (x : Item)
    (ht : (run (init scripts) sched).thread? tid = some t) (hpc : t.pc = .putRead1 x)
    (hq : (run (init scripts) sched).queue = []) :
    ∃ s1 t1, step (run (init scripts) sched) tid = some s1 ∧ s1.thread? tid = some t1 ∧ t1.pc = .putAcq x := by
  have hi := ProofsSQ.reach_inv scripts sched
  generalize run (init scripts) sched = s at *
  have hl : s.last = none := by rw [hi.last h, hq]; rfl
  have he : enabled s tid = true := ProofsSQ.enabled_of_pc ht (by simp [hpc]) (by simp [hpc])
  refine ⟨s.setThread tid { t with pc := .putAcq x }, { t with pc := .putAcq x }, ?_,
    ProofsSQ.setThread_thread s tid t _ ht, rfl⟩
  unfold step
  simp [he, ht, hpc, hl]

/-- equal items separated by a different item are both delivered: an item that differs from the
    pending tail is never dropped -/
theorem separated_both_delivered (h : distinctPuts scripts) (tid : Nat) (t : Thread) (x y : Item)
    (ht : (run (init scripts) sched).thread? tid = some t) (hpc : t.pc = .putRead2 x)
    (hq : (run (init scripts) sched).queue.getLast? = some y) (hne : x.val ≠ y.val) :
    ∃ s1 t1, step (run (init scripts) sched) tid = some s1 ∧ s1.thread? tid = some t1 ∧ t1.pc = .putAcq x := by
  have hi := ProofsSQ.reach_inv scripts sched
  generalize run (init scripts) sched = s at *
  have hl : s.last = some y := by rw [hi.last h, hq]
  have he : enabled s tid = true := ProofsSQ.enabled_of_pc ht (by simp [hpc]) (by simp [hpc])
  refine ⟨s.setThread tid { t with pc := .putAcq x }, { t with pc := .putAcq x }, ?_,
    ProofsSQ.setThread_thread s tid t _ ht, rfl⟩
  unfold step
  simp [he, ht, hpc, hl, hne]

/-- the locked append always enqueues -/
theorem append_enqueues (tid : Nat) (t : Thread) (x : Item) (s : State)
    (ht : s.thread? tid = some t) (hpc : t.pc = .putAcq x) :
    ∃ s1, step s tid = some s1 ∧ s1.queue = s.queue ++ [x] ∧ s1.hist = s.hist ++ [.enq tid x] := by
  have he : enabled s tid = true := ProofsSQ.enabled_of_pc ht (by simp [hpc]) (by simp [hpc])
  refine ⟨arrive (notifyOne { s with queue := s.queue ++ [x], last := some x,
                                      hist := s.hist ++ [.enq tid x] }) tid t, ?_, ?_, ?_⟩
  · unfold step
    simp [he, ht, hpc]
  · simp
  · simp

/-- two events are equal only if they have the same class and the same field values -/
theorem event_eq (a b : WD.Event) :
    a = b ↔ a.cls = b.cls ∧ a.src = b.src ∧ a.dest = b.dest ∧ a.synthetic = b.synthetic := by
  cases a; cases b; simp

/-- non-vacuity: the duplicate race — the consumer takes the first item out between the producer's
    two unlocked loads; the second (equal) item is accepted -/
example :
    let s := run (init [[.put ⟨1, 5⟩, .put ⟨2, 5⟩], [.get]]) [0, 1, 0, 0, 0, 1, 0, 0]
    enqs s.hist = [⟨1, 5⟩, ⟨2, 5⟩] ∧ gots s.hist = [⟨1, 5⟩] ∧ s.queue = [⟨2, 5⟩] := by decide

example :   -- and without the consumer in between it is dropped against the pending tail
    let s := run (init [[.put ⟨1, 5⟩, .put ⟨2, 5⟩], [.get]]) [0, 1, 0, 0, 0, 0]
    s.hist = [.enq 0 ⟨1, 5⟩, .dropped 0 ⟨2, 5⟩ ⟨1, 5⟩] := by decide

end WD.C16
