/-
  C11 — An event filter only removes events; it never alters the rest of the stream.
  Table level: the inotify mask computed from a filter (an optimisation) must let through every
  native record from which the unfiltered translation derives an event the filter accepts, both
  halves of a move together, and — for a recursive watch — the records the library's own
  directory bookkeeping needs.  Every table below is REGENERATED FROM THE SOURCE on every run
  (harness/tables.py evaluates InotifyEmitter.queue_events / get_event_mask_from_filter over their
  whole finite domain), so these `decide`d theorems are re-checked against what the code says now.
-/
import WD.Generated.EventClasses
import WD.Generated.InotifyTables
import WD.Proofs.Pipeline.Filter
import WD.Proofs.Pipeline.FilterFlat
namespace WD.C11
open WD.Generated

def hasBit (m bit : Nat) : Bool := m &&& bit != 0

/-- event class `e` (a '*' suffix marks a synthetic event) is an instance of filter class `c` -/
def accepted (c e : String) : Bool :=
  let e' := if e.endsWith "*" then (e.dropEnd 1).toString else e
  match eventClasses.find? (fun r => r.1 == e') with
  | some (_, _, _, supers) => supers.contains c
  | none => false

section checkers
open WD.Pipe

def maskOf (n : Nat) : Flag → Bool
  | .modify => hasBit n IN_MODIFY | .attrib => hasBit n IN_ATTRIB | .closeWrite => hasBit n IN_CLOSE_WRITE
  | .closeNoWrite => hasBit n IN_CLOSE_NOWRITE | .open => hasBit n IN_OPEN | .movedFrom => hasBit n IN_MOVED_FROM
  | .movedTo => hasBit n IN_MOVED_TO | .create => hasBit n IN_CREATE | .delete => hasBit n IN_DELETE
  | .deleteSelf => hasBit n IN_DELETE_SELF | .ignored => true

/-- the filter's classes accept an event of class `e` -/
def accOf (cs : List String) (e : EvClass) : Bool := cs.any (fun c => accepted c e.name)

/-! The sweeps over the tables as Boolean functions of the tables.  The kernel spends its time on the string comparisons
    inside `accepted`, so each checker asks the quick questions (recursive flag, mask bit) first, and one evaluation
    (`tables_checked`) serves all of them: the kernel shares equal sub-evaluations inside one declaration only. -/

def singleChk (T : List (Nat × Bool × Bool × Bool × Bool × List String × Bool)) (S : List (String × Bool × Nat))
    (dflt : Nat) : Bool :=
  T.all fun row => !hasBit dflt row.1 || S.all fun m =>
    m.2.1 != row.2.2.2.1 || hasBit m.2.2 row.1 || !row.2.2.2.2.2.1.any (accepted m.1)

theorem singleChk_sound {T : List (Nat × Bool × Bool × Bool × Bool × List String × Bool)} {S : List (String × Bool × Nat)}
    {dflt : Nat} (h : singleChk T S dflt = true) :
    ∀ row ∈ T, ∀ m ∈ S, hasBit dflt row.1 = true → m.2.1 = row.2.2.2.1 →
      (row.2.2.2.2.2.1.any (accepted m.1)) = true → hasBit m.2.2 row.1 = true := by
  intro row hrow m hm h1 h2 h3
  have := List.all_eq_true.1 h row hrow
  simp only [h1, Bool.not_true, Bool.false_or] at this
  simpa [h2, h3] using List.all_eq_true.1 this m hm

def pairChk (T : List (Bool × Bool × List String)) (S : List (String × Bool × Nat)) (f t : Nat) : Bool :=
  T.all fun row => S.all fun m => m.2.1 != row.2.1 || (hasBit m.2.2 f && hasBit m.2.2 t) || !row.2.2.any (accepted m.1)

theorem pairChk_sound {T : List (Bool × Bool × List String)} {S : List (String × Bool × Nat)} {f t : Nat}
    (h : pairChk T S f t = true) :
    ∀ row ∈ T, ∀ m ∈ S, m.2.1 = row.2.1 → (row.2.2.any (accepted m.1)) = true →
      hasBit m.2.2 f = true ∧ hasBit m.2.2 t = true := by
  intro row hrow m hm h1 h2
  simpa [h1, h2] using List.all_eq_true.1 (List.all_eq_true.1 h row hrow) m hm

def rowChk (r : String × Bool × Nat) : Bool :=
  if r.2.1 then
    maskOf r.2.2 .create && maskOf r.2.2 .movedFrom && maskOf r.2.2 .movedTo && maskOf r.2.2 .deleteSelf &&
      completeB (maskOf r.2.2) (accOf [r.1])
  else (maskOf r.2.2 .movedFrom == maskOf r.2.2 .movedTo) && completeBF (maskOf r.2.2) (accOf [r.1])

end checkers

theorem tables_checked :
    singleChk translation singletonMask WATCHDOG_ALL_EVENTS = true ∧
    pairChk pairTranslation singletonMask IN_MOVED_FROM IN_MOVED_TO = true ∧ singletonMask.all rowChk = true ∧
    ∀ m ∈ singletonMask, (m.1 = "FileDeletedEvent" ∨ m.1 = "DirDeletedEvent") → hasBit m.2.2 IN_MOVED_FROM = true := by
  decide +kernel

/-- completeness of the mask for single records: whenever the unfiltered watch (default mask) would
    derive from a record an event that the singleton filter `{c}` accepts, the filter's mask contains
    that record's bit -/
theorem mask_complete_single :
    ∀ row ∈ translation, ∀ m ∈ singletonMask,
      hasBit WATCHDOG_ALL_EVENTS row.1 = true → m.2.1 = row.2.2.2.1 →
      (row.2.2.2.2.2.1.any (accepted m.1)) = true → hasBit m.2.2 row.1 = true :=
  singleChk_sound tables_checked.1

/-- ... and for a paired move: both halves -/
theorem mask_complete_pair :
    ∀ row ∈ pairTranslation, ∀ m ∈ singletonMask, m.2.1 = row.2.1 →
      (row.2.2.any (accepted m.1)) = true →
      hasBit m.2.2 IN_MOVED_FROM = true ∧ hasBit m.2.2 IN_MOVED_TO = true :=
  pairChk_sound tables_checked.2.1

/-- the two halves of a move are requested together or not at all (else a rename inside the tree
    would surface as a deletion or creation that the unfiltered stream does not contain) -/
theorem pairing_closed :
    ∀ m ∈ singletonMask, hasBit m.2.2 IN_MOVED_FROM = hasBit m.2.2 IN_MOVED_TO := by
  decide +kernel

/-- a recursive watch always keeps the records its own directory bookkeeping needs; every watch
    keeps DELETE_SELF (root deletion) -/
theorem bookkeeping :
    (∀ m ∈ singletonMask, hasBit m.2.2 IN_DELETE_SELF = true) ∧
    (∀ m ∈ singletonMask, m.2.1 = true →
      hasBit m.2.2 IN_CREATE = true ∧ hasBit m.2.2 IN_MOVED_FROM = true ∧ hasBit m.2.2 IN_MOVED_TO = true) ∧
    hasBit emptyFilterMaskNonRec IN_DELETE_SELF = true ∧
    hasBit emptyFilterMaskRec IN_CREATE = true ∧ hasBit emptyFilterMaskRec IN_MOVED_FROM = true ∧
    hasBit emptyFilterMaskRec IN_MOVED_TO = true := by
  decide +kernel

/-- a mask never asks for more than the unfiltered watch gets (so the filtered stream cannot
    contain an event the unfiltered one lacks) -/
theorem mask_within_default :
    ∀ m ∈ singletonMask, m.2.2 &&& WATCHDOG_ALL_EVENTS = m.2.2 := by
  decide +kernel

/-- the two corollaries the property names: deletions asked for => moves out of the tree are seen;
    a filtered recursive watch still follows new directories -/
theorem moves_out_seen_as_deleted :
    ∀ m ∈ singletonMask, (m.1 = "FileDeletedEvent" ∨ m.1 = "DirDeletedEvent") → hasBit m.2.2 IN_MOVED_FROM = true :=
  tables_checked.2.2.2

/-- non-vacuity: the tables are not empty and contain accepted events -/
example : translation.length = 192 ∧ singletonMask.length = 26 ∧ accepted "FileSystemMovedEvent" "DirMovedEvent*" = true := by
  decide +kernel

/-! ### stream level (recursive watch, drained regime): the whole pipeline under a filter

  `WD.Pipe.Sys.runF m acc` is the pipeline model of C01–C03 with watch mask `m` (the kernel queues only those record
  kinds) and class filter `acc` on the emitter's queue.  The mask and the accepted classes of a filter are read off the
  REGENERATED tables (`singletonMask`, `eventClasses`); a filter with several classes has the union of the masks
  (`get_event_mask_from_filter` is that OR-homomorphism: checked exhaustively over all 2^13 filters on every run). -/
section stream
open WD.Pipe

/-- mask of a filter: the recursive watch's bookkeeping bits plus every class's own bits -/
def filterMask (cs : List String) : Nat :=
  cs.foldl (fun a c => a ||| ((singletonMask.find? (fun r => r.1 == c && r.2.1)).map (·.2.2)).getD 0) emptyFilterMaskRec

/-- table level, decided over the regenerated tables: every filter class's mask keeps the bookkeeping records and
    leaves out only record kinds whose events the class rejects -/
theorem singleton_book_complete :
    ∀ r ∈ singletonMask, r.2.1 = true →
      (maskOf r.2.2 .create && maskOf r.2.2 .movedFrom && maskOf r.2.2 .movedTo && maskOf r.2.2 .deleteSelf &&
       completeB (maskOf r.2.2) (accOf [r.1])) = true := by
  intro r hr hrec
  have h := List.all_eq_true.1 tables_checked.2.2.1 r hr
  rwa [rowChk, if_pos hrec] at h

theorem empty_book_complete :
    (maskOf emptyFilterMaskRec .create && maskOf emptyFilterMaskRec .movedFrom && maskOf emptyFilterMaskRec .movedTo &&
     maskOf emptyFilterMaskRec .deleteSelf && completeB (maskOf emptyFilterMaskRec) (accOf [])) = true := by
  decide +kernel

theorem hasBit_or (a b bit : Nat) : hasBit (a ||| b) bit = (hasBit a bit || hasBit b bit) := by
  rw [Bool.eq_iff_iff]
  simp only [hasBit, Nat.and_or_distrib_right, bne_iff_ne, ne_eq, Nat.or_eq_zero_iff, Bool.or_eq_true,
    Decidable.not_and_iff_not_or_not]

theorem maskOf_or (a b : Nat) (f : Flag) : maskOf (a ||| b) f = (maskOf a f || maskOf b f) := by
  cases f <;> simp [maskOf, hasBit_or]

theorem book_of {n : Nat} (h : (maskOf n .create && maskOf n .movedFrom && maskOf n .movedTo && maskOf n .deleteSelf) = true) :
    Book (maskOf n) := by
  simp only [Bool.and_eq_true] at h
  exact ⟨h.1.1.1, h.1.1.2, h.1.2, h.2⟩

theorem accOf_append (pre cs : List String) : accOf (pre ++ cs) = fun e => accOf pre e || accOf cs e := by
  funext e; simp [accOf, List.any_append]

/-- a filter's mask is the fold of its classes' table rows (those that `q` selects) over the empty filter's mask, its
    accepted classes the union: what is closed under union and holds of the rows and of the start holds of every filter -/
theorem foldMask_union {I : (Flag → Bool) → (EvClass → Bool) → Prop} (tbl : List (String × Bool × Nat)) (q : Bool → Bool)
    (rec : Bool) (hq : ∀ b, q b = true ↔ b = rec)
    (union : ∀ {m1 m2 a1 a2}, I m1 a1 → I m2 a2 → I (fun f => m1 f || m2 f) (fun c => a1 c || a2 c))
    (rows : ∀ r ∈ tbl, r.2.1 = rec → I (maskOf r.2.2) (accOf [r.1]))
    (cs : List String) (hcs : ∀ c ∈ cs, ∃ r ∈ tbl, r.1 = c ∧ r.2.1 = rec) :
    ∀ (pre : List String) (n : Nat), I (maskOf n) (accOf pre) →
      I (maskOf (cs.foldl (fun a c => a ||| ((tbl.find? (fun r => r.1 == c && q r.2.1)).map (·.2.2)).getD 0) n))
        (accOf (pre ++ cs)) := by
  induction cs with
  | nil => intro pre n h; simpa using h
  | cons c rest ih =>
    intro pre n h
    obtain ⟨r, hr, rfl, hrec⟩ := hcs c (List.mem_cons_self ..)
    cases hfind : tbl.find? (fun x => x.1 == r.1 && q x.2.1) with
    | none => simpa [(hq _).2 hrec] using List.find?_eq_none.1 hfind r hr
    | some r' =>
      have hr'p := List.find?_some hfind
      simp only [Bool.and_eq_true, beq_iff_eq] at hr'p
      have hstep := union h (rows r' (List.mem_of_find?_eq_some hfind) ((hq _).1 hr'p.2))
      rw [hr'p.1, ← accOf_append, ← funext (maskOf_or n r'.2.2)] at hstep
      have := ih (fun c hc => hcs c (List.mem_cons_of_mem _ hc)) (pre ++ [r.1]) (n ||| r'.2.2) hstep
      simpa [hfind, List.append_assoc] using this

/-- every filter over the event classes: its mask keeps the bookkeeping records and is complete for its classes -/
theorem filter_book_complete (cs : List String) (hcs : ∀ c ∈ cs, ∃ r ∈ singletonMask, r.1 = c ∧ r.2.1 = true) :
    Book (maskOf (filterMask cs)) ∧ Complete (maskOf (filterMask cs)) (accOf cs) := by
  have ofCheck : ∀ {n : Nat} {a : EvClass → Bool}, (maskOf n .create && maskOf n .movedFrom && maskOf n .movedTo &&
      maskOf n .deleteSelf && completeB (maskOf n) a) = true → Book (maskOf n) ∧ Complete (maskOf n) a := by
    intro n a h
    rw [Bool.and_eq_true] at h
    exact ⟨book_of h.1, Complete_of_check (book_of h.1) h.2⟩
  exact foldMask_union (I := fun m a => Book m ∧ Complete m a) singletonMask id true (fun _ => Iff.rfl)
    (fun h1 h2 => ⟨h1.1.union_left, h1.2.union h2.2⟩) (fun r hr hrec => ofCheck (singleton_book_complete r hr hrec))
    cs hcs [] emptyFilterMaskRec (ofCheck empty_book_complete)

/-- **the property, stream level** (`_partial`: recursive watch, every operation drained, histories of valid operations):
    a watch scheduled with the filter `cs` goes through the same states as the unfiltered watch and delivers, operation by
    operation and in the same order, exactly the unfiltered watch's events that are instances of one of the filter's
    classes — for every well-formed initial tree, every history, every filter over the event class lattice -/
theorem stream_filtered_partial (fs0 : FS) (hwf : fs0.WF) (full : Bool) (ops : List Op)
    (hv : allValid (Sys.start fs0 true full) ops = true)
    (cs : List String) (hcs : ∀ c ∈ cs, ∃ r ∈ singletonMask, r.1 = c ∧ r.2.1 = true) :
    (Sys.start fs0 true full).runF (maskOf (filterMask cs)) (accOf cs) ops =
      (((Sys.start fs0 true full).run ops).1,
       ((Sys.start fs0 true full).run ops).2.map (fun evs => evs.filter (fun e => accOf cs e.cls))) := by
  obtain ⟨hb, hc⟩ := filter_book_complete cs hcs
  obtain ⟨inv, hs, hcr, _, _⟩ := start_rec fs0 hwf full
  exact runF_eq hb hc _ ops (run_rec _ ops inv hs hcr hv).2.1

/-- non-vacuity: {FileDeletedEvent} on a history with a creation, a move out of the tree and a deletion: the filtered
    watch reports the move out and the deletion as deletions and nothing else -/
example :
    let ops := [Op.create ["W", "a"], .create ["W", "b"], .rename ["W", "a"] ["O", "a"], .unlink ["W", "b"]]
    ((Sys.start FS.init true false).runF (maskOf (filterMask ["FileDeletedEvent"])) (accOf ["FileDeletedEvent"]) ops).2.map
        (·.map PEv.toEvent) =
      [[], [], [⟨.FileDeletedEvent, "W/a", "", false⟩], [⟨.FileDeletedEvent, "W/b", "", false⟩]] := by
  decide +kernel

/-! ### non-recursive watches: the mask may also leave out CREATE / MOVED_FROM / MOVED_TO -/

def filterMaskNR (cs : List String) : Nat :=
  cs.foldl (fun a c => a ||| ((singletonMask.find? (fun r => r.1 == c && !r.2.1)).map (·.2.2)).getD 0) emptyFilterMaskNonRec

/-- table level, decided over the regenerated tables: under a non-recursive watch every filter class's mask asks for both
    halves of a move or for neither, keeps the root's DELETE_SELF, and leaves out only record kinds (and pairs) whose events
    the class rejects -/
theorem singleton_flat_complete :
    ∀ r ∈ singletonMask, r.2.1 = false →
      ((maskOf r.2.2 .movedFrom == maskOf r.2.2 .movedTo) && completeBF (maskOf r.2.2) (accOf [r.1])) = true := by
  intro r hr hrec
  have h := List.all_eq_true.1 tables_checked.2.2.1 r hr
  rwa [rowChk, if_neg (by simp [hrec])] at h

theorem empty_flat_complete :
    ((maskOf emptyFilterMaskNonRec .movedFrom == maskOf emptyFilterMaskNonRec .movedTo) &&
     completeBF (maskOf emptyFilterMaskNonRec) (accOf [])) = true := by
  decide +kernel

theorem filter_flat_complete (cs : List String) (hcs : ∀ c ∈ cs, ∃ r ∈ singletonMask, r.1 = c ∧ r.2.1 = false) :
    maskOf (filterMaskNR cs) .movedFrom = maskOf (filterMaskNR cs) .movedTo ∧
    CompleteF (maskOf (filterMaskNR cs)) (accOf cs) := by
  have ofCheck : ∀ {n : Nat} {a : EvClass → Bool}, ((maskOf n .movedFrom == maskOf n .movedTo) &&
      completeBF (maskOf n) a) = true → maskOf n .movedFrom = maskOf n .movedTo ∧ CompleteF (maskOf n) a := by
    intro n a h
    rw [Bool.and_eq_true, beq_iff_eq] at h
    exact ⟨h.1, CompleteF_of_check h.2⟩
  exact foldMask_union (I := fun m a => m .movedFrom = m .movedTo ∧ CompleteF m a) singletonMask (!·) false
    (fun b => by cases b <;> decide) (fun h1 h2 => ⟨by simp only [h1.1, h2.1], h1.2.union h2.2⟩)
    (fun r hr hrec => ofCheck (singleton_flat_complete r hr hrec)) cs hcs [] emptyFilterMaskNonRec
    (ofCheck empty_flat_complete)

/-- **the property, stream level, non-recursive watch** (`_partial`: every operation drained, histories of valid
    operations): a non-recursive watch scheduled with the filter `cs` delivers, operation by operation and in the same
    order, exactly the unfiltered non-recursive watch's events that are instances of one of the filter's classes, and its
    kernel state, its watch maps and its stopped flag are the unfiltered watch's (it merely remembers fewer MOVED_FROMs) -/
theorem stream_filtered_nonrecursive_partial (fs0 : FS) (hwf : fs0.WF) (full : Bool) (ops : List Op)
    (hv : allValid (Sys.start fs0 false full) ops = true)
    (cs : List String) (hcs : ∀ c ∈ cs, ∃ r ∈ singletonMask, r.1 = c ∧ r.2.1 = false) :
    ((Sys.start fs0 false full).runF (maskOf (filterMaskNR cs)) (accOf cs) ops).2 =
      ((Sys.start fs0 false full).run ops).2.map (fun evs => evs.filter (fun e => accOf cs e.cls)) ∧
    SimS ((Sys.start fs0 false full).run ops).1 ((Sys.start fs0 false full).runF (maskOf (filterMaskNR cs)) (accOf cs) ops).1 := by
  obtain ⟨hcl, hc⟩ := filter_flat_complete cs hcs
  obtain ⟨inv, hs, hcr, _, _⟩ := start_flat fs0 hwf full
  exact runF_flat hcl hc ops _ _ ⟨rfl, rfl, rfl, rfl, rfl, Sim.refl _⟩ inv.flatMaps
    (run_flat _ ops inv hs hcr hv).2.1

/-- non-vacuity: {FileModifiedEvent} on a non-recursive watch (mask: MODIFY, ATTRIB, DELETE_SELF only): creations, moves
    and deletions go unreported, the write and the chmod are delivered -/
example :
    let ops := [Op.create ["W", "a"], .write ["W", "a"], .rename ["W", "a"] ["W", "b"], .chmod ["W", "b"], .unlink ["W", "b"]]
    ((Sys.start FS.init false false).runF (maskOf (filterMaskNR ["FileModifiedEvent"])) (accOf ["FileModifiedEvent"]) ops).2.map
        (·.map PEv.toEvent) =
      [[], [⟨.FileModifiedEvent, "W/a", "", false⟩], [], [⟨.FileModifiedEvent, "W/b", "", false⟩], []] := by
  decide +kernel

end stream

end WD.C11
