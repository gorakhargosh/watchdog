/-
  The pipeline model's emitter (`WD.Pipe.emit`, the function the theorems of C01, C02, C03, C07 are about)
  agrees with the decision table of `InotifyEmitter.queue_events` that harness/tables.py REGENERATES FROM
  THE SOURCE on every run (every record kind x ISDIR x full_events x recursive x "is the watch root", and the
  paired move), evaluated there on a directory `d` holding a sub-directory and a file so that the synthetic
  sub-events materialise.  `decide`d over the whole table: re-checked against what the code says now.
-/
import WD.Model.Pipeline
import WD.Generated.InotifyTables
namespace WD.EmitTable
open WD.Pipe WD.Generated

def flagOfBit (b : Nat) : Option Flag :=
  if b = IN_MODIFY then some .modify else if b = IN_ATTRIB then some .attrib
  else if b = IN_CLOSE_WRITE then some .closeWrite else if b = IN_CLOSE_NOWRITE then some .closeNoWrite
  else if b = IN_OPEN then some .open else if b = IN_MOVED_FROM then some .movedFrom
  else if b = IN_MOVED_TO then some .movedTo else if b = IN_CREATE then some .create
  else if b = IN_DELETE then some .delete else if b = IN_DELETE_SELF then some .deleteSelf
  else none

/-- the scratch tree of harness/tables.py: `root/d/{sub/, f}` -/
def tableFS : FS :=
  ⟨[⟨["W"], true, 1⟩, ⟨["O"], true, 2⟩, ⟨["W", "d"], true, 3⟩, ⟨["W", "d", "sub"], true, 4⟩, ⟨["W", "d", "f"], false, 5⟩], 6⟩

def tag (e : PEv) : String := e.cls.name ++ (if e.syn then "*" else "")

def sameSet (a b : List String) : Bool := a.all b.contains && b.all a.contains

/-- the model's answer for one table row -/
def modelRow (bit : Nat) (isDir full recursive isRoot : Bool) : List String × Bool :=
  match flagOfBit bit with
  | none => ([], false)                           -- a record kind the emitter ignores (IN_ACCESS, IN_MOVE_SELF)
  | some fl =>
    let src := if isRoot then ["W"] else ["W", "d"]
    let r := emit tableFS recursive full (.one ⟨1, fl, isDir, 0, if isRoot then none else some "d", src⟩)
    (r.1.map tag, r.2)

/-! Compared as strings, every class of every row takes the kernel a string comparison, on strings the model builds with
    `++`: slow to check.  The checker below reads every string of the table back into (class, synthetic) once (`untag`; the
    kernel evaluates equal closed terms once per declaration) and compares those. -/

def untag (s : String) : Option (EvClass × Bool) :=
  (EvClass.all.flatMap fun c => [(c, false), (c, true)]).find? (fun p => tag ⟨p.1, [], [], p.2⟩ == s)

def sameSetU (ps : List (EvClass × Bool)) (ss : List String) : Bool :=
  ss.all (fun s => (untag s).any ps.contains) && ps.all (fun p => ss.any fun s => untag s == some p)

theorem tag_of_untag {s : String} {p : EvClass × Bool} (h : untag s = some p) : tag ⟨p.1, [], [], p.2⟩ = s := by
  simpa using List.find?_some h

theorem sameSet_of_untag {evs : List PEv} {ss : List String}
    (h : sameSetU (evs.map fun e => (e.cls, e.syn)) ss = true) : sameSet (evs.map tag) ss = true := by
  simp only [sameSetU, Bool.and_eq_true, List.all_eq_true, List.any_eq_true, Option.any_eq_true,
    List.contains_iff_mem, List.mem_map, beq_iff_eq] at h
  simp only [sameSet, Bool.and_eq_true, List.all_eq_true, List.contains_iff_mem, List.mem_map]
  constructor
  · rintro _ ⟨e, he, rfl⟩
    obtain ⟨s, hs, hu⟩ := h.2 _ ⟨e, he, rfl⟩
    rw [← tag_of_untag hu] at hs; exact hs
  · intro s hs
    obtain ⟨p, hu, e, he, rfl⟩ := h.1 s hs
    exact ⟨e, he, tag_of_untag hu⟩

def modelEvs (bit : Nat) (isDir full recursive isRoot : Bool) : List PEv × Bool :=
  match flagOfBit bit with
  | none => ([], false)
  | some fl =>
    emit tableFS recursive full
      (.one ⟨1, fl, isDir, 0, if isRoot then none else some "d", if isRoot then ["W"] else ["W", "d"]⟩)

theorem modelRow_eq (bit : Nat) (isDir full recursive isRoot : Bool) :
    modelRow bit isDir full recursive isRoot =
      ((modelEvs bit isDir full recursive isRoot).1.map tag, (modelEvs bit isDir full recursive isRoot).2) := by
  unfold modelRow modelEvs
  split <;> rfl

/-- both tables in one evaluation, so that `untag`'s strings are built once -/
theorem rows_checked :
    (∀ row ∈ translation,
      sameSetU ((modelEvs row.1 row.2.1 row.2.2.1 row.2.2.2.1 row.2.2.2.2.1).1.map fun e => (e.cls, e.syn))
        row.2.2.2.2.2.1 = true ∧
      (modelEvs row.1 row.2.1 row.2.2.1 row.2.2.2.1 row.2.2.2.2.1).2 = row.2.2.2.2.2.2) ∧
    ∀ row ∈ pairTranslation,
      sameSetU ((emit tableFS row.2.1 false
          (.two ⟨1, .movedFrom, row.1, 5, some "old", ["W", "old"]⟩ ⟨1, .movedTo, row.1, 5, some "d", ["W", "d"]⟩)).1.map
          fun e => (e.cls, e.syn)) row.2.2 = true := by
  decide +kernel

/-- every row of the regenerated table: same set of event classes (synthetic ones marked), same "emitter stopped" -/
theorem emit_agrees_with_source :
    ∀ row ∈ translation,
      sameSet (modelRow row.1 row.2.1 row.2.2.1 row.2.2.2.1 row.2.2.2.2.1).1 row.2.2.2.2.2.1 = true ∧
      (modelRow row.1 row.2.1 row.2.2.1 row.2.2.2.1 row.2.2.2.2.1).2 = row.2.2.2.2.2.2 := by
  intro row hrow
  rw [modelRow_eq]
  exact ⟨sameSet_of_untag (rows_checked.1 row hrow).1, (rows_checked.1 row hrow).2⟩

/-- the paired move -/
theorem emit_pair_agrees_with_source :
    ∀ row ∈ pairTranslation,
      sameSet ((emit tableFS row.2.1 false
          (.two ⟨1, .movedFrom, row.1, 5, some "old", ["W", "old"]⟩ ⟨1, .movedTo, row.1, 5, some "d", ["W", "d"]⟩)).1.map tag)
        row.2.2 = true :=
  fun row hrow => sameSet_of_untag (rows_checked.2 row hrow)

/-- the kernel model only ever queues record kinds of the watch mask the library asks for -/
theorem model_flags_in_default_mask :
    ∀ b ∈ [IN_MODIFY, IN_ATTRIB, IN_CLOSE_WRITE, IN_CLOSE_NOWRITE, IN_OPEN, IN_MOVED_FROM, IN_MOVED_TO, IN_CREATE,
           IN_DELETE, IN_DELETE_SELF], b &&& WATCHDOG_ALL_EVENTS = b ∧ (flagOfBit b).isSome = true := by
  decide +kernel

example : translation.length = 192 ∧ pairTranslation.length = 4 := by decide +kernel

end WD.EmitTable
