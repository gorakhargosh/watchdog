/-
  C19 — Event paths keep the caller's path type and the entry's exact name, all backends.
  The theorems are about `WD.PT`: how the two backends build event paths.  They assume of Python's
  os.fsencode/os.fsdecode exactly: `enc (dec b) = b` (surrogateescape round trip) and that encoding distributes
  over os.path.join (`/` is ASCII).  This is the property where the theorem carries least and the tie most:
  the real observers are run on names that are not valid in the file-system encoding, not NFC-normalised, and
  that repeat the text of the watched path (harness/c19.py).
-/
import WD.Model.PathType
namespace WD.C19
open WD.PT

variable {S : Type} (c : Codec S)

/-- what is assumed of os.fsencode / os.fsdecode / os.path.join -/
structure CodecOK (c : Codec S) : Prop where
  round : ∀ b, c.enc (c.dec b) = b
  encJoin : ∀ a n, c.enc (c.joinS a n) = joinB (c.enc a) (c.enc n)

theorem foldl_enc (h : CodecOK c) (rel : List B) (p : S) :
    c.enc (rel.foldl (fun a n => c.joinS a (c.dec n)) p) = rel.foldl joinB (c.enc p) := by
  induction rel generalizing p with
  | nil => rfl
  | cons n rest ih => simp only [List.foldl_cons]; rw [ih, h.encJoin, h.round]

/-- bytes stay bytes; str and pathlib.Path give str — native backend, direct / source / destination / parent paths -/
theorem type_preserved_native (w : WatchArg S) (rel : List B) : (nativePath c w rel).isBytes = w.isBytes := by
  cases w <;> simp [nativePath, decodePath, WatchArg.isBytes, EvPath.isBytes]

/-- ... synthetic events -/
theorem type_preserved_native_sub (w : WatchArg S) (dir below : List B) : (nativeSubPath c w dir below).isBytes = w.isBytes := by
  cases w <;> simp [nativeSubPath, nativePath, decodePath, WatchArg.isBytes, EvPath.isBytes]

/-- ... polling backend -/
theorem type_preserved_polling (w : WatchArg S) (rel : List B) : (pollingPath c w rel).isBytes = w.isBytes := by
  cases w <;> simp [pollingPath, WatchArg.stored, WatchArg.isBytes, EvPath.isBytes]

/-- converting an event path back with the file-system encoding names the real entry: the watched path joined
    with the entry's real relative name, byte for byte — whatever bytes the name consists of -/
theorem exact_name_native (h : CodecOK c) (w : WatchArg S) (rel : List B) :
    (nativePath c w rel).raw c = rel.foldl joinB (w.rootB c) := by
  cases w <;> simp [nativePath, decodePath, WatchArg.isBytes, EvPath.raw, h.round]

theorem exact_name_native_sub (h : CodecOK c) (w : WatchArg S) (dir below : List B) :
    (nativeSubPath c w dir below).raw c = (dir ++ below).foldl joinB (w.rootB c) := by
  rw [List.foldl_append]
  cases w <;> simp [nativeSubPath, nativePath, decodePath, WatchArg.isBytes, EvPath.raw, foldl_enc c h, h.round]

theorem exact_name_polling (h : CodecOK c) (w : WatchArg S) (rel : List B) :
    (pollingPath c w rel).raw c = rel.foldl joinB (w.rootB c) := by
  cases w <;> simp [pollingPath, WatchArg.stored, WatchArg.rootB, EvPath.raw, foldl_enc c h]

/-- the native and the polling observer agree: same type, same bytes -/
theorem backends_agree (h : CodecOK c) (w : WatchArg S) (rel : List B) :
    (nativePath c w rel).isBytes = (pollingPath c w rel).isBytes ∧ (nativePath c w rel).raw c = (pollingPath c w rel).raw c := by
  rw [type_preserved_native, type_preserved_polling, exact_name_native c h, exact_name_polling c h]
  exact ⟨rfl, rfl⟩

/-- non-vacuity: the identity codec on byte strings (a file-system encoding in which every byte string is a
    valid name, e.g. latin-1) satisfies the assumptions -/
example : CodecOK (⟨id, id, joinB⟩ : Codec B) := ⟨fun _ => rfl, fun _ _ => rfl⟩

end WD.C19
